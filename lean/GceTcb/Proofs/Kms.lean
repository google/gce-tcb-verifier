import GceTcb.Model.Kms
/-
Lemmas for C20 about the model of keys/gcpkms (Model/Kms.lean).  Core-only.
Wipeout: above the single Destroy call every operation has one theorem saying it is a `Run` (a relation between
accumulators) over the names it lists; for the loops that is total correctness on a legal pager (`Walk`) with enough
fuel, and what holds with arbitrary fuel follows by monotonicity in the fuel.
Bootstrap: `scanPage` composes over appended pages, so on a legal pager the listing loop is ONE scan over the
concatenated listing (`gepLoop_walk`); whatever the pager, a name that comes back was reported ENABLED by the
service (`ReportedEnabled`).
-/
namespace GceTcb.Kms

theorem checkResp_eq_sig (crc : Bytes → Nat) (r : SignResp) (s : Bytes) :
    checkResp crc r = .sig s ↔
      r.signature = s ∧ (crc r.signature : Int) = r.sigCrc ∧ r.verifiedData = true ∧ r.verifiedDigest = true := by
  unfold checkResp
  by_cases c1 : (crc r.signature : Int) = r.sigCrc
  · by_cases c2 : r.verifiedData = true
    · by_cases c3 : r.verifiedDigest = true
      · simp [c1, c2, c3]
      · simp [c1, c2, c3]
    · simp [c1, c2]
  · simp [c1]

theorem sign_wantOpts (crc : Bytes → Nat) (svc : SignReq → Option SignResp) (name : String) (digest : Bytes) :
    sign crc svc name digest (.pss (-1) 5) =
      ⟨some (mkSignReq crc name digest),
        match svc (mkSignReq crc name digest) with
        | none => .err "rpc"
        | some r => checkResp crc r⟩ := by
  rw [sign, if_pos (by decide)]
  cases svc (mkSignReq crc name digest) <;> rfl

theorem sign_otherOpts (crc : Bytes → Nat) (svc : SignReq → Option SignResp) (name : String) (digest : Bytes)
    {opts : SignerOpts} (ho : opts ≠ .pss (-1) 5) :
    (sign crc svc name digest opts).sent = none ∧ ∀ s, (sign crc svc name digest opts).out ≠ .sig s := by
  cases opts with
  | other => exact ⟨rfl, nofun⟩
  | nilPss => exact ⟨rfl, nofun⟩
  | pss sa ha =>
    have : ¬ optsOk (.pss sa ha) = true := by
      simpa [optsOk, Gen.Kms.wantSalt, Gen.Kms.wantHash] using ho
    rw [sign, if_neg this]
    exact ⟨rfl, nofun⟩

/-- A single flipped bit always changes the checksum: what `C20_sign_detects_single_bit` asks of an abstract `crc`;
    `crc32c` has it (Proofs/Crc32c.lean). -/
def CrcSingleBit (crc : Bytes → Nat) : Prop :=
  ∀ (bs : Bytes) (i : Nat), i < 8 * bs.length → crc (flipBit bs i) ≠ crc bs

theorem walk_single {α : Type} {p : Pager α} {tok : String} {pg : Page α} :
    Walk p tok [pg] ↔ (p tok = pg ∧ pg.next = "") := Iff.rfl

theorem walk_cons_cons {α : Type} {p : Pager α} {tok : String} {pg pg' : Page α} {rest : List (Page α)} :
    Walk p tok (pg :: pg' :: rest) ↔ (p tok = pg ∧ pg.next ≠ "" ∧ Walk p pg.next (pg' :: rest)) := Iff.rfl

theorem walk_cons {α : Type} {p : Pager α} {tok : String} {pg : Page α} {rest : List (Page α)} :
    Walk p tok (pg :: rest) ↔
      p tok = pg ∧ (pg.next = "" ∧ rest = [] ∨ pg.next ≠ "" ∧ Walk p pg.next rest) := by
  cases rest with
  | nil => simp [Walk]
  | cons pg' r => simp [Walk]

theorem walk_ne_nil {α : Type} {p : Pager α} {tok : String} {pages : List (Page α)}
    (h : Walk p tok pages) : pages ≠ [] := by
  rintro rfl; exact h

theorem flatItems_cons {α : Type} (pg : Page α) (rest : List (Page α)) :
    flatItems (pg :: rest) = pg.items ++ flatItems rest := rfl

theorem stop_fixed (len : Nat) (next : String) : (Style.stop .fixed len next = true) ↔ next = "" :=
  beq_iff_eq

def isListCall : Call → Bool
  | .listKeys _ => true
  | .listVers _ _ => true
  | _ => false

def nList (log : List Ev) : Nat := (log.filter fun e => isListCall e.call).length

theorem nList_cons (c : Call) (ok : Bool) (log : List Ev) :
    nList (⟨c, ok⟩ :: log) = nList log + if isListCall c = true then 1 else 0 := by
  unfold nList; rw [List.filter_cons]; split <;> rfl

theorem push_state (st : St) (c : Call) (ok : Bool) : (st.push c ok).state = st.state := rfl
theorem push_log (st : St) (c : Call) (ok : Bool) : (st.push c ok).log = ⟨c, ok⟩ :: st.log := rfl

def Gone (s : String → Nat) (v : String) : Prop := s v ≠ stEnabled ∧ s v ≠ stDisabled

theorem callDestroy_spec (svc : Svc) (st : St) (name : String) :
    ∃ st' ok, callDestroy svc st name = (st', ok) ∧ (∀ x, Gone st.state x → Gone st'.state x) ∧
      (ok = true → Gone st'.state name) ∧ nList st'.log = nList st.log := by
  have live : ∀ x, x = name ∨ Gone st.state x →
      Gone (fun y => if y = name then stDestroyScheduled else st.state y) x := by
    intro x hx
    unfold Gone
    by_cases hxn : x = name
    · simp only [if_pos hxn]; decide
    · simp only [if_neg hxn]; exact hx.resolve_left hxn
  unfold callDestroy
  by_cases hf : svc.fail st.idx = true
  · rw [if_pos hf]; exact ⟨_, _, rfl, fun _ h => h, nofun, nList_cons ..⟩
  rw [if_neg hf]
  by_cases hs : st.state name = stEnabled ∨ st.state name = stDisabled
  · rw [if_pos hs]
    exact ⟨_, _, rfl, fun x h => live x (.inr h), fun _ => live name (.inl rfl), nList_cons ..⟩
  · rw [if_neg hs]; exact ⟨_, _, rfl, fun _ h => h, nofun, nList_cons ..⟩

/-- `Run a r S n`: the code went from accumulator `a` to `r` making at most `n` list calls. What was gone stays gone, an
    error is never forgotten, and if `r` reports no error every name in `S` is gone. -/
structure Run (a r : Acc) (S : List String) (n : Nat) : Prop where
  clean : r.failed = false → a.failed = false
  stable : ∀ x, Gone a.st.state x → Gone r.st.state x
  gone : r.failed = false → ∀ x ∈ S, Gone r.st.state x
  calls : nList r.st.log ≤ nList a.st.log + n

/-- The counts add up second run first: a page followed by the rest then gives `rest.length + 1`, which is
    `(pg :: rest).length` by definition. -/
theorem Run.trans {a b c : Acc} {S T : List String} {m n : Nat} (h1 : Run a b S m) (h2 : Run b c T n) :
    Run a c (S ++ T) (n + m) where
  clean := h1.clean ∘ h2.clean
  stable x hx := h2.stable x (h1.stable x hx)
  gone hc x hx := (List.mem_append.mp hx).elim (fun hs => h2.stable x (h1.gone (h2.clean hc) x hs)) (h2.gone hc x)
  calls := by have := h1.calls; have := h2.calls; omega

theorem Run.refl (a : Acc) : Run a a [] 0 := ⟨id, fun _ h => h, fun _ _ => nofun, Nat.le_refl _⟩

theorem Run.le {a r : Acc} {S : List String} {m n : Nat} (h : Run a r S m) (hmn : m ≤ n) : Run a r S n :=
  { h with calls := Nat.le_trans h.calls (Nat.add_le_add_left hmn _) }

theorem Run.listed (a : Acc) {c : Call} (hc : isListCall c = true) : Run a ⟨a.st.push c true, a.failed⟩ [] 1 :=
  ⟨id, fun _ h => h, fun _ _ => nofun, by rw [push_log, nList_cons, if_pos hc]; exact Nat.le_refl _⟩

theorem Run.listFailed (a : Acc) {c : Call} (hc : isListCall c = true) (S : List String) {n : Nat} (hn : 1 ≤ n) :
    Run a ⟨a.st.push c false, true⟩ S n :=
  ⟨nofun, fun _ h => h, nofun, by rw [push_log, nList_cons, if_pos hc]; exact Nat.add_le_add_left hn _⟩

theorem destroyVersions_nil (svc : Svc) (a : Acc) : destroyVersions svc [] a = a := rfl

theorem destroyable_true {s : Nat} (h : destroyableState s ≠ some true) : s ≠ stEnabled ∧ s ≠ stDisabled := by
  constructor <;> rintro rfl <;> exact h (by decide)

/-- `hsnap`: versions the listing showed in a state that is not destroyable must be gone already (the listing may
    be stale for names that occur twice). -/
theorem destroyVersions_run (svc : Svc) (vs : List Ver) (a : Acc)
    (hsnap : ∀ v ∈ vs, (v.state ≠ stEnabled ∧ v.state ≠ stDisabled) → Gone a.st.state v.name) :
    Run a (destroyVersions svc vs a) (vs.map (·.name)) 0 := by
  induction vs generalizing a with
  | nil => exact .refl a
  | cons w ws ih =>
    have step : ∀ a', Run a a' [w.name] 0 → Run a (destroyVersions svc ws a') ((w :: ws).map (·.name)) 0 :=
      fun a' h => h.trans (ih a' fun v hv hs => h.stable _ (hsnap v (.tail _ hv) hs))
    obtain ⟨st', ok, hcd, stable, gone, calls⟩ := callDestroy_spec svc a.st w.name
    unfold destroyVersions
    split
    · exact step _ ⟨nofun, fun _ h => h, nofun, Nat.le_refl _⟩
    · next hd =>
      refine step a ⟨id, fun _ h => h, fun _ x hx => ?_, Nat.le_refl _⟩
      rw [List.mem_singleton.mp hx]
      exact hsnap w (.head _) (destroyable_true (by rw [hd]; nofun))
    · rw [hcd]
      refine step _ ⟨fun h => (Bool.or_eq_false_iff.mp h).1, stable, fun h x hx => ?_, Nat.le_of_eq calls⟩
      rw [List.mem_singleton.mp hx]
      exact gone (by simpa using (Bool.or_eq_false_iff.mp h).2)

theorem snapshot_names (st : St) (names : List String) : (snapshot st names).map (·.name) = names := by
  rw [snapshot, List.map_map]; exact List.map_id _

theorem wipeoutKeyPage_run (svc : Svc) (key tok : String) (a : Acc) :
    Run a (wipeoutKeyPage svc key tok a) (svc.vers key tok).items 1 := by
  have h := destroyVersions_run svc (snapshot a.st (svc.vers key tok).items)
    ⟨a.st.push (.listVers key tok) true, a.failed⟩ (by
      intro v hv hs
      obtain ⟨m, _, rfl⟩ := List.mem_map.mp hv
      exact hs)
  rw [snapshot_names] at h
  exact (Run.listed a rfl).trans h

theorem wipeoutKeyLoop_total (svc : Svc) (key : String) (pages : List (Page String)) (fuel : Nat) (tok : String)
    (a : Acc) (hw : Walk (svc.vers key) tok pages) (hlen : pages.length ≤ fuel) :
    ∃ r, wipeoutKeyLoop .fixed svc key fuel tok a = some r ∧ Run a r (flatItems pages) pages.length := by
  induction pages generalizing fuel tok a with
  | nil => exact hw.elim
  | cons pg rest ih =>
    obtain ⟨rfl, hn⟩ := walk_cons.mp hw
    cases fuel with
    | zero => cases hlen
    | succ f =>
      rw [wipeoutKeyLoop]
      by_cases hf : svc.fail a.st.idx = true
      · rw [if_pos hf]; exact ⟨_, rfl, .listFailed a rfl _ (Nat.le_add_left ..)⟩
      rw [if_neg hf]
      have hp := wipeoutKeyPage_run svc key tok a
      rcases hn with ⟨hn, rfl⟩ | ⟨hn, hw'⟩
      · rw [if_pos ((stop_fixed ..).mpr hn)]
        exact ⟨_, rfl, hp.trans (.refl _)⟩
      · rw [if_neg (mt (stop_fixed ..).mp hn)]
        obtain ⟨r, hr, hrun⟩ := ih f _ _ hw' (Nat.le_of_succ_le_succ hlen)
        exact ⟨r, hr, hp.trans hrun⟩

theorem wipeoutKeyLoop_fuel_mono (sty : Style) (svc : Svc) (key : String) {fuel fuel' : Nat} (hle : fuel ≤ fuel')
    {tok : String} {a r : Acc} (h : wipeoutKeyLoop sty svc key fuel tok a = some r) :
    wipeoutKeyLoop sty svc key fuel' tok a = some r := by
  induction fuel generalizing fuel' tok a with
  | zero => cases h
  | succ f ih =>
    cases fuel' with
    | zero => cases hle
    | succ g =>
      rw [wipeoutKeyLoop] at h ⊢
      by_cases hf : svc.fail a.st.idx = true
      · rw [if_pos hf] at h ⊢; exact h
      rw [if_neg hf] at h ⊢
      by_cases hs : sty.stop (svc.vers key tok).items.length (svc.vers key tok).next = true
      · rw [if_pos hs] at h ⊢; exact h
      · rw [if_neg hs] at h ⊢; exact ih (Nat.le_of_succ_le_succ hle) h

def pagesOf (vp : String → List (Page String)) : List String → Nat
  | [] => 0
  | k :: ks => (vp k).length + pagesOf vp ks

theorem le_pagesOf (vp : String → List (Page String)) {k : String} {ks : List String} (h : k ∈ ks) :
    (vp k).length ≤ pagesOf vp ks := by
  induction h with
  | head => exact Nat.le_add_right ..
  | tail _ _ ih => exact Nat.le_trans ih (Nat.le_add_left ..)

theorem pagesOf_append (vp : String → List (Page String)) (xs ys : List String) :
    pagesOf vp (xs ++ ys) = pagesOf vp xs + pagesOf vp ys := by
  induction xs with
  | nil => exact (Nat.zero_add _).symm
  | cons x xs ih => simp only [List.cons_append, pagesOf, ih, Nat.add_assoc]

theorem wipeoutKeys_total (svc : Svc) (fuel : Nat) (vp : String → List (Page String)) (ks : List String) (a : Acc)
    (hv : ∀ k ∈ ks, Walk (svc.vers k) "" (vp k) ∧ (vp k).length ≤ fuel) :
    ∃ r, wipeoutKeys .fixed svc fuel ks a = some r ∧
      Run a r (ks.flatMap fun k => flatItems (vp k)) (pagesOf vp ks) := by
  induction ks generalizing a with
  | nil => exact ⟨a, rfl, .refl a⟩
  | cons k ks ih =>
    obtain ⟨r1, hr1, h1⟩ := wipeoutKeyLoop_total svc k (vp k) fuel "" ⟨a.st, false⟩ (hv k (.head _)).1 (hv k (.head _)).2
    obtain ⟨r, hr, h2⟩ := ih ⟨r1.st, a.failed || r1.failed⟩ fun u hu => hv u (.tail _ hu)
    refine ⟨r, by rw [wipeoutKeys, hr1]; exact hr, ?_⟩
    -- the per-key error is or-ed into the accumulated one
    have h1' : Run a ⟨r1.st, a.failed || r1.failed⟩ (flatItems (vp k)) (vp k).length :=
      ⟨fun h => (Bool.or_eq_false_iff.mp h).1, h1.stable, fun h => h1.gone (Bool.or_eq_false_iff.mp h).2, h1.calls⟩
    exact (h1'.trans h2).le (Nat.le_of_eq (Nat.add_comm ..))

theorem wipeoutKeys_fuel_mono (sty : Style) (svc : Svc) {fuel fuel' : Nat} (hle : fuel ≤ fuel') (ks : List String)
    {a r : Acc} (h : wipeoutKeys sty svc fuel ks a = some r) : wipeoutKeys sty svc fuel' ks a = some r := by
  induction ks generalizing a with
  | nil => exact h
  | cons x xs ih =>
    rw [wipeoutKeys] at h ⊢
    cases hk : wipeoutKeyLoop sty svc x fuel "" ⟨a.st, false⟩ with
    | none => rw [hk] at h; cases h
    | some r1 =>
      rw [hk] at h
      rw [wipeoutKeyLoop_fuel_mono sty svc x hle hk]
      exact ih h

theorem wipeoutLoop_total (svc : Svc) (fuelK : Nat) (vp : String → List (Page String))
    (kpages : List (Page String)) (fuel : Nat) (tok : String) (a : Acc) (hw : Walk svc.keys tok kpages)
    (hlen : kpages.length ≤ fuel)
    (hv : ∀ k ∈ flatItems kpages, Walk (svc.vers k) "" (vp k) ∧ (vp k).length ≤ fuelK) :
    ∃ r, wipeoutLoop .fixed svc fuelK fuel tok a = some r ∧
      Run a r ((flatItems kpages).flatMap fun k => flatItems (vp k))
        (kpages.length + pagesOf vp (flatItems kpages)) := by
  induction kpages generalizing fuel tok a with
  | nil => exact hw.elim
  | cons pg rest ih =>
    obtain ⟨rfl, hn⟩ := walk_cons.mp hw
    cases fuel with
    | zero => cases hlen
    | succ f =>
      rw [wipeoutLoop]
      by_cases hf : svc.fail a.st.idx = true
      · rw [if_pos hf]
        exact ⟨_, rfl, .listFailed a rfl _ (Nat.le_trans (Nat.le_add_left ..) (Nat.le_add_right ..))⟩
      rw [if_neg hf]
      obtain ⟨a', ha', hk⟩ := wipeoutKeys_total svc fuelK vp (svc.keys tok).items
        ⟨a.st.push (.listKeys tok) true, a.failed⟩ fun k hk => hv k (List.mem_append_left _ hk)
      have hp := (Run.listed a (c := .listKeys tok) rfl).trans hk
      rw [ha', flatItems_cons, List.flatMap_append, pagesOf_append]
      dsimp only
      rcases hn with ⟨hn, rfl⟩ | ⟨hn, hw'⟩
      · rw [if_pos ((stop_fixed ..).mpr hn)]
        exact ⟨a', rfl, (hp.trans (.refl a')).le (by rw [List.length_cons]; omega)⟩
      · rw [if_neg (mt (stop_fixed ..).mp hn)]
        obtain ⟨r, hr, h2⟩ := ih f _ a' hw' (Nat.le_of_succ_le_succ hlen) fun k hk => hv k (List.mem_append_right _ hk)
        exact ⟨r, hr, (hp.trans h2).le (by rw [List.length_cons]; omega)⟩

theorem wipeoutLoop_fuel_mono (sty : Style) (svc : Svc) {fuelK fuelK' fuel fuel' : Nat} (hK : fuelK ≤ fuelK')
    (hle : fuel ≤ fuel') {tok : String} {a r : Acc} (h : wipeoutLoop sty svc fuelK fuel tok a = some r) :
    wipeoutLoop sty svc fuelK' fuel' tok a = some r := by
  induction fuel generalizing fuel' tok a with
  | zero => cases h
  | succ f ih =>
    cases fuel' with
    | zero => cases hle
    | succ g =>
      rw [wipeoutLoop] at h ⊢
      by_cases hf : svc.fail a.st.idx = true
      · rw [if_pos hf] at h ⊢; exact h
      rw [if_neg hf] at h ⊢
      cases hk : wipeoutKeys sty svc fuelK (svc.keys tok).items ⟨a.st.push (.listKeys tok) true, a.failed⟩ with
      | none => rw [hk] at h; cases h
      | some a' =>
        rw [hk] at h
        rw [wipeoutKeys_fuel_mono sty svc hK _ hk]
        dsimp only at h ⊢
        by_cases hs : sty.stop (svc.keys tok).items.length (svc.keys tok).next = true
        · rw [if_pos hs] at h ⊢; exact h
        · rw [if_neg hs] at h ⊢; exact ih (Nat.le_of_succ_le_succ hle) h

/-- Old exit rule, every page of the listing full (so in particular the last one), no faults: from any
    point of the walk the loop never ends — after the last page it starts again at the first. -/
theorem oldKeyLoop_none (svc : Svc) (key : String) (ps : Nat) (pages : List (Page String))
    (hfail : ∀ i, svc.fail i = false) (hw : Walk (svc.vers key) "" pages)
    (hfull : ∀ pg ∈ pages, ps ≤ pg.items.length) :
    ∀ (n : Nat) (tok : String) (a : Acc),
      (∃ pre suf, pages = pre ++ suf ∧ Walk (svc.vers key) tok suf) →
      wipeoutKeyLoop (.old ps) svc key n tok a = none := by
  intro n
  induction n with
  | zero => intros; rfl
  | succ m ih =>
    rintro tok a ⟨pre, suf, rfl, hws⟩
    cases suf with
    | nil => exact hws.elim
    | cons pg rest =>
      obtain ⟨rfl, hn⟩ := walk_cons.mp hws
      have hs : ¬ Style.stop (.old ps) (svc.vers key tok).items.length (svc.vers key tok).next = true :=
        fun h => Nat.not_le.mpr (of_decide_eq_true h) (hfull _ (List.mem_append_right _ (.head _)))
      rw [wipeoutKeyLoop, if_neg (by rw [hfail]; nofun), if_neg hs]
      apply ih
      rcases hn with ⟨hn, _⟩ | ⟨_, hwr⟩
      · rw [hn]; exact ⟨[], _, rfl, hw⟩
      · exact ⟨pre ++ [svc.vers key tok], rest, (List.append_assoc pre [_] rest).symm, hwr⟩

def isEn (v : Ver) : Bool := decide (v.state = stEnabled)

def lastPending : List Ver → Option Ver → Option Ver
  | [], pend => pend
  | v :: vs, pend => if v.state = stPending then lastPending vs (some v) else lastPending vs pend

theorem scanPage_eq (vs : List Ver) (pend : Option Ver) :
    scanPage vs pend =
      match vs.find? isEn with
      | some v => .ret v
      | none => .cont (lastPending vs pend) := by
  induction vs generalizing pend with
  | nil => rfl
  | cons v vs ih =>
    rw [scanPage, List.find?_cons, lastPending, isEn]
    by_cases he : v.state = stEnabled
    · rw [if_pos he, decide_eq_true he]
    · rw [if_neg he, decide_eq_false he]
      by_cases hp : v.state = stPending
      · rw [if_pos hp, if_pos hp]; exact ih _
      · rw [if_neg hp, if_neg hp]; exact ih _

theorem scanPage_append (xs ys : List Ver) (pend : Option Ver) :
    scanPage (xs ++ ys) pend =
      match scanPage xs pend with
      | .ret v => .ret v
      | .cont p => scanPage ys p := by
  induction xs generalizing pend with
  | nil => rfl
  | cons v vs ih =>
    rw [List.cons_append, scanPage, scanPage]
    by_cases he : v.state = stEnabled
    · rw [if_pos he, if_pos he]
    · rw [if_neg he, if_neg he]
      by_cases hp : v.state = stPending
      · rw [if_pos hp, if_pos hp]; exact ih _
      · rw [if_neg hp, if_neg hp]; exact ih _

theorem lastPending_some (vs : List Ver) (pend : Option Ver) (q : Ver) (h : lastPending vs pend = some q) :
    (q ∈ vs ∧ q.state = stPending) ∨ pend = some q := by
  induction vs generalizing pend with
  | nil => exact .inr h
  | cons w ws ih =>
    rw [lastPending] at h
    by_cases hw : w.state = stPending
    · rw [if_pos hw] at h
      rcases ih _ h with ⟨hm, hs⟩ | hq
      · exact .inl ⟨.tail _ hm, hs⟩
      · cases hq; exact .inl ⟨.head _, hw⟩
    · rw [if_neg hw] at h
      exact (ih _ h).imp_left fun ⟨hm, hs⟩ => ⟨.tail _ hm, hs⟩

theorem lastPending_eq_none (vs : List Ver) (pend : Option Ver) (h : lastPending vs pend = none) :
    pend = none ∧ ∀ v ∈ vs, v.state ≠ stPending := by
  induction vs generalizing pend with
  | nil => exact ⟨h, nofun⟩
  | cons w ws ih =>
    rw [lastPending] at h
    by_cases hw : w.state = stPending
    · rw [if_pos hw] at h; cases (ih _ h).1
    · rw [if_neg hw] at h
      exact ⟨(ih _ h).1, List.forall_mem_cons.mpr ⟨hw, (ih _ h).2⟩⟩

theorem scanPage_cases (vs : List Ver) (pend : Option Ver) :
    (∃ v, scanPage vs pend = .ret v ∧ v ∈ vs ∧ v.state = stEnabled) ∨
    (∃ p, scanPage vs pend = .cont p ∧ ∀ q, p = some q → (q ∈ vs ∧ q.state = stPending) ∨ pend = some q) := by
  rw [scanPage_eq]
  cases h : vs.find? isEn with
  | some v =>
    have he : isEn v = true := List.find?_some h
    exact .inl ⟨v, rfl, List.mem_of_find?_eq_some h, of_decide_eq_true he⟩
  | none => exact .inr ⟨_, rfl, lastPending_some vs pend⟩

theorem snapshot_append (st : St) (xs ys : List String) :
    snapshot st (xs ++ ys) = snapshot st xs ++ snapshot st ys := List.map_append

theorem gepLoop_state (sty : Style) (svc : Svc) (key : String) (fuel : Nat) (tok : String) (pend : Option Ver)
    (st : St) : (gepLoop sty svc key fuel tok pend st).1.state = st.state := by
  induction fuel generalizing tok pend st with
  | zero => rfl
  | succ f ih =>
    rw [gepLoop]
    by_cases hf : svc.fail st.idx = true
    · rw [if_pos hf]; rfl
    rw [if_neg hf]
    by_cases ht : (svc.vers key tok).total = 0
    · rw [if_pos ht]; rfl
    rw [if_neg ht]
    cases scanPage (snapshot st (svc.vers key tok).items) pend with
    | ret v => rfl
    | cont p =>
      dsimp only
      by_cases hs : sty.stop (svc.vers key tok).items.length (svc.vers key tok).next = true
      · rw [if_pos hs]; rfl
      · rw [if_neg hs, ih]; rfl

/-- `htot`: the totals are honest (non-zero). -/
theorem gepLoop_walk (svc : Svc) (key : String) (hfail : ∀ i, svc.fail i = false) (pages : List (Page String))
    (fuel : Nat) (tok : String) (pend : Option Ver) (st : St) (hw : Walk (svc.vers key) tok pages)
    (hlen : pages.length ≤ fuel) (htot : ∀ pg ∈ pages, pg.total ≠ 0) :
    (gepLoop .fixed svc key fuel tok pend st).2 =
      match scanPage (snapshot st (flatItems pages)) pend with
      | .ret v => .found v
      | .cont p => gepEnd p := by
  induction pages generalizing fuel tok pend st with
  | nil => exact hw.elim
  | cons pg rest ih =>
    obtain ⟨rfl, hn⟩ := walk_cons.mp hw
    cases fuel with
    | zero => cases hlen
    | succ f =>
      rw [gepLoop, if_neg (by rw [hfail]; nofun), if_neg (htot _ (.head _)), flatItems_cons, snapshot_append,
        scanPage_append]
      cases scanPage (snapshot st (svc.vers key tok).items) pend with
      | ret v => rfl
      | cont p =>
        dsimp only
        rcases hn with ⟨hn, rfl⟩ | ⟨hn, hw'⟩
        · rw [if_pos ((stop_fixed ..).mpr hn)]; rfl
        · rw [if_neg (mt (stop_fixed ..).mp hn)]
          exact ih f _ p _ hw' (Nat.le_of_succ_le_succ hlen) fun q hq => htot q (.tail _ hq)

theorem gepLoop_terminates (svc : Svc) (key : String) (pages : List (Page String)) (fuel : Nat) (tok : String)
    (pend : Option Ver) (st : St) (hw : Walk (svc.vers key) tok pages) (hlen : pages.length ≤ fuel) :
    (gepLoop .fixed svc key fuel tok pend st).2 ≠ .diverged ∧
    (gepLoop .fixed svc key fuel tok pend st).1.log.length ≤ st.log.length + pages.length := by
  induction pages generalizing fuel tok pend st with
  | nil => exact hw.elim
  | cons pg rest ih =>
    obtain ⟨rfl, hn⟩ := walk_cons.mp hw
    cases fuel with
    | zero => cases hlen
    | succ f =>
      -- every exit of this iteration has made exactly one call
      have one : ∀ (b : Bool) (g : Gep), g ≠ .diverged →
          (st.push (.listVers key tok) b, g).2 ≠ .diverged ∧
          (st.push (.listVers key tok) b, g).1.log.length ≤ st.log.length + (svc.vers key tok :: rest).length :=
        fun _ _ hg => ⟨hg, Nat.succ_le_succ (Nat.le_add_right ..)⟩
      rw [gepLoop]
      by_cases hf : svc.fail st.idx = true
      · rw [if_pos hf]; exact one _ _ nofun
      rw [if_neg hf]
      by_cases ht : (svc.vers key tok).total = 0
      · rw [if_pos ht]; exact one _ _ nofun
      rw [if_neg ht]
      cases scanPage (snapshot st (svc.vers key tok).items) pend with
      | ret v => exact one _ _ nofun
      | cont p =>
        dsimp only
        rcases hn with ⟨hn, rfl⟩ | ⟨hn, hw'⟩
        · rw [if_pos ((stop_fixed ..).mpr hn)]
          exact one _ _ (by cases p <;> nofun)
        · rw [if_neg (mt (stop_fixed ..).mp hn)]
          have := ih f _ p (st.push (.listVers key tok) true) hw' (Nat.le_of_succ_le_succ hlen)
          exact ⟨this.1, Nat.le_trans this.2 (Nat.le_of_eq (Nat.succ_add ..))⟩

theorem gepLoop_found (sty : Style) (svc : Svc) (key : String) (fuel : Nat) (tok : String) (pend : Option Ver)
    (st : St) (v : Ver) (h : (gepLoop sty svc key fuel tok pend st).2 = .found v)
    (hp : ∀ q, pend = some q → q.state = stPending) :
    (v.state = stEnabled ∧ ∃ tok', v ∈ snapshot st (svc.vers key tok').items) ∨ v.state = stPending := by
  induction fuel generalizing tok pend st with
  | zero => cases h
  | succ f ih =>
    rw [gepLoop] at h
    by_cases hf : svc.fail st.idx = true
    · rw [if_pos hf] at h; cases h
    rw [if_neg hf] at h
    by_cases ht : (svc.vers key tok).total = 0
    · rw [if_pos ht] at h; cases h
    rw [if_neg ht] at h
    rcases scanPage_cases (snapshot st (svc.vers key tok).items) pend with ⟨w, hsc, hm, he⟩ | ⟨p, hsc, hp'⟩
    · rw [hsc] at h; cases h
      exact .inl ⟨he, tok, hm⟩
    · rw [hsc] at h
      have hpend : ∀ q, p = some q → q.state = stPending := fun q hq => (hp' q hq).elim (·.2) (hp q)
      dsimp only at h
      by_cases hs : sty.stop (svc.vers key tok).items.length (svc.vers key tok).next = true
      · rw [if_pos hs] at h
        cases p with
        | none => cases h
        | some q => cases h; exact .inr (hpend _ rfl)
      · rw [if_neg hs] at h
        exact ih _ _ (st.push _ _) h hpend

theorem pollOnce_cases (svc : Svc) (name : String) (i : Nat) (st : St) :
    ∃ b step, pollOnce svc name i st = (st.push (.get name) b, step) ∧
      ((∃ c, step = .done (.err c)) ∨
       ∃ v, svc.gets i name = some v ∧
        (v.state = stEnabled ∧ step = .done (.ok v.name) ∨ v.state = stPending ∧ step = .again)) := by
  unfold pollOnce
  by_cases hf : svc.fail st.idx = true
  · rw [if_pos hf]; exact ⟨_, _, rfl, .inl ⟨_, rfl⟩⟩
  rw [if_neg hf]
  cases svc.gets i name with
  | none => exact ⟨_, _, rfl, .inl ⟨_, rfl⟩⟩
  | some v =>
    dsimp only
    by_cases he : v.state = stEnabled
    · rw [if_pos he]; exact ⟨_, _, rfl, .inr ⟨v, rfl, .inl ⟨he, rfl⟩⟩⟩
    rw [if_neg he]
    by_cases hp : v.state = stPending
    · rw [if_pos hp]; exact ⟨_, _, rfl, .inr ⟨v, rfl, .inr ⟨hp, rfl⟩⟩⟩
    · rw [if_neg hp]; exact ⟨_, _, rfl, .inl ⟨_, rfl⟩⟩

theorem poll_step (svc : Svc) (name : String) (fuel i : Nat) (st : St) :
    poll svc name fuel i st =
      match pollOnce svc name i st with
      | (st', .done r) => (st', r)
      | (st', .again) =>
        match fuel with
        | 0 => (st', .err "timeout")
        | f + 1 => poll svc name f (i + 1) st' := by
  cases fuel <;> rfl

theorem poll_ok (svc : Svc) (name : String) (fuel i : Nat) (st st' : St) (n : String)
    (h : poll svc name fuel i st = (st', .ok n)) :
    ∃ j v, i ≤ j ∧ j ≤ i + fuel ∧ svc.gets j name = some v ∧ v.state = stEnabled ∧ v.name = n ∧
      ∀ j', i ≤ j' → j' < j → ∃ v', svc.gets j' name = some v' ∧ v'.state = stPending := by
  induction fuel using Nat.strongRecOn generalizing i st with
  | ind fuel ih =>
    rw [poll_step] at h
    obtain ⟨b, step, hp, hc⟩ := pollOnce_cases svc name i st
    rw [hp] at h
    rcases hc with ⟨c, rfl⟩ | ⟨v, hg, ⟨he, rfl⟩ | ⟨hpd, rfl⟩⟩
    · cases h
    · cases h
      exact ⟨i, v, Nat.le_refl _, Nat.le_add_right .., hg, he, rfl, fun j' h1 h2 => absurd h1 (Nat.not_le.mpr h2)⟩
    · cases fuel with
      | zero => cases h
      | succ f =>
        obtain ⟨j, w, h1, h2, hgw, hew, hn, hall⟩ := ih f (Nat.lt_succ_self _) _ _ h
        refine ⟨j, w, Nat.le_of_succ_le h1, Nat.add_right_comm i 1 f ▸ h2, hgw, hew, hn, fun j' hj1 hj2 => ?_⟩
        rcases Nat.eq_or_lt_of_le hj1 with rfl | hlt
        · exact ⟨v, hg, hpd⟩
        · exact hall j' hlt hj2

/-- `n` names a version the service reported ENABLED: in some page of the key's listing, as the answer to
    CreateCryptoKeyVersion, or as the answer to some GetCryptoKeyVersion. -/
def ReportedEnabled (svc : Svc) (key : String) (s : String → Nat) (n : String) : Prop :=
  (∃ tok, (⟨n, stEnabled⟩ : Ver) ∈ ((svc.vers key tok).items.map fun m => (⟨m, s m⟩ : Ver))) ∨
  svc.createVer = ⟨n, stEnabled⟩ ∨
  (∃ j nm w, svc.gets j nm = some w ∧ w.state = stEnabled ∧ w.name = n)

theorem awaitVersion_ok (svc : Svc) (fuelP : Nat) (v : Ver) (st st' : St) (n : String)
    (h : awaitVersion svc fuelP v st = (st', .ok n)) :
    v = ⟨n, stEnabled⟩ ∨ ∃ j nm w, svc.gets j nm = some w ∧ w.state = stEnabled ∧ w.name = n := by
  unfold awaitVersion at h
  by_cases he : v.state = stEnabled
  · rw [if_pos he] at h; cases h; exact .inl (by rw [← he])
  · rw [if_neg he] at h
    obtain ⟨j, w, _, _, hg, hen, hn, _⟩ := poll_ok _ _ _ _ _ _ _ h
    exact .inr ⟨j, _, w, hg, hen, hn⟩

theorem waitForKeyGen_eq (sty : Style) (svc : Svc) (key : String) (fuelL fuelP : Nat) (st : St) :
    waitForKeyGen sty svc key fuelL fuelP st =
      match (gepLoop sty svc key fuelL "" none st).2 with
      | .found v => awaitVersion svc fuelP v (gepLoop sty svc key fuelL "" none st).1
      | .errNoVersions =>
        match createVersion svc key (gepLoop sty svc key fuelL "" none st).1 with
        | (st2, none) => (st2, .err "createver")
        | (st2, some v) => awaitVersion svc fuelP v st2
      | .diverged => ((gepLoop sty svc key fuelL "" none st).1, .diverged)
      | .errList => ((gepLoop sty svc key fuelL "" none st).1, .err "list")
      | .errMissing => ((gepLoop sty svc key fuelL "" none st).1, .err "missing-initial") := by
  unfold waitForKeyGen
  rcases gepLoop sty svc key fuelL "" none st with ⟨st1, g⟩
  cases g <;> rfl

theorem waitForKeyGen_ok (sty : Style) (svc : Svc) (key : String) (fuelL fuelP : Nat) (st st' : St) (n : String)
    (h : waitForKeyGen sty svc key fuelL fuelP st = (st', .ok n)) : ReportedEnabled svc key st.state n := by
  rw [waitForKeyGen_eq] at h
  split at h
  · next v hg =>
    rcases awaitVersion_ok _ _ _ _ _ _ h with rfl | hpoll
    · rcases gepLoop_found _ _ _ _ _ _ _ _ hg nofun with ⟨_, tok', hm⟩ | hp
      · exact .inl ⟨tok', hm⟩
      · cases hp
    · exact .inr (.inr hpoll)
  · unfold createVersion at h
    by_cases hf : svc.fail (gepLoop sty svc key fuelL "" none st).1.idx = true
    · rw [if_pos hf] at h; cases h
    · rw [if_neg hf] at h
      exact (awaitVersion_ok _ _ _ _ _ _ h).elim (fun hc => .inr (.inl hc)) fun hpoll => .inr (.inr hpoll)
  · cases h
  · cases h
  · cases h

theorem createVersion_state (svc : Svc) (key : String) (st : St) :
    (createVersion svc key st).1.state = st.state := by
  unfold createVersion
  by_cases hf : svc.fail st.idx = true
  · rw [if_pos hf]; rfl
  · rw [if_neg hf]; rfl

theorem callCreate_state (svc : Svc) (e : Bool) (c : Call) (st : St) :
    (callCreate svc e c st).1.state = st.state := by
  unfold callCreate
  by_cases hf : svc.fail st.idx = true
  · rw [if_pos hf]; rfl
  rw [if_neg hf]
  by_cases he : e = true
  · rw [if_pos he]; rfl
  · rw [if_neg he]; rfl

theorem recreateCryptoKey_ok (sty : Style) (svc : Svc) (keep : Bool) (id key : String) (hsm : Bool)
    (fuelL fuelP : Nat) (st st' : St) (n : String)
    (h : recreateCryptoKey sty svc keep id key hsm fuelL fuelP st = (st', .ok n)) :
    ReportedEnabled svc key st.state n := by
  rw [← callCreate_state svc svc.keyExists (.createKey id hsm) st]
  unfold recreateCryptoKey at h
  generalize callCreate svc svc.keyExists (.createKey id hsm) st = p at h ⊢
  obtain ⟨st1, o⟩ := p
  cases o with
  | fail => cases h
  | ok => exact waitForKeyGen_ok _ _ _ _ _ _ _ _ h
  | alreadyExists =>
    dsimp only at h
    by_cases hk : keep = true
    · rw [if_pos hk] at h; exact waitForKeyGen_ok _ _ _ _ _ _ _ _ h
    · rw [if_neg hk] at h; cases h

end GceTcb.Kms
