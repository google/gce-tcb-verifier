import GceTcb.Model.PathAccess
import GceTcb.Proofs.PathScan
import GceTcb.Proofs.Outcome
/-
Helper lemmas for C19: the typing judgement of parsed paths (`PathOK`), and the parser against it. Every
function of the parser gets one lemma `Outcome.Total P (f ..)`: it does not panic, and what it returns satisfies `P`;
for the repaired parser `P` is the invariant `PInv`. Soundness of `parsePath` and the absence of panics
in both parsers are the two readings of `parsePathV_sat`.
-/
namespace GceTcb.Path
open GceTcb

def Linked (sch : Schema) (md : MsgDesc) : Prop := lookupMsg sch md.name = some md

def DescLinked (sch : Schema) : Desc → Prop
  | .msg md => Linked sch md
  | _ => True

theorem lookupMsg_some {sch : Schema} {n : Str} {md : MsgDesc} (h : lookupMsg sch n = some md) :
    md.name = n ∧ md ∈ sch := by
  unfold lookupMsg at h
  have h1 := List.find?_some h
  exact ⟨beq_iff_eq.mp h1, List.mem_of_find?_eq_some h⟩

theorem lookupMsg_linked {sch : Schema} {n : Str} {md : MsgDesc} (h : lookupMsg sch n = some md) :
    Linked sch md := by
  unfold Linked
  rw [(lookupMsg_some h).1]; exact h

theorem find_of_nodup {α : Type} (f : α → Nat) : ∀ (l : List α) (x : α), (l.map f).Nodup → x ∈ l →
    l.find? (fun y => f y == f x) = some x
  | a :: l, x, hn, hx => by
    obtain ⟨ha, hn⟩ := List.nodup_cons.mp hn
    rw [List.find?_cons]
    rcases List.mem_cons.mp hx with rfl | hx
    · rw [beq_self_eq_true]
    · rw [beq_false_of_ne fun (he : f a = f x) => ha (he ▸ List.mem_map_of_mem hx)]
      exact find_of_nodup f l x hn hx

theorem wf_field {sch : Schema} (hwf : sch.wf = true) {md : MsgDesc} (hl : Linked sch md) {fd : Field}
    (hfd : fd ∈ md.fields) :
    md.byNumber fd.number = some fd ∧ fd.parent = md.name ∧ ∀ kk, fd.card = .map kk → ∃ kc, kk.cls = some kc := by
  have hm := List.all_eq_true.mp hwf md (lookupMsg_some hl).2
  simp only [MsgDesc.wf, Bool.and_eq_true, decide_eq_true_eq, List.all_eq_true, beq_iff_eq] at hm
  refine ⟨find_of_nodup Field.number md.fields fd hm.1.1 hfd, hm.1.2 fd hfd, fun kk hc => ?_⟩
  have := hm.2 fd hfd
  rw [hc] at this
  exact Option.isSome_iff_exists.mp this

theorem isMessage_iff {k : Kind} : k.isMessage = true ↔ k.cls = none := by
  cases k <;> decide

theorem resolveRef_sat (sch : Schema) (k : Kind) (r : Str) :
    Outcome.Total (fun d => (k.isMessage = true ∧ ∃ md, d = .msg md ∧ lookupMsg sch r = some md) ∨ (k.isMessage = false ∧ d = .nil))
      (resolveRef sch k r) := by
  unfold resolveRef
  split
  · next hk =>
    split
    · next md hm => exact .inl ⟨hk, md, rfl, hm⟩
    · trivial
  · next hk => exact .inr ⟨Bool.eq_false_iff.mpr hk, rfl⟩

theorem resolveRef_linked (sch : Schema) (k : Kind) (r : Str) : Outcome.Total (DescLinked sch) (resolveRef sch k r) := by
  refine (resolveRef_sat sch k r).mono fun d h => ?_
  rcases h with ⟨_, md, rfl, hl⟩ | ⟨_, rfl⟩
  · exact lookupMsg_linked hl
  · trivial

theorem card_single_of {f : Field} (h1 : f.isMap = false) (h2 : f.isList = false) : f.card = .single := by
  cases hc : f.card with
  | single => rfl
  | list => simp [Field.isList, hc] at h2
  | map kk => simp [Field.isMap, hc] at h1

theorem isMap_of_card {f : Field} {kk : Kind} (h : f.card = .map kk) : f.isMap = true := by
  simp [Field.isMap, h]

theorem isList_of_card {f : Field} (h : f.card = .list) : f.isList = true ∧ f.isMap = false := by
  simp [Field.isMap, Field.isList, h]

theorem single_flags {f : Field} (h : f.card = .single) : f.isList = false ∧ f.isMap = false := by
  simp [Field.isMap, Field.isList, h]

theorem message_eq (sch : Schema) {f : Field} (h : f.isMap = false) : f.message sch = resolveRef sch f.kind f.ref :=
  if_neg (ne_true_of_eq_false h)

theorem mapValueMessage_eq (sch : Schema) {f : Field} (h : f.isMap = true) :
    f.mapValueMessage sch = resolveRef sch f.kind f.ref :=
  if_pos h

theorem message_sat (sch : Schema) (f : Field) : Outcome.Total (fun d => f.isMap = false → DescLinked sch d) (f.message sch) := by
  cases h : f.isMap with
  | false => rw [message_eq sch h]; exact (resolveRef_linked sch _ _).mono fun _ hl _ => hl
  | true => rw [Field.message, if_pos h]; exact nofun

/-- the message descriptor a field access is resolved against, from the current descriptor -/
inductive Target (sch : Schema) : Desc → MsgDesc → Prop
  | msg (md : MsgDesc) : Linked sch md → Target sch (.msg md) md
  | field (f : Field) (md : MsgDesc) : f.card = .single → f.message sch = .ok (.msg md) → Target sch (.field f) md

inductive StepOK (sch : Schema) : Desc → Step → Desc → Prop
  | field (d : Desc) (md : MsgDesc) (fd : Field) : Target sch d md → fd ∈ md.fields →
      StepOK sch d (.field fd) (.field fd)
  | list (fd : Field) (i : Int) (d' : Desc) : fd.card = .list → 0 ≤ i → fd.message sch = .ok d' →
      StepOK sch (.field fd) (.listIndex i) d'
  | map (fd : Field) (kk : Kind) (k : Scalar) (d' : Desc) : fd.card = .map kk → kk.cls = some k.cls →
      fd.mapValueMessage sch = .ok d' → StepOK sch (.field fd) (.mapIndex k) d'

inductive PathOK (sch : Schema) : Desc → List Step → Desc → Prop
  | nil (d : Desc) : PathOK sch d [] d
  | cons (d d1 d2 : Desc) (s : Step) (rest : List Step) : StepOK sch d s d1 → PathOK sch d1 rest d2 →
      PathOK sch d (s :: rest) d2

theorem PathOK.snoc {sch : Schema} {d d1 d2 : Desc} {steps : List Step} {s : Step}
    (h : PathOK sch d steps d1) (hs : StepOK sch d1 s d2) : PathOK sch d (steps ++ [s]) d2 := by
  induction h with
  | nil d => exact .cons _ _ _ _ _ hs (.nil _)
  | cons d da db s' rest hs' _ ih => exact .cons _ _ _ _ _ hs' (ih hs)

theorem target_linked {sch : Schema} {d : Desc} {md : MsgDesc} (h : Target sch d md) : Linked sch md := by
  cases h with
  | msg _ hl => exact hl
  | field f _ hc hm => exact (message_sat sch f).of_ok hm (single_flags hc).2

structure PInv (sch : Schema) (root : Str) (md0 : MsgDesc) (st : PSt) : Prop where
  path : ∃ steps, st.path = .root root :: steps ∧ PathOK sch (.msg md0) steps st.desc
  linked : DescLinked sch st.desc

theorem pinv_extend {sch : Schema} {root : Str} {md0 : MsgDesc} {st : PSt} {s : Step} {d' : Desc} {ps : PState}
    (hi : PInv sch root md0 st) (hs : StepOK sch st.desc s d') (hl : DescLinked sch d') :
    PInv sch root md0 { st with desc := d', state := ps, path := st.path ++ [s] } := by
  obtain ⟨steps, hp, hok⟩ := hi.path
  exact ⟨⟨steps ++ [s], by simp [hp], hok.snoc hs⟩, hl⟩

theorem pinv_state {sch : Schema} {root : Str} {md0 : MsgDesc} {st : PSt} (ps : PState) (q : Str)
    (hi : PInv sch root md0 st) : PInv sch root md0 { st with state := ps, qname := q } :=
  ⟨hi.path, hi.linked⟩

theorem entry_byName {f : Field} {id : Str} {fd : Field} (h : (entryDesc f).byName id = some fd) :
    id = kKey ∨ id = kValue := by
  unfold MsgDesc.byName entryDesc at h
  simp only [List.find?_cons] at h
  by_cases h1 : (kKey == id) = true
  · left; exact (beq_iff_eq.mp h1).symm
  · by_cases h2 : (kValue == id) = true
    · right; exact (beq_iff_eq.mp h2).symm
    · simp [h1, h2] at h

/-- The invariant, claimed of the repaired parser only; what holds of both parsers is the absence of panics. -/
def PInvV (V : Variant) (sch : Schema) (root : Str) (md0 : MsgDesc) (st : PSt) : Prop :=
  V = .fixed → PInv sch root md0 st

/-- The repaired `accessIdent` resolves the identifier against a message the current descriptor stands for
    (`Target`): not against a list, and not against a map's entry message, whose only fields `key` and
    `value` it refuses by name. -/
theorem accessIdent_sat {V : Variant} {sch : Schema} {root : Str} {md0 : MsgDesc} {st : PSt}
    (hi : PInvV V sch root md0 st) (id : Str) : Outcome.Total (PInvV V sch root md0) (accessIdent V sch st id) := by
  have look : ∀ md, (∀ fd, md.byName id = some fd → V = .fixed → Target sch st.desc md) →
      Outcome.Total (PInvV V sch root md0)
        (match md.byName id with
          | none => .err "no-field"
          | some fd => .ok { st with desc := .field fd, state := .needAccessor, path := st.path ++ [.field fd] }) := by
    intro md ht
    cases hb : md.byName id with
    | none => trivial
    | some fd =>
      exact fun hV => pinv_extend (hi hV) (.field _ md fd (ht fd hb hV) (List.mem_of_find?_eq_some hb)) trivial
  unfold accessIdent
  cases hd : st.desc with
  | nil => trivial
  | msg md => exact look md fun _ _ hV => hd ▸ .msg md (hd ▸ (hi hV).linked : DescLinked sch (.msg md))
  | field f =>
    simp only
    by_cases h1 : (f.isMap && (id == kKey || id == kValue)) = true
    · rw [if_pos h1]; trivial
    rw [if_neg h1]
    by_cases h2 : (V.rejectListField && f.isList) = true
    · rw [if_pos h2]; trivial
    rw [if_neg h2]
    refine (message_sat sch f).bind fun m hm _ => ?_
    cases m with
    | nil => trivial
    | field _ => trivial
    | msg md =>
      refine look md fun fd hb hV => hd ▸ .field f md (card_single_of ?_ ?_) hm
      · cases hmap : f.isMap with
        | false => rfl
        | true =>
          rw [Field.message, hmap, if_pos rfl] at hm
          cases hm
          rcases entry_byName hb with rfl | rfl <;> simp [hmap] at h1
      · subst hV; simpa [Variant.fixed] using h2

theorem castKey_cls {l : Lit} {kk : Kind} {k : Scalar} (h : l.castKey kk = some k) : kk.cls = some k.cls := by
  have num : ∀ {c : VClass} {o : Option Int}, o.map (fun v => (⟨c, v, []⟩ : Scalar)) = some k → some c = some k.cls := by
    intro c o h
    obtain ⟨v, _, rfl⟩ := Option.map_eq_some_iff.mp h
    rfl
  cases l with
  | bool b =>
    obtain ⟨rfl, h⟩ := Option.ite_none_right_eq_some.mp h
    cases h; rfl
  | str s =>
    obtain ⟨rfl, h⟩ := Option.ite_none_right_eq_some.mp h
    cases h; rfl
  | num lit =>
    simp only [Lit.castKey] at h
    split at h
    · exact num h
    · exact num h
    · exact num h
    · exact num h
    · cases h

theorem accessValue_sat {V : Variant} {sch : Schema} {root : Str} {md0 : MsgDesc} {st : PSt}
    (hi : PInvV V sch root md0 st) (lit : Lit) : Outcome.Total (PInvV V sch root md0) (accessValue sch st lit) := by
  unfold accessValue
  cases hd : st.desc with
  | nil => trivial
  | msg md => trivial
  | field fd =>
    cases hc : fd.card with
    | single => simp only [Field.isRepeated, single_flags hc, Bool.or_false, Bool.not_false, if_true]; trivial
    | list =>
      have hf := isList_of_card hc
      simp only [Field.isRepeated, hf.1, hf.2, Bool.or_true, Bool.not_true, Bool.false_eq_true, if_false]
      cases lit.castInt with
      | none => trivial
      | some i =>
        simp only
        by_cases hneg : i < 0
        · rw [if_pos hneg]; trivial
        · rw [if_neg hneg]
          exact (message_sat sch fd).bind fun d hm hl hV =>
            pinv_extend (hi hV) (hd ▸ .list _ _ _ hc (Int.not_lt.mp hneg) hm) (hl hf.2)
    | map kk =>
      have hmap := isMap_of_card hc
      simp only [Field.isRepeated, hmap, Bool.true_or, Bool.not_true, Bool.false_eq_true, if_false, if_true,
        Field.mapKeyKind, hc, Outcome.bind_ok]
      cases hk : lit.castKey kk with
      | none => trivial
      | some mk =>
        rw [mapValueMessage_eq sch hmap]
        exact (resolveRef_linked sch _ _).bind fun d hm hl hV =>
          pinv_extend (hi hV) (hd ▸ .map _ _ _ _ hc (castKey_cls hk) ((mapValueMessage_eq sch hmap).trans hm)) hl

/-- One parser step: `step` is an error, the same parser in another state (and qualified name), or one of
    the two accessors. -/
theorem step_sat {V : Variant} {sch : Schema} {root : Str} {md0 : MsgDesc} {st : PSt}
    (hi : PInvV V sch root md0 st) (t : Token) : Outcome.Total (PInvV V sch root md0) (step V sch root st t) := by
  have keep : ∀ ps q, Outcome.Total (PInvV V sch root md0) (.ok { st with state := ps, qname := q }) :=
    fun ps q hV => pinv_state ps q (hi hV)
  have ident := accessIdent_sat hi
  have value := accessValue_sat hi
  obtain ⟨k, pos, text⟩ := t
  -- in the order of `TokKind`: ident, intlit, strlit, dot (by parser state), ( ) [ ], illegal, eof
  cases k
  · exact ite_of (keep _ _) <| ite_of (ident _) <| ite_of (ite_of (value _) <| ite_of (value _) trivial) trivial
  · exact ite_of trivial (value _)
  · exact ite_of trivial (value _)
  · obtain ⟨state, path, desc, qname⟩ := st
    cases state
    · trivial
    · trivial
    · exact keep _ _
    · exact keep _ _
    · exact keep _ _
    · trivial
    · trivial
    · trivial
  · exact ite_of trivial (keep _ _)
  · exact ite_of trivial <| ite_of trivial (keep _ _)
  · exact ite_of trivial (keep _ _)
  · exact ite_of trivial (keep _ _)
  · trivial
  · trivial

theorem parseLoop_sat {V : Variant} {sch : Schema} {root : Str} {md0 : MsgDesc} (buf : Str) :
    ∀ (fuel pos : Nat) (st : PSt), PInvV V sch root md0 st → pos ≤ buf.length → buf.length < fuel + pos →
      Outcome.Total (fun p => V = .fixed → ∃ steps d, p = .root root :: steps ∧ PathOK sch (.msg md0) steps d)
        (parseLoop V sch root buf fuel pos st) := by
  intro fuel
  induction fuel with
  | zero => intro pos st _ h0 h; omega
  | succ fuel ih =>
    intro pos st hi h0 h
    unfold parseLoop
    obtain ⟨t, p', hs, hcase⟩ := scan_total buf pos
    rw [hs]
    simp only [Outcome.bind_ok]
    rcases hcase with ⟨he, _, _⟩ | ⟨hne, h1, h2⟩
    · rw [if_pos he]
      refine ite_of (fun hV => ?_) trivial
      obtain ⟨steps, hp, hok⟩ := (hi hV).path
      exact ⟨steps, st.desc, hp, hok⟩
    · rw [if_neg hne]
      exact (step_sat hi t).bind fun st' _ hst => ih p' st' hst h2 (by omega)

/-- `parsePathV` never panics, and a path the repaired parser returns is the root step followed by
    well-typed steps from the root message. -/
theorem parsePathV_sat (V : Variant) (sch : Schema) (root s : Str) :
    Outcome.Total (fun p => V = .fixed →
        ∃ md steps d, lookupMsg sch root = some md ∧ p = .root root :: steps ∧ PathOK sch (.msg md) steps d)
      (parsePathV V sch root s) := by
  unfold parsePathV
  split
  · trivial
  · next md hm =>
    refine Outcome.Total.mono (parseLoop_sat s _ _ _ (fun _ => ⟨⟨[], rfl, .nil _⟩, lookupMsg_linked hm⟩) (Nat.zero_le _)
      (Nat.lt_succ_self _)) fun p h hV => ?_
    obtain ⟨steps, d, hp, hok⟩ := h hV
    exact ⟨md, steps, d, hm, hp, hok⟩

end GceTcb.Path
