import GceTcb.Model.VerifyWire
import GceTcb.Proofs.ProtoWire
/-
Helper lemmas for C01 over raw bytes (Props/C01Wire.lean): byte strings that differ and decode to the same
message (over-long tag varint, an appended unknown field, two adjacent fields exchanged).  Core-only.
-/
namespace GceTcb.VerifyWire
open GceTcb GceTcb.ProtoWire

theorem wirePrims_unmarshalEndorsement {Cert Roots Time : Type} (X : Verify.Prims Cert Roots Time) (b : Bytes) :
    (wirePrims X).unmarshalEndorsement b = (decodeEndorsement b).map endorsementOfWire := rfl

theorem decodeVarint_one (v : Nat) (hv : v < 128) (rest : Bytes) :
    decodeVarint (UInt8.ofNat v :: rest) = some (v, rest) := by
  have h : (UInt8.ofNat v).toNat = v := u8_toNat_ofNat v (by omega)
  simp [decodeVarint, decodeVarintF, h, hv]

/-- the two-byte, non-minimal encoding of a value below 128: continuation bit set, then a zero byte -/
theorem decodeVarint_overlong (v : Nat) (hv : v < 128) (rest : Bytes) :
    decodeVarint (UInt8.ofNat (v + 128) :: 0 :: rest) = some (v, rest) := by
  have h : (UInt8.ofNat (v + 128)).toNat = v + 128 := u8_toNat_ofNat _ (by omega)
  have h0 : (0 : UInt8).toNat = 0 := rfl
  have h1 : ¬ (v + 128 < 128) := by omega
  simp only [decodeVarint, decodeVarintF, h, h0, h1, if_false]
  simp

/-- Re-encoding the first tag of a message (every known field of the five messages has a one-byte tag) in
    two bytes changes the byte string and not the sequence of fields the loop reads. -/
theorem parseFields_overlong (v : Nat) (hv : v < 128) (rest : Bytes) :
    parseFields (UInt8.ofNat (v + 128) :: 0 :: rest) = parseFields (UInt8.ofNat v :: rest) := by
  have hr : readField (UInt8.ofNat (v + 128) :: 0 :: rest) = readField (UInt8.ofNat v :: rest) := by
    unfold readField
    rw [decodeVarint_overlong v hv rest, decodeVarint_one v hv rest]
  rw [parseFields_cons _ (by simp), parseFields_cons (UInt8.ofNat v :: rest) (by simp), hr]

/-- A field is one of the eight known (number, wire type) pairs of the golden measurement, or goes to its
    unknown bytes whatever the message holds. -/
theorem goldenField_cases {motive : Field → Prop} (f : Field)
    (timestamp : ∀ p r, motive ⟨1, .len p, r⟩) (clSpec : ∀ v r, motive ⟨2, .varint v, r⟩)
    (commit : ∀ p r, motive ⟨3, .len p, r⟩) (cert : ∀ p r, motive ⟨4, .len p, r⟩)
    (digest : ∀ p r, motive ⟨5, .len p, r⟩) (caBundle : ∀ p r, motive ⟨6, .len p, r⟩)
    (sevSnp : ∀ p r, motive ⟨7, .len p, r⟩) (tdx : ∀ p r, motive ⟨8, .len p, r⟩)
    (unknown : (∀ m, stepGolden m f = some { m with unknown := m.unknown ++ f.unknownBytes }) → motive f) :
    motive f := by
  obtain ⟨n, v, r⟩ := f
  -- were the motive false, the field would be none of the eight and the `match` of `stepGolden` falls through
  refine Classical.byContradiction fun hm => hm (unknown fun m => ?_)
  unfold stepGolden
  dsimp only
  revert hm
  split <;> intro hm
  · exact absurd (timestamp _ _) hm
  · exact absurd (clSpec _ _) hm
  · exact absurd (commit _ _) hm
  · exact absurd (cert _ _) hm
  · exact absurd (digest _ _) hm
  · exact absurd (caBundle _ _) hm
  · exact absurd (sevSnp _ _) hm
  · exact absurd (tdx _ _) hm
  · rfl

/-- one field, unknown to the golden measurement whatever its wire type -/
theorem stepGolden_unknown (m : WGolden) (f : Field) (h : 9 ≤ f.num) :
    stepGolden m f = some { m with unknown := m.unknown ++ f.unknownBytes } := by
  induction f using goldenField_cases with
  | unknown hu => exact hu m
  | _ => simp at h

/-- Appending a field with a number the message does not know: a different byte string, the same
    golden measurement but for its unknown-field bytes — so the same view for the verifier. -/
theorem decodeGolden_append_unknown (p u : Bytes) (g : WGolden) (f : Field) (hg : decodeGolden p = some g)
    (hu : readField u = some (f, [])) (hn : 9 ≤ f.num) :
    decodeGolden (p ++ u) = some { g with unknown := g.unknown ++ f.unknownBytes } := by
  obtain ⟨fa, hp, _⟩ := decodeInto_parses stepGolden .zero g p hg
  unfold decodeGolden at hg ⊢
  rw [decodeInto_append stepGolden .zero g p u fa hp hg]
  unfold decodeInto
  simp only [parseFields_step hu, parseFields_nil, Option.map_some, foldFields, stepGolden_unknown g f hn]

/-- the plain fields: the last occurrence sets the field of the record -/
theorem stepGolden_plain (m : WGolden) :
    (∀ v r, stepGolden m ⟨2, .varint v, r⟩ = some { m with clSpec := v % 18446744073709551616 }) ∧
    (∀ p r, stepGolden m ⟨3, .len p, r⟩ = some { m with commit := p }) ∧
    (∀ p r, stepGolden m ⟨4, .len p, r⟩ = some { m with cert := p }) ∧
    (∀ p r, stepGolden m ⟨5, .len p, r⟩ = some { m with digest := p }) ∧
    (∀ p r, stepGolden m ⟨6, .len p, r⟩ = some { m with caBundle := p }) :=
  ⟨fun _ _ => rfl, fun _ _ => rfl, fun _ _ => rfl, fun _ _ => rfl, fun _ _ => rfl⟩

/-- the embedded messages: Unmarshal INTO the value already there -/
theorem stepGolden_embedded (m : WGolden) (q r : Bytes) :
    (stepGolden m ⟨1, .len q, r⟩ = match decodeTimestampInto (m.timestamp.getD .zero) q with
      | none => none
      | some t => some { m with timestamp := some t }) ∧
    (stepGolden m ⟨7, .len q, r⟩ = match decodeSevSnpInto (m.sevSnp.getD .zero) q with
      | none => none
      | some s => some { m with sevSnp := some s }) ∧
    (stepGolden m ⟨8, .len q, r⟩ = match decodeTdxInto (m.tdx.getD .zero) q with
      | none => none
      | some d => some { m with tdx := some d }) := ⟨rfl, rfl, rfl⟩

/-- a field that sets one of the plain (scalar / bytes) fields of the golden measurement:
    cl_spec = 2 (varint), commit = 3, cert = 4, digest = 5, ca_bundle = 6 (length-delimited) -/
def PlainKnown (f : Field) : Prop :=
  (f.num = 2 ∧ ∃ v, f.val = .varint v) ∨ ((f.num = 3 ∨ f.num = 4 ∨ f.num = 5 ∨ f.num = 6) ∧ ∃ p, f.val = .len p)

/-- a plain known field commutes with every field of another number (known, embedded or unknown): in each
    of the 5 × 9 cases both sides compute to the same record, or fail together with the embedded decoder -/
theorem stepGolden_comm_plain (m : WGolden) (f1 f2 : Field) (h1 : PlainKnown f1) (hne : f2.num ≠ f1.num) :
    (stepGolden m f1).bind (fun m1 => stepGolden m1 f2) = (stepGolden m f2).bind (fun m2 => stepGolden m2 f1) := by
  obtain ⟨n1, v1, r1⟩ := f1
  rcases h1 with ⟨rfl, v, rfl⟩ | ⟨rfl | rfl | rfl | rfl, p, rfl⟩ <;>
  induction f2 using goldenField_cases with
  | unknown h => simp only [h]; rfl
  | timestamp q r =>
    cases hd : decodeTimestampInto (m.timestamp.getD .zero) q <;>
      simp only [stepGolden_embedded, stepGolden_plain, Option.bind_some, Option.bind_none, hd]
  | sevSnp q r =>
    cases hd : decodeSevSnpInto (m.sevSnp.getD .zero) q <;>
      simp only [stepGolden_embedded, stepGolden_plain, Option.bind_some, Option.bind_none, hd]
  | tdx q r =>
    cases hd : decodeTdxInto (m.tdx.getD .zero) q <;>
      simp only [stepGolden_embedded, stepGolden_plain, Option.bind_some, Option.bind_none, hd]
  | _ => first | exact absurd rfl hne | rfl

theorem foldFields_two {M : Type} (step : M → Field → Option M) (fs : List Field) (f1 f2 : Field) (m : M) :
    foldFields step m (f1 :: f2 :: fs) =
      ((step m f1).bind fun m1 => step m1 f2).bind fun m' => foldFields step m' fs := by
  simp only [foldFields]
  cases step m f1 with
  | none => rfl
  | some m1 =>
    simp only [Option.bind_some]
    cases step m1 f2 <;> rfl

/-- swapping two adjacent fields, one of them a plain known field, the other of another number, does not
    change what the golden-measurement fold yields -/
theorem foldGolden_swap (a b : List Field) (f1 f2 : Field) (m : WGolden) (h1 : PlainKnown f1)
    (hne : f2.num ≠ f1.num) :
    foldFields stepGolden m (a ++ f1 :: f2 :: b) = foldFields stepGolden m (a ++ f2 :: f1 :: b) := by
  rw [foldFields_append, foldFields_append]
  cases foldFields stepGolden m a with
  | none => rfl
  | some ma =>
    simp only
    rw [foldFields_two, foldFields_two, stepGolden_comm_plain ma f1 f2 h1 hne]

end GceTcb.VerifyWire
