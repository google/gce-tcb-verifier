import GceTcb.Model.Codecs
import GceTcb.Proofs.Outcome
/-
Helper lemmas for C18 (fixed-layout codecs): the generic "record of little-endian fields" laws (`Laws`, `Rec.dec_enc`,
`Rec.dec_canon`), their instances for every structure of Model/Codecs.lean, and the two codecs of variable length built
on them (TDX metadata, GUID HOB).  Core-only.
-/
namespace GceTcb.Codecs
open GceTcb GceTcb.Codec

theorem leVal_lt' (bs : Bytes) (n : Nat) (h : bs.length ≤ n) : leVal bs < 256 ^ n :=
  Nat.lt_of_lt_of_le (leVal_lt bs) (Nat.pow_le_pow_right (by decide) h)

theorem leBytes_leVal' (bs : Bytes) (n : Nat) (h : bs.length = n) : leBytes n (leVal bs) = bs := by
  subst h; exact leBytes_leVal bs

theorem encF_length (ws vs : List Nat) : (encF ws vs).length = ws.sum := by
  induction ws generalizing vs with
  | nil => rfl
  | cons w ws ih => cases vs <;> simp [encF, ih]

theorem decF_encF (ws vs : List Nat) (t : Bytes) (h : Fits ws vs) : decF ws (encF ws vs ++ t) = vs := by
  induction ws generalizing vs with
  | nil => cases vs with
    | nil => rfl
    | cons v vs => exact False.elim h
  | cons w ws ih =>
    cases vs with
    | nil => exact False.elim h
    | cons v vs =>
      have hl := leBytes_length w v
      simp only [encF, decF, List.append_assoc]
      rw [List.take_left' hl, List.drop_left' hl, leVal_leBytes_of_lt w v h.1, ih vs h.2]

theorem decF_fits (ws : List Nat) (b : Bytes) : Fits ws (decF ws b) := by
  induction ws generalizing b with
  | nil => trivial
  | cons w ws ih => exact ⟨leVal_lt' _ w (List.length_take_le w b), ih _⟩

theorem encF_decF (ws : List Nat) (b : Bytes) (h : ws.sum ≤ b.length) :
    encF ws (decF ws b) = b.take ws.sum := by
  induction ws generalizing b with
  | nil => rfl
  | cons w ws ih =>
    simp only [decF, encF, List.sum_cons] at *
    rw [leBytes_leVal' _ w (List.length_take_of_le (by omega)), ih (b.drop w) (by rw [List.length_drop]; omega),
      List.take_add]

theorem decF_take (ws : List Nat) (b : Bytes) (n : Nat) (h : ws.sum ≤ n) : decF ws (b.take n) = decF ws b := by
  induction ws generalizing b n with
  | nil => rfl
  | cons w ws ih =>
    simp only [decF, List.sum_cons] at *
    rw [List.take_take, Nat.min_eq_left (by omega), List.drop_take, ih (b.drop w) (n - w) (by omega)]

/-- What round trip and canonicity of `c.dec` need of a record codec, on the values satisfying `P` (the structure's
    `InRange`).  `to_of` and `inr` are asked only of field lists `decF c.ws b`, not of all lists that pass `valid`:
    a decoded list fits its widths (`decF_fits`), and the instances need that. -/
structure Laws {α : Type} (c : Rec α) (P : α → Prop) : Prop where
  fits : ∀ v, P v → Fits c.ws (c.toVals v)
  valid_to : ∀ v, P v → c.valid (c.toVals v) = true
  of_to : ∀ v, P v → c.ofVals (c.toVals v) = v
  to_of : ∀ b, c.valid (decF c.ws b) = true → c.toVals (c.ofVals (decF c.ws b)) = decF c.ws b
  inr : ∀ b, c.valid (decF c.ws b) = true → P (c.ofVals (decF c.ws b))

namespace Rec
variable {α : Type} {c : Rec α} {P : α → Prop}

theorem enc_length (c : Rec α) (v : α) : (c.enc v).length = c.size := encF_length _ _

theorem decF_enc (L : Laws c P) (v : α) (hv : P v) (t : Bytes) : decF c.ws (c.enc v ++ t) = c.toVals v :=
  decF_encF _ _ t (L.fits v hv)

theorem enc_ofVals (L : Laws c P) (b : Bytes) (hv : c.valid (decF c.ws b) = true) (hl : c.size ≤ b.length) :
    c.enc (c.ofVals (decF c.ws b)) = b.take c.size := by
  unfold enc; rw [L.to_of b hv]; exact encF_decF _ _ hl

theorem decBody_enc (L : Laws c P) (v : α) (hv : P v) (t : Bytes) : c.decBody (c.enc v ++ t) = .ok v := by
  unfold decBody
  rw [decF_enc L v hv, L.valid_to v hv, L.of_to v hv]; rfl

theorem decBody_ok (L : Laws c P) (b : Bytes) (v : α) (hl : c.size ≤ b.length) (h : c.decBody b = .ok v) :
    c.enc v = b.take c.size ∧ P v := by
  unfold decBody at h
  by_cases hv : c.valid (decF c.ws b) = true
  · rw [if_pos hv] at h; cases h; exact ⟨enc_ofVals L b hv hl, L.inr b hv⟩
  · rw [if_neg hv] at h; cases h

/-- the length check of the three modes: at least `size` bytes, exactly `size` for `.exact` -/
theorem dec_cases (c : Rec α) (m : Mode) (b : Bytes) :
    (c.size ≤ b.length ∧ (m = .exact → b.length = c.size)) ∧ c.dec m b = c.decBody b ∨
    ¬ (c.size ≤ b.length ∧ (m = .exact → b.length = c.size)) ∧ (c.dec m b).isOk = false := by
  cases m with
  | exact =>
    by_cases h : b.length ≠ c.size
    · exact .inr ⟨fun g => h (g.2 rfl), congrArg Outcome.isOk (if_pos h)⟩
    · exact .inl ⟨⟨by omega, fun _ => by omega⟩, if_neg h⟩
  | errShort | panicShort =>
    by_cases h : b.length < c.size
    · exact .inr ⟨fun g => Nat.not_le.mpr h g.1, congrArg Outcome.isOk (if_pos h)⟩
    · exact .inl ⟨⟨Nat.le_of_not_lt h, nofun⟩, if_neg h⟩

theorem dec_eq_decBody (c : Rec α) (m : Mode) (b : Bytes) (hl : c.size ≤ b.length) (hm : m = .exact → b.length = c.size) :
    c.dec m b = c.decBody b :=
  ((dec_cases c m b).resolve_right fun h => h.1 ⟨hl, hm⟩).2

/-- `t`: the prefix decoders accept trailing bytes -/
theorem dec_enc (L : Laws c P) (m : Mode) (v : α) (hv : P v) (t : Bytes) (ht : m = .exact → t = []) :
    c.dec m (c.enc v ++ t) = .ok v := by
  rw [dec_eq_decBody, decBody_enc L v hv t]
  · rw [List.length_append, enc_length]; exact Nat.le_add_right _ _
  · intro hm; rw [ht hm, List.append_nil, enc_length]

theorem dec_exact_enc (L : Laws c P) (v : α) (hv : P v) : c.dec .exact (c.enc v) = .ok v := by
  have := dec_enc L .exact v hv [] fun _ => rfl
  rwa [List.append_nil] at this

theorem dec_short (c : Rec α) (m : Mode) (b : Bytes) (h : b.length < c.size) : (c.dec m b).isOk = false :=
  (dec_cases c m b).elim (fun g => absurd h (Nat.not_lt.mpr g.1.1)) (·.2)

theorem dec_errShort (c : Rec α) (b : Bytes) (h : b.length < c.size) : c.dec .errShort b = .err "short" := if_pos h

theorem dec_exact_long (c : Rec α) (b : Bytes) (h : b.length ≠ c.size) : c.dec .exact b = .err "size" := if_pos h

/-- Canonicity: an accepted byte string re-encodes to the bytes that were read (its first `size`
    bytes; the whole input for the exact-size decoders), and the decoded value is in range. -/
theorem dec_canon (L : Laws c P) (m : Mode) (b : Bytes) (v : α) (h : c.dec m b = .ok v) :
    c.enc v = b.take c.size ∧ P v ∧ c.size ≤ b.length ∧ (m = .exact → b.length = c.size) := by
  rcases dec_cases c m b with ⟨⟨hl, hm⟩, hd⟩ | ⟨_, hn⟩
  · have := decBody_ok L b v hl (hd ▸ h)
    exact ⟨this.1, this.2, hl, hm⟩
  · rw [h] at hn; cases hn

theorem dec_take (L : Laws c P) (m : Mode) (b : Bytes) (v : α) (h : c.dec m b = .ok v) :
    c.enc v = b.take c.size ∧ P v :=
  have := dec_canon L m b v h
  ⟨this.1, this.2.1⟩

theorem dec_exact_canon (L : Laws c P) (b : Bytes) (v : α) (h : c.dec .exact b = .ok v) : c.enc v = b ∧ P v := by
  obtain ⟨h1, h2, _, h4⟩ := dec_canon L .exact b v h
  exact ⟨h1.trans (List.take_of_length_le (Nat.le_of_eq (h4 rfl))), h2⟩

/-- A non-zero reserved field is refused (whatever the rest of the input). -/
theorem dec_reserved (c : Rec α) (m : Mode) (b : Bytes) (h : c.valid (decF c.ws b) = false) :
    (c.dec m b).isOk = false := by
  rcases dec_cases c m b with ⟨_, hd⟩ | ⟨_, hn⟩
  · rw [hd, decBody, h]; rfl
  · exact hn

theorem put_ok (c : Rec α) (v : α) (data : Bytes) (h : c.size ≤ data.length) :
    c.put v data = .ok (c.enc v ++ data.drop c.size) := if_neg (Nat.not_lt.mpr h)

theorem put_short (c : Rec α) (v : α) (data : Bytes) (h : data.length < c.size) : c.put v data = .err "short" :=
  if_pos h

theorem enc_injective (L : Laws c P) (v w : α) (hv : P v) (hw : P w) (h : c.enc v = c.enc w) : v = w := by
  have h1 := decBody_enc L v hv []
  have h2 := decBody_enc L w hw []
  rw [h] at h1; rw [h1] at h2; injection h2

end Rec

theorem beVal_beBytes (n v : Nat) (h : v < 256 ^ n) : beVal (beBytes n v) = v := by
  simp [beVal, beBytes, leVal_leBytes_of_lt n v h]

theorem beBytes_length (n v : Nat) : (beBytes n v).length = n := by simp [beBytes]

theorem leBytes_beVal (bs : Bytes) (n : Nat) (h : bs.length = n) : leBytes n (beVal bs) = bs.reverse :=
  leBytes_leVal' bs.reverse n (List.length_reverse.trans h)

theorem beBytes_beVal (bs : Bytes) (n : Nat) (h : bs.length = n) : beBytes n (beVal bs) = bs := by
  rw [beBytes, leBytes_beVal bs n h, List.reverse_reverse]

theorem beVal_lt (bs : Bytes) (n : Nat) (h : bs.length ≤ n) : beVal bs < 256 ^ n :=
  leVal_lt' bs.reverse n (by rwa [List.length_reverse])

theorem field_length_le (bs : Bytes) (off len : Nat) : (field bs off len).length ≤ len :=
  List.length_take_le _ _

theorem field_append_field (bs : Bytes) (off a b : Nat) :
    field bs off a ++ field bs (off + a) b = field bs off (a + b) := by
  simp only [field]
  rw [List.take_add, List.drop_drop]

theorem field_zero_all (bs : Bytes) (n : Nat) (h : bs.length = n) : field bs 0 n = bs := by
  subst h; simp [field]

theorem field_append_left (a r : Bytes) (w : Nat) (h : a.length = w) : field (a ++ r) 0 w = a := by
  simp [field, List.take_left' h]

theorem field_append_right (a r : Bytes) (n off w : Nat) (h : a.length = n) :
    field (a ++ r) (n + off) w = field r off w := by
  simp only [field]
  rw [← List.drop_drop, List.drop_left' h]

theorem uuidOfVals_length (a b c d : Nat) : (uuidOfVals a b c d).length = 16 := by
  simp [uuidOfVals, beBytes_length]

/-- The four blocks of `uuidOfVals` have the literal lengths 4, 2, 2, 8, so `field` picks them out by computation. -/
theorem uuidVals_uuidOfVals {a b c d : Nat} (h : Fits uuidRec.ws [a, b, c, d]) :
    uuidVals (uuidOfVals a b c d) = [a, b, c, d] := by
  show [beVal (beBytes 4 a), beVal (beBytes 2 b), beVal (beBytes 2 c), leVal (leBytes 8 d)] = _
  rw [beVal_beBytes 4 a h.1, beVal_beBytes 2 b h.2.1, beVal_beBytes 2 c h.2.2.1, leVal_leBytes_of_lt 8 d h.2.2.2.1]

theorem uuidOfVals_uuidVals (u : Bytes) (h : u.length = 16) :
    uuidOfVals (beVal (field u 0 4)) (beVal (field u 4 2)) (beVal (field u 6 2)) (leVal (field u 8 8)) = u := by
  simp only [uuidOfVals]
  rw [beBytes_beVal _ 4 (field_length u 0 4 (by omega)), beBytes_beVal _ 2 (field_length u 4 2 (by omega)),
    beBytes_beVal _ 2 (field_length u 6 2 (by omega)), leBytes_leVal' _ 8 (field_length u 8 8 (by omega))]
  rw [field_append_field u 0 4 2, field_append_field u 0 6 2, field_append_field u 0 8 8]
  exact field_zero_all u 16 h

/-! For a record whose fields are numbers, `InRange` lists the bounds `Fits` asks for (`2 ^ 32` for `256 ^ 4`) in the
same order, and `decF_fits` gives them back for whatever was decoded. -/

theorem sevMetadataLaws : Laws sevMetadataRec SevMetadata.InRange where
  fits _ h := ⟨h.1, h.2.1, h.2.2.1, h.2.2.2, trivial⟩
  valid_to _ _ := rfl
  of_to _ _ := rfl
  to_of _ _ := rfl
  inr b _ := have h := decF_fits sevMetadataRec.ws b; ⟨h.1, h.2.1, h.2.2.1, h.2.2.2.1⟩

theorem efiGuidLaws : Laws efiGuidRec EfiGuid.InRange where
  fits v h := ⟨h.1, h.2.1, h.2.2.1, leVal_lt' v.d4 8 (Nat.le_of_eq h.2.2.2), trivial⟩
  valid_to _ _ := rfl
  of_to v h := congrArg (EfiGuid.mk v.d1 v.d2 v.d3) (leBytes_leVal' v.d4 8 h.2.2.2)
  to_of b _ := by
    have h := decF_fits efiGuidRec.ws b
    simp only [efiGuidRec, decF]
    rw [leVal_leBytes_of_lt 8 _ h.2.2.2.1]
  inr b _ := have h := decF_fits efiGuidRec.ws b; ⟨h.1, h.2.1, h.2.2.1, leBytes_length _ _⟩

theorem uuidVals_fits (u : Bytes) : Fits uuidRec.ws (uuidVals u) :=
  ⟨beVal_lt _ 4 (field_length_le _ _ _), beVal_lt _ 2 (field_length_le _ _ _),
    beVal_lt _ 2 (field_length_le _ _ _), leVal_lt' _ 8 (field_length_le _ _ _), trivial⟩

theorem uuidLaws : Laws uuidRec (fun u => u.length = 16) where
  fits u _ := uuidVals_fits u
  valid_to _ _ := rfl
  of_to u h := uuidOfVals_uuidVals u h
  to_of b _ := uuidVals_uuidOfVals (decF_fits uuidRec.ws b)
  inr _ _ := uuidOfVals_length _ _ _ _

theorem sevMetadataSectionLaws : Laws sevMetadataSectionRec SevMetadataSection.InRange where
  fits _ h := ⟨h.1, h.2.1, h.2.2, trivial⟩
  valid_to _ _ := rfl
  of_to _ _ := rfl
  to_of _ _ := rfl
  inr b _ := have h := decF_fits sevMetadataSectionRec.ws b; ⟨h.1, h.2.1, h.2.2.1⟩

theorem tdxDescriptorLaws : Laws tdxDescriptorRec TdxDescriptor.InRange where
  fits _ h := ⟨h.1, h.2.1, h.2.2.1, h.2.2.2, trivial⟩
  valid_to _ _ := rfl
  of_to _ _ := rfl
  to_of _ _ := rfl
  inr b _ := have h := decF_fits tdxDescriptorRec.ws b; ⟨h.1, h.2.1, h.2.2.1, h.2.2.2.1⟩

theorem tdxSectionLaws : Laws tdxSectionRec TdxSection.InRange where
  fits _ h := ⟨h.1, h.2.1, h.2.2.1, h.2.2.2.1, h.2.2.2.2.1, h.2.2.2.2.2, trivial⟩
  valid_to _ _ := rfl
  of_to _ _ := rfl
  to_of _ _ := rfl
  inr b _ :=
    have h := decF_fits tdxSectionRec.ws b
    ⟨h.1, h.2.1, h.2.2.1, h.2.2.2.1, h.2.2.2.2.1, h.2.2.2.2.2.1⟩

theorem vmcbSegLaws : Laws vmcbSegRec VmcbSeg.InRange where
  fits _ h := ⟨h.1, h.2.1, h.2.2.1, h.2.2.2, trivial⟩
  valid_to _ _ := rfl
  of_to _ _ := rfl
  to_of _ _ := rfl
  inr b _ := have h := decF_fits vmcbSegRec.ws b; ⟨h.1, h.2.1, h.2.2.1, h.2.2.2.1⟩

theorem fwGuidEntryLaws : Laws fwGuidEntryRec FwGuidEntry.InRange where
  fits e h := ⟨h.1, uuidVals_fits e.guid⟩
  valid_to _ _ := rfl
  of_to e h := congrArg (FwGuidEntry.mk e.size) (uuidOfVals_uuidVals e.guid h.2)
  to_of b _ := congrArg (_ :: ·) (uuidVals_uuidOfVals (decF_fits fwGuidEntryRec.ws b).2)
  inr b _ := ⟨(decF_fits fwGuidEntryRec.ws b).1, uuidOfVals_length _ _ _ _⟩

theorem metadataOffsetLaws : Laws metadataOffsetRec MetadataOffset.InRange where
  fits m h := ⟨h.1, h.2.1, uuidVals_fits m.entry.guid⟩
  valid_to _ _ := rfl
  of_to m h := congrArg (fun g => MetadataOffset.mk m.offset ⟨m.entry.size, g⟩) (uuidOfVals_uuidVals m.entry.guid h.2.2)
  to_of b _ := congrArg (fun l => _ :: _ :: l) (uuidVals_uuidOfVals (decF_fits metadataOffsetRec.ws b).2.2)
  inr b _ := have h := decF_fits metadataOffsetRec.ws b; ⟨h.1, h.2.1, uuidOfVals_length _ _ _ _⟩

theorem resetBlockLaws : Laws resetBlockRec ResetBlock.InRange where
  fits r h := ⟨h.1, h.2.1, uuidVals_fits r.guid⟩
  valid_to _ _ := rfl
  of_to r h := congrArg (ResetBlock.mk r.addr r.size) (uuidOfVals_uuidVals r.guid h.2.2)
  to_of b _ := congrArg (fun l => _ :: _ :: l) (uuidVals_uuidOfVals (decF_fits resetBlockRec.ws b).2.2)
  inr b _ := have h := decF_fits resetBlockRec.ws b; ⟨h.1, h.2.1, uuidOfVals_length _ _ _ _⟩

/-- the reserved word of a HOB header, once found zero, may be written back as `0` -/
theorem hob_reserved_zero {r : Nat} (h : (r == 0) = true) : 0 = r := (beq_iff_eq.mp h).symm

theorem hobHeaderLaws : Laws hobHeaderRec HobHeader.InRange where
  fits _ h := ⟨h.1, h.2, by decide, trivial⟩
  valid_to _ _ := rfl
  of_to _ _ := rfl
  to_of b hv := congrArg (fun r => [_, _, r]) (hob_reserved_zero hv)
  inr b _ := have h := decF_fits hobHeaderRec.ws b; ⟨h.1, h.2.1⟩

theorem handoffLaws : Laws handoffRec HandoffInfoTable.InRange where
  fits _ := fun ⟨⟨a, b⟩, c, d, e, f, g, h, i⟩ => ⟨a, b, by decide, c, d, e, f, g, h, i, trivial⟩
  valid_to _ _ := rfl
  of_to _ _ := rfl
  to_of b hv := by
    simp only [handoffRec, decF] at hv ⊢
    rw [← hob_reserved_zero hv]
  inr b _ := by
    have h := decF_fits handoffRec.ws b
    simp only [handoffRec, decF, Fits, HandoffInfoTable.InRange, HobHeader.InRange] at h ⊢
    obtain ⟨a, b, _, c, d, e, f, g, h, i, _⟩ := h
    exact ⟨⟨a, b⟩, c, d, e, f, g, h, i⟩

theorem resourceLaws : Laws resourceRec ResourceDescriptor.InRange where
  fits d := fun ⟨⟨a, b⟩, ⟨c, e, f, g⟩, h, i, j, k⟩ =>
    ⟨a, b, by decide, c, e, f, leVal_lt' d.owner.d4 8 (Nat.le_of_eq g), h, i, j, k, trivial⟩
  valid_to _ _ := rfl
  of_to d h :=
    congrArg (fun x => ResourceDescriptor.mk d.header ⟨d.owner.d1, d.owner.d2, d.owner.d3, x⟩ d.resourceType
      d.resourceAttribute d.physicalStart d.resourceLength) (leBytes_leVal' d.owner.d4 8 h.2.1.2.2.2)
  to_of b hv := by
    have h := decF_fits resourceRec.ws b
    simp only [resourceRec, decF, Fits] at h hv ⊢
    rw [← hob_reserved_zero hv, leVal_leBytes_of_lt 8 _ h.2.2.2.2.2.2.1]
  inr b _ := by
    have h := decF_fits resourceRec.ws b
    simp only [resourceRec, decF, Fits, ResourceDescriptor.InRange, HobHeader.InRange, EfiGuid.InRange] at h ⊢
    obtain ⟨a, b, _, c, e, f, _, h, i, j, k, _⟩ := h
    exact ⟨⟨a, b⟩, ⟨c, e, f, leBytes_length _ _⟩, h, i, j, k⟩

/-! PAGE_INFO packs the three VMPL permission bytes above a zero byte in one 32-bit word.  The shifts `2 ^ 8`, `2 ^ 16`,
`2 ^ 24` of `pageInfoRec` are written out below: `omega` is much slower with the powers left unevaluated. -/

theorem unpack3 (a b c w : Nat) (ha : a < 256) (hb : b < 256) (hw : w = a * 256 + b * 65536 + c * 16777216) :
    w % 256 = 0 ∧ w / 256 % 256 = a ∧ w / 65536 % 256 = b ∧ w / 16777216 = c := by
  omega

theorem pack3 (w : Nat) (hz : w % 256 = 0) : w / 256 % 256 * 256 + w / 65536 % 256 * 65536 + w / 16777216 * 16777216 = w := by
  omega

theorem pageInfoLaws : Laws pageInfoRec PageInfo.InRange where
  fits p := fun ⟨h1, h2, h3, h4, h5, h6, h7, h8, h9⟩ =>
    ⟨leVal_lt' _ 48 (Nat.le_of_eq h1), leVal_lt' _ 48 (Nat.le_of_eq h2), h3, h4, h5, by omega, h9, trivial⟩
  valid_to p h := beq_iff_eq.mpr (unpack3 _ _ _ _ h.2.2.2.2.2.1 h.2.2.2.2.2.2.1 rfl).1
  of_to p h := by
    obtain ⟨_, e1, e2, e3⟩ := unpack3 _ _ _ _ h.2.2.2.2.2.1 h.2.2.2.2.2.2.1 rfl
    simp only [pageInfoRec]
    rw [leBytes_leVal' p.digestCur 48 h.1, leBytes_leVal' p.contents 48 h.2.1, e1, e2, e3]
  to_of b hv := by
    have h := decF_fits pageInfoRec.ws b
    simp only [pageInfoRec, decF] at hv ⊢
    rw [leVal_leBytes_of_lt 48 _ h.1, leVal_leBytes_of_lt 48 _ h.2.1, pack3 _ (beq_iff_eq.mp hv)]
  inr b _ := by
    have h := decF_fits pageInfoRec.ws b
    exact ⟨leBytes_length _ _, leBytes_length _ _, h.2.2.1, h.2.2.2.1, h.2.2.2.2.1, Nat.mod_lt _ (by decide),
      Nat.mod_lt _ (by decide), Nat.div_lt_of_lt_mul h.2.2.2.2.2.1, h.2.2.2.2.2.2.1⟩

theorem tdxSectionsEnc_length (ss : List TdxSection) : (tdxSectionsEnc ss).length = 32 * ss.length := by
  induction ss with
  | nil => rfl
  | cons s ss ih =>
    simp only [tdxSectionsEnc, List.length_append, List.length_cons, ih, Rec.enc_length]
    have : tdxSectionRec.size = 32 := rfl
    omega

theorem tdxMetadataEnc_length (m : TdxMetadata) : (tdxMetadataEnc m).length = 16 + 32 * m.sections.length := by
  simp only [tdxMetadataEnc, List.length_append, tdxSectionsEnc_length, Rec.enc_length]
  rfl

theorem tdxReadSections_length (n : Nat) (b : Bytes) : (tdxReadSections n b).length = n := by
  induction n generalizing b with
  | zero => rfl
  | succ n ih => simp [tdxReadSections, ih]

theorem tdxReadSections_enc (ss : List TdxSection) (t : Bytes) (h : ∀ s ∈ ss, s.InRange) :
    tdxReadSections ss.length (tdxSectionsEnc ss ++ t) = ss := by
  induction ss with
  | nil => rfl
  | cons s ss ih =>
    have hs := h s (List.mem_cons_self ..)
    simp only [List.length_cons, tdxReadSections, tdxSectionsEnc, List.append_assoc]
    rw [decF_take _ _ 32 (Nat.le_refl _), Rec.decF_enc tdxSectionLaws s hs, tdxSectionLaws.of_to s hs,
      List.drop_left' (show _ = 32 from Rec.enc_length _ s), ih fun x hx => h x (List.mem_cons_of_mem _ hx)]

theorem tdxSectionsEnc_read (n : Nat) (b : Bytes) (h : 32 * n ≤ b.length) :
    tdxSectionsEnc (tdxReadSections n b) = b.take (32 * n) := by
  induction n generalizing b with
  | zero => rfl
  | succ n ih =>
    simp only [tdxReadSections, tdxSectionsEnc]
    rw [decF_take _ _ 32 (Nat.le_refl _), Rec.enc_ofVals tdxSectionLaws b rfl (by show 32 ≤ b.length; omega),
      ih (b.drop 32) (by rw [List.length_drop]; omega), Nat.mul_succ, Nat.add_comm, List.take_add]
    rfl

theorem tdxReadSections_inRange (n : Nat) (b : Bytes) : ∀ s ∈ tdxReadSections n b, s.InRange := by
  induction n generalizing b with
  | zero => nofun
  | succ n ih =>
    intro s hs
    rcases List.mem_cons.mp hs with h | h
    · rw [h]; exact tdxSectionLaws.inr (b.take 32) rfl
    · exact ih _ s h

theorem tdxMetadata_canon (b : Bytes) (m : TdxMetadata) (h : tdxMetadataFromBytes b = .ok m) :
    tdxMetadataEnc m = b.take (16 + 32 * m.sections.length) ∧ 16 + 32 * m.sections.length ≤ b.length ∧
    m.header.sectionCount = m.sections.length ∧ m.header.InRange ∧ (∀ s ∈ m.sections, s.InRange) := by
  unfold tdxMetadataFromBytes at h
  generalize hd : tdxDescriptorFromBytes b = o at h
  cases o with
  | ok hdr =>
    obtain ⟨hc, h⟩ := Outcome.ite_err_eq_ok h
    obtain ⟨he, hr, hl, _⟩ := Rec.dec_canon tdxDescriptorLaws .errShort b hdr hd
    have hl : 16 ≤ b.length := hl
    cases h
    simp only [tdxReadSections_length, tdxMetadataEnc]
    refine ⟨?_, by omega, trivial, hr, tdxReadSections_inRange _ _⟩
    rw [he, tdxSectionsEnc_read _ _ (by rw [List.length_drop]; omega), List.take_add]
    rfl
  | _ => cases h

theorem guidHobWriteTo_ok (h : GuidHob) (hr : h.InRange) :
    guidHobWriteTo h = .ok (hobHeaderRec.enc h.header ++ efiGuidRec.enc h.guid ++ h.data) := by
  unfold guidHobWriteTo
  rw [if_neg (not_not_intro hr.1), if_neg (not_not_intro hr.2.1)]

theorem guidHob_roundtrip (h : GuidHob) (t : Bytes) (hr : h.InRange) :
    guidHobDec (hobHeaderRec.enc h.header ++ efiGuidRec.enc h.guid ++ h.data ++ t) = .ok (h, t) := by
  obtain ⟨ht, hl, hlt, hg⟩ := hr
  have l1 : (hobHeaderRec.enc h.header).length = 8 := Rec.enc_length _ _
  have l2 : (efiGuidRec.enc h.guid).length = 16 := Rec.enc_length _ _
  have hd := Rec.dec_enc hobHeaderLaws .errShort h.header ⟨by omega, hlt⟩ (efiGuidRec.enc h.guid ++ (h.data ++ t)) nofun
  simp only [guidHobDec, hobHeaderDec, List.append_assoc, hd]
  rw [if_neg (by omega), if_neg (by omega), if_neg (by simp only [List.length_append, l1, l2]; omega),
    show (8:Nat) = 8 + 0 from rfl, field_append_right _ _ 8 0 16 l1, field_append_left _ _ 16 l2,
    show parseEFIGUID _ = _ from Rec.dec_exact_enc efiGuidLaws h.guid hg,
    show (24:Nat) = 8 + (16 + 0) from rfl, field_append_right _ _ 8 _ _ l1, field_append_right _ _ 16 0 _ l2,
    field_append_left _ _ _ (by omega), ← List.append_assoc, ← List.append_assoc,
    List.drop_left' (by simp only [List.length_append, l1, l2]; omega)]

/-- What the PI-spec reader accepts is exactly what WriteTo writes: type 4, consistent length, and
    the bytes consumed are the encoding. -/
theorem guidHob_canon (b rest : Bytes) (h : GuidHob) (hd : guidHobDec b = .ok (h, rest)) :
    h.InRange ∧ b = hobHeaderRec.enc h.header ++ efiGuidRec.enc h.guid ++ h.data ++ rest := by
  unfold guidHobDec at hd
  generalize hh : hobHeaderDec b = o at hd
  cases o with
  | ok hdr =>
    obtain ⟨c1, hd⟩ := Outcome.ite_err_eq_ok hd
    obtain ⟨c2, hd⟩ := Outcome.ite_err_eq_ok hd
    obtain ⟨c3, hd⟩ := Outcome.ite_err_eq_ok hd
    generalize hg : parseEFIGUID (field b 8 16) = o at hd
    cases o with
    | ok g =>
      cases hd
      obtain ⟨e1, r1⟩ := Rec.dec_take hobHeaderLaws .errShort b hdr hh
      obtain ⟨e2, r2⟩ := Rec.dec_exact_canon efiGuidLaws _ g hg
      refine ⟨⟨Decidable.of_not_not c1, ?_, r1.2, r2⟩, ?_⟩
      · show hdr.hobLength = 24 + (field b 24 (hdr.hobLength - 24)).length
        rw [field_length b 24 _ (by omega)]; omega
      · show b = _ ++ _ ++ field b 24 (hdr.hobLength - 24) ++ b.drop hdr.hobLength
        rw [e1, e2, show b.take hobHeaderRec.size = field b 0 8 from rfl, field_append_field b 0 8 16,
          field_append_field b 0 24, Nat.add_sub_cancel' (Nat.le_of_not_lt c2)]
        exact (List.take_append_drop _ b).symm
    | _ => cases hd
  | _ => cases hd

theorem zeros_length (n : Nat) : (zeros n).length = n := by simp [zeros]

/-- FromEFIGUID is the exact-size decoder of the uuid record: the same length check, and `convertEFIGUID` of the parsed
    EFIGUID is `uuidRec.ofVals` of the same four fields. -/
theorem fromEFIGUID_eq_dec (b : Bytes) : fromEFIGUID b = uuidRec.dec .exact b := by
  unfold fromEFIGUID parseEFIGUID Rec.dec
  by_cases h : b.length ≠ efiGuidRec.size
  · rw [if_pos h, if_pos (show b.length ≠ uuidRec.size from h)]
  · rw [if_neg h, if_neg (show ¬ b.length ≠ uuidRec.size from h)]; rfl

/-- FromUUID parses 16 bytes it has just written, and whatever 16 bytes are parsed give an EFIGUID in range. -/
theorem fromUUID_inRange (u : Bytes) : (fromUUID u).InRange := by
  unfold fromUUID parseEFIGUID
  rw [Rec.dec_eq_decBody efiGuidRec .exact _ (Nat.le_of_eq (Rec.enc_length uuidRec u).symm) fun _ => Rec.enc_length uuidRec u]
  exact efiGuidLaws.inr _ rfl

/-- `(n + 7) / 8 * 8` is the padded data size of CreateEFIHOBGUID -/
theorem pad8 (n : Nat) : n ≤ (n + 7) / 8 * 8 ∧ (n + 7) / 8 * 8 < n + 8 ∧ (n + 7) / 8 * 8 % 8 = 0 := by omega

end GceTcb.Codecs
