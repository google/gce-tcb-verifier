import GceTcb.Model.RpCli
import GceTcb.Proofs.Verify
/-
Lemmas about Model/RpCli.lean for the command-line theorems (Props/C01Cli, C02Cli, C17Cli).  Core-only.
The centre is `callOf … = .ok c` inverted command by command (`callOf_verify_ok` … `callOf_tdxPolicy_ok`): every field
of `parsed` that a command reads is a function `named…` of the command line alone (the flag's owner is found by
evaluation on the flag table), so `c` is written out with every option in the command line's own terms.  Around it:
`rootOfTrust` inverted (`rootOfTrust_ok`), pflag's range checks, what `emit` does, the worlds of the examples.
-/
namespace GceTcb.RpCli
open GceTcb

variable {Cert Roots Time R Q : Type}

/-- The root data a command line names with the value `root` of its `--root_cert`: the file, or — flag absent or
    empty — what the Backend's getter returns for the pinned `DefaultRootURL`. -/
def rootData (E : Env Time) (root : String) : Option Bytes :=
  if root != "" then E.readFile root
  else
    match E.getter with
    | none => none
    | some g => g Verify.defaultRootURL

/-- The certificates `rootOfTrust` puts into the pool for this data: those of the PEM bundle, or — when the bundle
    has none — the data read as ONE DER certificate. -/
def certsIn (P : Prims Cert Roots Time R Q) (data : Bytes) : List Cert :=
  if (P.pemCerts data).isEmpty then
    match P.v.parseCert data with
    | some c => [c]
    | none => []
  else P.pemCerts data

theorem loadRootPool_eq (P : Prims Cert Roots Time R Q) (data : Bytes) :
    loadRootPool P data = if (certsIn P data).isEmpty then none else some (P.poolOf (certsIn P data)) := by
  unfold loadRootPool certsIn
  by_cases h : (P.pemCerts data).isEmpty = true
  · simp only [h, if_true]
    cases P.v.parseCert data <;> simp
  · simp only [h, Bool.false_eq_true, if_false]

theorem loadRootPool_some (P : Prims Cert Roots Time R Q) (data : Bytes) (r : Roots)
    (h : loadRootPool P data = some r) : certsIn P data ≠ [] ∧ r = P.poolOf (certsIn P data) := by
  rw [loadRootPool_eq] at h
  split at h
  · cases h
  · rename_i hne
    refine ⟨fun hh => hne (by simp [hh]), ?_⟩
    exact (Option.some.inj h).symm

theorem rootOfTrust_ok (P : Prims Cert Roots Time R Q) (E : Env Time) (root : String) (r : Roots)
    (h : Verify.rootOfTrust P.vp E.backend root = .ok r) :
    ∃ data, rootData E root = some data ∧ certsIn P data ≠ [] ∧ r = P.poolOf (certsIn P data) := by
  unfold Verify.rootOfTrust at h
  simp only [Prims.vp, Env.backend] at h
  by_cases hr : (root != "") = true
  · simp only [hr, if_true] at h
    cases hf : E.readFile root with
    | none => simp [hf] at h
    | some d =>
      simp only [hf] at h
      cases hl : loadRootPool P d with
      | none => simp [hl] at h
      | some r' =>
        simp only [hl] at h
        injection h with h
        subst h
        exact ⟨d, by simp [rootData, hr, hf], loadRootPool_some P d r' hl⟩
  · simp only [hr, Bool.false_eq_true, if_false] at h
    cases hg : E.getter with
    | none => simp [hg] at h
    | some g =>
      simp only [hg] at h
      cases hd : g Verify.defaultRootURL with
      | none => simp [hd] at h
      | some d =>
        simp only [hd] at h
        cases hl : loadRootPool P d with
        | none => simp [hl] at h
        | some r' =>
          simp only [hl] at h
          injection h with h
          subst h
          exact ⟨d, by simp [rootData, hr, hg, hd], loadRootPool_some P d r' hl⟩

theorem rootOfTrust_error (P : Prims Cert Roots Time R Q) (E : Env Time) (root : String)
    (h : ∀ data, rootData E root = some data → certsIn P data = []) :
    ∃ c, Verify.rootOfTrust P.vp E.backend root = .error c := by
  cases hr : Verify.rootOfTrust P.vp E.backend root with
  | error c => exact ⟨c, rfl⟩
  | ok r =>
    obtain ⟨data, hd, hne, _⟩ := rootOfTrust_ok P E root r hr
    exact absurd (h data hd) hne

theorem sevBase_ok (P : Prims Cert Roots Time R Q) (E : Env Time) (p : Parsed) (base : Option (Policy.SevPolicy R))
    (h : sevBase P E p = .ok base) :
    (p.sevBase = "" ∧ base = none) ∨
    (p.sevBase ≠ "" ∧ ∃ b q, E.readFile p.sevBase = some b ∧ P.unmarshalSevPolicy b = some q ∧ base = some q) := by
  unfold sevBase at h
  split at h
  · rename_i hne
    refine Or.inr ⟨by simpa using hne, ?_⟩
    split at h
    · cases h
    · rename_i b hb
      split at h
      · cases h
      · rename_i q hq
        cases h
        exact ⟨b, q, hb, hq, rfl⟩
  · rename_i he
    cases h
    exact Or.inl ⟨by simpa using he, rfl⟩

theorem tdxBase_ok (P : Prims Cert Roots Time R Q) (E : Env Time) (p : Parsed) (base : Option (Policy.TdxPolicy Q R))
    (h : tdxBase P E p = .ok base) :
    (p.tdxBase = "" ∧ base = none) ∨
    (p.tdxBase ≠ "" ∧ ∃ b q, E.readFile p.tdxBase = some b ∧ P.unmarshalTdxPolicy b = some q ∧ base = some q) := by
  unfold tdxBase at h
  split at h
  · rename_i hne
    refine Or.inr ⟨by simpa using hne, ?_⟩
    split at h
    · cases h
    · rename_i b hb
      split at h
      · cases h
      · rename_i q hq
        cases h
        exact ⟨b, q, hb, hq, rfl⟩
  · rename_i he
    cases h
    exact Or.inl ⟨by simpa using he, rfl⟩

theorem callOf_help (P : Prims Cert Roots Time R Q) (L : Lex) (E : Env Time) (cl : CmdLine)
    (hw : wellFormed L cl = true) (hc : cl.cmd ≠ "") (hh : helpFlag cl = true) : callOf P L E cl = .ok .help := by
  have : (cl.cmd == "") = false := by simpa using hc
  simp [callOf, hw, hh, this]

theorem callOf_ok_cases {P : Prims Cert Roots Time R Q} {L : Lex} {E : Env Time} {cl : CmdLine}
    {c : Call Roots Time R Q} (h : callOf P L E cl = .ok c) (hc : cl.cmd ≠ "") :
    (helpFlag cl = true ∧ c = .help) ∨ (helpFlag cl = false ∧ wellFormed L cl = true) := by
  have hw : wellFormed L cl = true := by
    cases hw : wellFormed L cl with
    | true => rfl
    | false => simp [callOf, hw] at h
  cases hh : helpFlag cl with
  | true =>
    rw [callOf_help _ _ _ _ hw hc hh] at h
    exact Or.inl ⟨rfl, (Outcome.ok.inj h).symm⟩
  | false => exact Or.inr ⟨rfl, hw⟩

theorem callOf_verify (P : Prims Cert Roots Time R Q) (L : Lex) (E : Env Time) (cl : CmdLine)
    (hw : wellFormed L cl = true) (hc : cl.cmd = "verify") (hh : helpFlag cl = false) :
    callOf P L E cl = verifyCall P E (parsed L cl) cl.args := by
  simp [callOf, hw, hh, hc]

theorem callOf_sevValidate (P : Prims Cert Roots Time R Q) (L : Lex) (E : Env Time) (cl : CmdLine)
    (hw : wellFormed L cl = true) (hc : cl.cmd = "sev validate") (hh : helpFlag cl = false) :
    callOf P L E cl = sevValidateCall P E (parsed L cl) cl.args := by
  simp [callOf, hw, hh, hc]

theorem callOf_tdxValidate (P : Prims Cert Roots Time R Q) (L : Lex) (E : Env Time) (cl : CmdLine)
    (hw : wellFormed L cl = true) (hc : cl.cmd = "tdx validate") (hh : helpFlag cl = false) :
    callOf P L E cl = tdxValidateCall P E (parsed L cl) cl.args := by
  simp [callOf, hw, hh, hc]

/-- cobra's persistent flags: those of `sev` are seen from `sev` and its two sub-commands. -/
theorem owner_sev : ∀ c ∈ ["sev", "sev validate", "sev policy"],
    ∀ n ∈ ["launch_vmsas", "overwrite", "base", "allow_unspecified_vmsas"], ownerOf c n = some "sev" := by
  decide +kernel

theorem owner_tdx : ∀ c ∈ ["tdx", "tdx validate", "tdx policy"], ∀ n ∈ ["ram_gib", "overwrite", "base"],
    ownerOf c n = some "tdx" := by
  decide +kernel

/-- `--root_cert` is each command's own flag (not shadowed by, not inherited from, a parent). -/
theorem owner_root : ∀ c ∈ ["verify", "sev validate", "tdx validate"], ownerOf c "root_cert" = some c := by
  decide +kernel

theorem owner_endorsement : ∀ c ∈ ["sev validate", "tdx validate"], ownerOf c "endorsement" = some c := by
  decide +kernel

theorem owner_out : ∀ c ∈ ["sev policy", "tdx policy"], ownerOf c "out" = some c := by decide +kernel

theorem owner_show : ownerOf "verify" "show" = some "verify" := by decide +kernel

theorem owner_force : ownerOf "sev validate" "testonly_force_gcs" = some "sev validate" := by decide +kernel

theorem kind_launch : ∀ c ∈ ["sev validate", "sev policy"], kindOf c "launch_vmsas" = some "Uint32" := by
  decide +kernel

theorem kind_ram : ∀ c ∈ ["tdx validate", "tdx policy"], kindOf c "ram_gib" = some "Int" := by decide +kernel

/-- The VMSA count a `sev validate` / `sev policy` command line names: the value written in the LAST
    `--launch_vmsas` occurrence; none, 0. -/
def namedVmsas (L : Lex) (cl : CmdLine) : Nat := ((lastOf "launch_vmsas" cl.flags).bind L.parseUint).getD 0

def namedRamGiB (L : Lex) (cl : CmdLine) : Int := ((lastOf "ram_gib" cl.flags).bind L.parseInt).getD 0

def namedOverwrite (cl : CmdLine) : Bool := optBool (lastOf "overwrite" cl.flags)

def namedRoot (cl : CmdLine) : String := (lastOf "root_cert" cl.flags).getD ""

def namedShow (cl : CmdLine) : Bool := optBool (lastOf "show" cl.flags)

/-- absent: standard output, `-` -/
def namedOut (cl : CmdLine) : String := (lastOf "out" cl.flags).getD "-"

def namedBase (cl : CmdLine) : String := (lastOf "base" cl.flags).getD ""

def namedAllow (cl : CmdLine) : Bool := optBool (lastOf "allow_unspecified_vmsas" cl.flags)

def namedEndorsementPath (cl : CmdLine) : String := (lastOf "endorsement" cl.flags).getD ""
def namedForceGCS (cl : CmdLine) : Bool := optBool (lastOf "testonly_force_gcs" cl.flags)

theorem flagVal_eq {cl : CmdLine} {c owner name : String} (hc : cl.cmd = c) (h : ownerOf c name = some owner) :
    flagVal cl owner name = lastOf name cl.flags := by
  simp [flagVal, hc, h]

/-! Each field of `parsed` that a command reads is the `named…` value: both are the same function of the flag's value
    text, which `flagVal_eq` gives with the `owner_…` lemma of the flag. -/

section
variable (L : Lex) (cl : CmdLine)

theorem parsed_sevLaunchVmsas (h : cl.cmd = "sev validate" ∨ cl.cmd = "sev policy") :
    (parsed L cl).sevLaunchVmsas = namedVmsas L cl :=
  congrArg (fun v => (v.bind L.parseUint).getD 0)
    (flagVal_eq rfl (owner_sev _ (List.mem_cons_of_mem _ (by simpa using h)) _ (by simp)))

theorem parsed_tdxRamGiB (h : cl.cmd = "tdx validate" ∨ cl.cmd = "tdx policy") :
    (parsed L cl).tdxRamGiB = namedRamGiB L cl :=
  congrArg (fun v => (v.bind L.parseInt).getD 0)
    (flagVal_eq rfl (owner_tdx _ (List.mem_cons_of_mem _ (by simpa using h)) _ (by simp)))

theorem parsed_sevOverwrite (h : cl.cmd = "sev validate" ∨ cl.cmd = "sev policy") :
    (parsed L cl).sevOverwrite = namedOverwrite cl :=
  congrArg optBool (flagVal_eq rfl (owner_sev _ (List.mem_cons_of_mem _ (by simpa using h)) _ (by simp)))

theorem parsed_tdxOverwrite (h : cl.cmd = "tdx validate" ∨ cl.cmd = "tdx policy") :
    (parsed L cl).tdxOverwrite = namedOverwrite cl :=
  congrArg optBool (flagVal_eq rfl (owner_tdx _ (List.mem_cons_of_mem _ (by simpa using h)) _ (by simp)))

theorem parsed_verifyRoot (h : cl.cmd = "verify") :
    (parsed L cl).verifyRoot = namedRoot cl :=
  congrArg (·.getD "") (flagVal_eq h (owner_root _ (by simp)))

theorem parsed_sevValidateRoot (h : cl.cmd = "sev validate") :
    (parsed L cl).sevValidateRoot = namedRoot cl :=
  congrArg (·.getD "") (flagVal_eq h (owner_root _ (by simp)))

theorem parsed_tdxValidateRoot (h : cl.cmd = "tdx validate") :
    (parsed L cl).tdxValidateRoot = namedRoot cl :=
  congrArg (·.getD "") (flagVal_eq h (owner_root _ (by simp)))

theorem parsed_verifyShow (h : cl.cmd = "verify") :
    (parsed L cl).verifyShow = namedShow cl :=
  congrArg optBool (flagVal_eq h owner_show)

theorem parsed_sevPolicyOut (h : cl.cmd = "sev policy") :
    (parsed L cl).sevPolicyOut = namedOut cl :=
  congrArg (·.getD "-") (flagVal_eq h (owner_out _ (by simp)))

theorem parsed_tdxPolicyOut (h : cl.cmd = "tdx policy") :
    (parsed L cl).tdxPolicyOut = namedOut cl :=
  congrArg (·.getD "-") (flagVal_eq h (owner_out _ (by simp)))

theorem parsed_sevBase (h : cl.cmd = "sev policy") :
    (parsed L cl).sevBase = namedBase cl ∧ (parsed L cl).sevAllowUnspecifiedVmsas = namedAllow cl :=
  ⟨congrArg (·.getD "") (flagVal_eq h (owner_sev _ (by simp) _ (by simp))),
   congrArg optBool (flagVal_eq h (owner_sev _ (by simp) _ (by simp)))⟩

theorem parsed_tdxBase (h : cl.cmd = "tdx policy") :
    (parsed L cl).tdxBase = namedBase cl :=
  congrArg (·.getD "") (flagVal_eq h (owner_tdx _ (by simp) _ (by simp)))

theorem parsed_sevValidate_rest (h : cl.cmd = "sev validate") :
    (parsed L cl).sevValidateEndorsementPath = namedEndorsementPath cl ∧
    (parsed L cl).sevValidateTestonlyForceGCS = namedForceGCS cl ∧ (parsed L cl).sevBase = namedBase cl :=
  ⟨congrArg (·.getD "") (flagVal_eq h (owner_endorsement _ (by simp))), congrArg optBool (flagVal_eq h owner_force),
   congrArg (·.getD "") (flagVal_eq h (owner_sev _ (by simp) _ (by simp)))⟩

theorem parsed_tdxValidate_rest (h : cl.cmd = "tdx validate") :
    (parsed L cl).tdxValidateEndorsementPath = namedEndorsementPath cl ∧ (parsed L cl).tdxBase = namedBase cl :=
  ⟨congrArg (·.getD "") (flagVal_eq h (owner_endorsement _ (by simp))),
   congrArg (·.getD "") (flagVal_eq h (owner_tdx _ (by simp) _ (by simp)))⟩

end

theorem outSpecOf_path (out outform : String) (s : OutSpec) (h : outSpecOf out outform = some s) : s.path = out := by
  unfold outSpecOf at h
  split at h
  · cases h; rfl
  · split at h
    · cases h; rfl
    · cases h

section
variable {P : Prims Cert Roots Time R Q} {L : Lex} {E : Env Time} {cl : CmdLine} {c : Call Roots Time R Q}

theorem callOf_verify_ok (h : callOf P L E cl = .ok c) (hv : cl.cmd = "verify") :
    (helpFlag cl = true ∧ c = .help) ∨ (helpFlag cl = false ∧ ∃ path, cl.args = [path] ∧
      ((namedShow cl = true ∧ c = .showCmds path (if namedRoot cl == "" then defaultRootCmd else namedRoot cl)) ∨
       (namedShow cl = false ∧ ∃ e rot, Verify.readEndorsement P.vp E.backend path = .ok e ∧
          Verify.rootOfTrust P.vp E.backend (namedRoot cl) = .ok rot ∧
          c = .verify e { snp := none, roots := some rot, expectedUefiSha384 := [], now := E.now,
                          endorsement := none, getter := E.getter }))) := by
  rcases callOf_ok_cases h (by simp [hv]) with hc | ⟨hh, hw⟩
  · exact Or.inl hc
  · rw [callOf_verify _ _ _ _ hw hv hh] at h
    unfold verifyCall at h
    rw [parsed_verifyShow L cl hv, parsed_verifyRoot L cl hv] at h
    refine Or.inr ⟨hh, ?_⟩
    split at h
    · rename_i path hargs
      refine ⟨path, hargs, ?_⟩
      cases hs : namedShow cl with
      | true =>
        simp only [hs, Bool.not_true, Bool.false_eq_true, if_false] at h
        cases h
        exact Or.inl ⟨rfl, rfl⟩
      | false =>
        simp only [hs, Bool.not_false, if_true] at h
        split at h
        · cases h
        · rename_i e he
          split at h
          · cases h
          · rename_i rot hrot
            cases h
            exact Or.inr ⟨rfl, e, rot, he, hrot, rfl⟩
    · cases h

/-- Unlike its `tdx` twin this keeps `wellFormed L cl = true` in the conclusion: `namedVmsas_lt` needs it for the 32-bit
    bound of `C02_cli_sev_config_forwarded`. -/
theorem callOf_sevValidate_ok (h : callOf P L E cl = .ok c) (hv : cl.cmd = "sev validate") :
    (helpFlag cl = true ∧ c = .help) ∨ (helpFlag cl = false ∧ wellFormed L cl = true ∧
      ∃ base att content oe rot, cl.args = [att] ∧ E.readFile att = some content ∧
        Verify.cliEndorsement P.vp E.backend (namedEndorsementPath cl) = .ok oe ∧
        Verify.rootOfTrust P.vp E.backend (namedRoot cl) = .ok rot ∧
        c = .sevValidate content
          { endorsement := oe, basePolicy := base, overwrite := namedOverwrite cl, roots := some rot, now := E.now,
            getter := E.getter, expectedLaunchVmsas := namedVmsas L cl, testonlyForceGCS := namedForceGCS cl }) := by
  rcases callOf_ok_cases h (by simp [hv]) with hc | ⟨hh, hw⟩
  · exact Or.inl hc
  · obtain ⟨h1, h2, _⟩ := parsed_sevValidate_rest L cl hv
    rw [callOf_sevValidate _ _ _ _ hw hv hh] at h
    unfold sevValidateCall at h
    rw [h1, h2, parsed_sevValidateRoot L cl hv, parsed_sevOverwrite L cl (.inl hv),
      parsed_sevLaunchVmsas L cl (.inl hv)] at h
    refine Or.inr ⟨hh, hw, ?_⟩
    split at h
    · cases h
    · cases h
    · rename_i base _
      split at h
      · rename_i att hargs
        split at h
        · cases h
        · rename_i content hcontent
          split at h
          · cases h
          · rename_i oe hoe
            split at h
            · cases h
            · rename_i rot hrot
              cases h
              exact ⟨base, att, content, oe, rot, hargs, hcontent, hoe, hrot, rfl⟩
      · cases h

theorem callOf_tdxValidate_ok (h : callOf P L E cl = .ok c) (hv : cl.cmd = "tdx validate") :
    (helpFlag cl = true ∧ c = .help) ∨ (helpFlag cl = false ∧
      ∃ base att content oe rot, cl.args = [att] ∧ E.readFile att = some content ∧
        Verify.cliEndorsement P.vp E.backend (namedEndorsementPath cl) = .ok oe ∧
        Verify.rootOfTrust P.vp E.backend (namedRoot cl) = .ok rot ∧
        c = .tdxValidate content
          { endorsement := oe, basePolicy := base, overwrite := namedOverwrite cl, roots := some rot, now := E.now,
            getter := E.getter, expectedRAMGiB := namedRamGiB L cl }) := by
  rcases callOf_ok_cases h (by simp [hv]) with hc | ⟨hh, hw⟩
  · exact Or.inl hc
  · rw [callOf_tdxValidate _ _ _ _ hw hv hh] at h
    unfold tdxValidateCall at h
    rw [(parsed_tdxValidate_rest L cl hv).1, parsed_tdxValidateRoot L cl hv, parsed_tdxOverwrite L cl (.inl hv),
      parsed_tdxRamGiB L cl (.inl hv)] at h
    refine Or.inr ⟨hh, ?_⟩
    split at h
    · cases h
    · cases h
    · rename_i base _
      split at h
      · rename_i att hargs
        split at h
        · cases h
        · rename_i content hcontent
          split at h
          · cases h
          · rename_i oe hoe
            split at h
            · cases h
            · rename_i rot hrot
              cases h
              exact ⟨base, att, content, oe, rot, hargs, hcontent, hoe, hrot, rfl⟩
      · cases h

theorem callOf_sevPolicy_ok (h : callOf P L E cl = .ok c) (hv : cl.cmd = "sev policy") :
    c = .help ∨ ∃ base path out e, sevBase P E (parsed L cl) = .ok base ∧ cl.args = [path] ∧ out.path = namedOut cl ∧
      Verify.readEndorsement P.vp E.backend path = .ok e ∧
      c = .sevPolicy e ⟨base, namedVmsas L cl, namedOverwrite cl, namedAllow cl⟩ out := by
  rcases callOf_ok_cases h (by simp [hv]) with ⟨_, hc⟩ | ⟨hh, hw⟩
  · exact Or.inl hc
  · have hcall : callOf P L E cl = sevPolicyCall P E (parsed L cl) cl.args := by simp [callOf, hw, hh, hv]
    rw [hcall] at h
    unfold sevPolicyCall at h
    rw [parsed_sevPolicyOut L cl hv, (parsed_sevBase L cl hv).2, parsed_sevOverwrite L cl (.inr hv),
      parsed_sevLaunchVmsas L cl (.inr hv)] at h
    right
    split at h
    · cases h
    · cases h
    · rename_i base hbase
      split at h
      · rename_i path hargs
        split at h
        · cases h
        · rename_i out hout
          split at h
          · cases h
          · rename_i e he
            cases h
            exact ⟨base, path, out, e, hbase, hargs, outSpecOf_path _ _ _ hout, he, rfl⟩
      · cases h

theorem callOf_tdxPolicy_ok (h : callOf P L E cl = .ok c) (hv : cl.cmd = "tdx policy") :
    c = .help ∨ ∃ base path out e, tdxBase P E (parsed L cl) = .ok base ∧ cl.args = [path] ∧ out.path = namedOut cl ∧
      Verify.readEndorsement P.vp E.backend path = .ok e ∧
      c = .tdxPolicy e ⟨base, namedRamGiB L cl, namedOverwrite cl⟩ out := by
  rcases callOf_ok_cases h (by simp [hv]) with ⟨_, hc⟩ | ⟨hh, hw⟩
  · exact Or.inl hc
  · have hcall : callOf P L E cl = tdxPolicyCall P E (parsed L cl) cl.args := by simp [callOf, hw, hh, hv]
    rw [hcall] at h
    unfold tdxPolicyCall at h
    rw [parsed_tdxPolicyOut L cl hv, parsed_tdxOverwrite L cl (.inr hv), parsed_tdxRamGiB L cl (.inr hv)] at h
    right
    split at h
    · cases h
    · cases h
    · rename_i base hbase
      split at h
      · rename_i path hargs
        split at h
        · cases h
        · rename_i out hout
          split at h
          · cases h
          · rename_i e he
            cases h
            exact ⟨base, path, out, e, hbase, hargs, outSpecOf_path _ _ _ hout, he, rfl⟩
      · cases h

end

theorem lastOf_mem (name : String) (l : List (String × String)) (v : String) (h : lastOf name l = some v) :
    (name, v) ∈ l := by
  induction l with
  | nil => cases h
  | cons x xs ih =>
    unfold lastOf at h
    split at h
    · exact List.mem_cons_of_mem _ (ih (h ▸ ‹_›))
    · split at h
      · rename_i hn
        cases h
        rw [← eq_of_beq hn]
        exact List.mem_cons_self
      · cases h

theorem wellFormed_uint32 (L : Lex) (cl : CmdLine) (n v : String) (hw : wellFormed L cl = true)
    (hk : kindOf cl.cmd n = some "Uint32") (hm : (n, v) ∈ cl.flags) : ∃ k, L.parseUint v = some k ∧ k < 2 ^ 32 := by
  simp only [wellFormed, Bool.and_eq_true, List.all_eq_true] at hw
  have hok := hw.2 _ hm
  simp only [flagOk, hk] at hok
  cases hp : L.parseUint v with
  | none => simp [hp] at hok
  | some k => exact ⟨k, rfl, by simpa [hp] using hok⟩

theorem wellFormed_int (L : Lex) (cl : CmdLine) (n v : String) (hw : wellFormed L cl = true)
    (hk : kindOf cl.cmd n = some "Int") (hm : (n, v) ∈ cl.flags) :
    ∃ i, L.parseInt v = some i ∧ -(2 ^ 63 : Int) ≤ i ∧ i < 2 ^ 63 := by
  simp only [wellFormed, Bool.and_eq_true, List.all_eq_true] at hw
  have hok := hw.2 _ hm
  simp only [flagOk, hk] at hok
  cases hp : L.parseInt v with
  | none => simp [hp] at hok
  | some i => exact ⟨i, rfl, by simpa [hp] using hok⟩

/-- 2^32: pflag's uint32. -/
theorem namedVmsas_lt (L : Lex) (cl : CmdLine) (hw : wellFormed L cl = true)
    (h : cl.cmd = "sev validate" ∨ cl.cmd = "sev policy") : namedVmsas L cl < 2 ^ 32 := by
  unfold namedVmsas
  cases hl : lastOf "launch_vmsas" cl.flags with
  | none => simp
  | some v =>
    obtain ⟨k, hp, hlt⟩ := wellFormed_uint32 L cl _ v hw (kind_launch _ (by simpa using h)) (lastOf_mem _ _ _ hl)
    simpa [hp] using hlt

/-- The endorsement a verifying call decides about (from the call alone, not from its result): the one read from
    the positional file (`verify`), the pre-supplied one, else the one SevValidate / TdxValidate extract. -/
def callEndorsement (W : World Cert Roots Time R Q) : Call Roots Time R Q → Option Verify.Endorsement
  | .verify e _ => some e
  | .sevValidate content o =>
    match W.P.parseAttestation content with
    | some (.sevSnp sa) => Verify.exceptToOption (Verify.sevEndorsement W.P.vp (some sa) (o.toVerify W.tagS))
    | _ => none
  | .tdxValidate content o => Verify.exceptToOption (Verify.tdxEndorsement W.P.vp content (o.toVerify W.tagT))
  | _ => none

def callRoots : Call Roots Time R Q → Option Roots
  | .verify _ o => o.roots
  | .sevValidate _ o => o.roots
  | .tdxValidate _ o => o.roots
  | _ => none

/-- `dflt`: for calls that verify nothing. -/
def callNow (dflt : Time) : Call Roots Time R Q → Time
  | .verify _ o => o.now
  | .sevValidate _ o => o.now
  | .tdxValidate _ o => o.now
  | _ => dflt

/-- `verify` (without --show), `sev validate`, `tdx validate` -/
def Call.verifying : Call Roots Time R Q → Bool
  | .verify _ _ => true
  | .sevValidate _ _ => true
  | .tdxValidate _ _ => true
  | _ => false

theorem emit_cases (E : Env Time) (path : String) (w : Written R Q) :
    (emit E path w = ⟨[], .err "create"⟩) ∨ (emit E path w = ⟨[.create path], .err "write"⟩) ∨
    (emit E path w = ⟨[.create path, .write path w], Verify.accept⟩) := by
  unfold emit
  split
  · exact Or.inl rfl
  · split
    · exact Or.inr (Or.inl rfl)
    · exact Or.inr (Or.inr rfl)

theorem emit_effects_path (E : Env Time) (path : String) (w : Written R Q) :
    ∀ eff ∈ (emit E path w).effects, eff.path = path := by
  rcases emit_cases E path w with h | h | h <;> simp [h, Effect.path]

theorem emit_refused (E : Env Time) (path : String) (w : Written R Q) (h : (emit E path w).result ≠ Verify.accept) :
    (emit E path w).effects = [] ∨
    ((emit E path w).effects = [.create path] ∧ (emit E path w).result = .err "write" ∧
      E.createOk path = true ∧ E.writeOk path = false) := by
  unfold emit at h ⊢
  cases h1 : E.createOk path with
  | false => exact Or.inl rfl
  | true =>
    cases h2 : E.writeOk path with
    | false => exact Or.inr ⟨rfl, rfl, rfl, rfl⟩
    | true =>
      rw [h1, h2] at h
      exact absurd rfl h

theorem fsAfter_other (render : Written R Q → Bytes) (effs : List (Effect R Q)) (p x : String)
    (h : ∀ eff ∈ effs, eff.path = p) (hx : x ≠ p) (fs : String → Option Bytes) :
    fsAfter render fs effs x = fs x := by
  induction effs generalizing fs with
  | nil => rfl
  | cons e rest ih =>
    have he := h e List.mem_cons_self
    have hrest : ∀ eff ∈ rest, eff.path = p := fun eff hm => h eff (List.mem_cons_of_mem _ hm)
    cases e with
    | create q | write q w =>
      simp only [Effect.path] at he
      subst he
      simp only [fsAfter]
      rw [ih hrest]
      simp [hx]

/-! ### concrete worlds for the non-vacuity examples and witnesses of the Props modules -/

def writtenSev : List (Effect R Q) → Option (Policy.SevPolicy R)
  | [] => none
  | .write _ (.sevPolicy _ q) :: _ => some q
  | _ :: rest => writtenSev rest

namespace Example
open Verify.Example in
/-- the world of the C01 examples, with root data `[0x52]` a PEM bundle of one certificate (number 7) -/
def W : World Nat String Nat Unit Unit :=
  { P := { v := Verify.Example.P
           pemCerts := fun b => if b == [0x52] then [7] else []
           poolOf := fun l => if l == [7] then "caller-roots" else "other-roots"
           unmarshalSevPolicy := fun _ => none
           unmarshalTdxPolicy := fun _ => none
           parseAttestation := fun b => if b == [0xA7] then some (.sevSnp Verify.Example.att) else none }
    L := ⟨fun _ => none, fun _ => none⟩
    G := { pem := fun _ => none, dflt := ⟨0, [], 0, [], [], ()⟩, emptyQ := (), emptyR := (),
           goldenSev := fun _ => none, goldenTdx := fun _ => none }
    tagS := fun _ => 0
    tagT := fun _ => 0 }

/-- files: a genuine endorsement `e`, a forged one `f` (unmarshals to nothing), the root `r`, an empty file `z`,
    junk `j`, an attestation `a` -/
def fs : String → Option Bytes := fun p =>
  if p == "e" then some [0xE0] else if p == "r" then some [0x52] else if p == "z" then some []
  else if p == "j" then some [0x58] else if p == "a" then some [0xA7] else none

def E (now : Nat) : Env Nat := { readFile := fs, getter := none, now := now }
end Example

namespace ExampleM
def m4 : Bytes := List.replicate 48 4
def m8 : Bytes := List.replicate 48 8
def mrA : Bytes := List.replicate 48 0xA
def mrB : Bytes := List.replicate 48 0xB

/-- the numerals of the examples -/
def numeral (s : String) : Option Nat :=
  if s == "4" then some 4 else if s == "8" then some 8 else if s == "16" then some 16
  else if s == "32" then some 32 else if s == "64" then some 64 else none

/-- the endorsement lists m4 for 4 VMSAs and m8 for 8, and the MRTD mrA for 16 GiB and mrB for 32 -/
def W : World Nat String Nat Unit Unit :=
  { P := { v := { Verify.Example.P with
                  unmarshalEndorsement := fun b => if b == [0xE0] then some ⟨[0xA0], [0x5A]⟩ else none }
           pemCerts := fun b => if b == [0x52] then [7] else []
           poolOf := fun _ => "caller-roots"
           unmarshalSevPolicy := fun _ => none
           unmarshalTdxPolicy := fun _ => none
           parseAttestation := fun _ => none }
    L := ⟨fun s => numeral s, fun s => (numeral s).map Int.ofNat⟩
    G := { pem := fun _ => none, dflt := ⟨0x30000, [], 0, [], [], ()⟩, emptyQ := (), emptyR := (),
           goldenSev := fun _ => some (some ⟨0x30000, 1, [(4, m4), (8, m8)], [], []⟩)
           goldenTdx := fun _ => some (some [⟨16, false, mrA⟩, ⟨32, false, mrB⟩]) }
    tagS := fun _ => 0
    tagT := fun _ => 0 }

/-- the report (file `a`) carries m4, the quote (file `q`) mrA -/
def M : MeasurePrims :=
  { reportMeasurement := fun b => if b == [0xA7] then some m4 else none
    quoteMrtd := fun b => if b == [0xA8] then some mrA else none
    extracted := fun _ => none
    digest := fun _ => []
    otherChecks := fun _ _ => true }

def E : Env Nat :=
  { readFile := fun p => if p == "e" then some [0xE0] else if p == "r" then some [0x52]
                         else if p == "a" then some [0xA7] else if p == "q" then some [0xA8] else none
    getter := none, now := 150 }

def sevLine (n : String) : CmdLine :=
  ⟨"sev validate", [("launch_vmsas", n), ("endorsement", "e"), ("root_cert", "r")], ["a"]⟩
def tdxLine (n : String) : CmdLine :=
  ⟨"tdx validate", [("ram_gib", n), ("endorsement", "e"), ("root_cert", "r")], ["q"]⟩
end ExampleM

namespace ExampleP
def m4 : Bytes := List.replicate 48 4
def m8 : Bytes := List.replicate 48 8

/-- base policy files: `agree` sets the measurement the endorsement lists for 4 VMSAs, `conflict` another one;
    `empty` is the empty file (the empty policy); `junk` does not decode -/
def W : World Nat String Nat Nat Unit :=
  { P := { v := { Verify.Example.P with
                  unmarshalEndorsement := fun b => if b == [0xE0] then some ⟨[0xA0], [0x5A]⟩ else none }
           pemCerts := fun _ => []
           poolOf := fun _ => "caller-roots"
           unmarshalSevPolicy := fun b =>
             if b == [] then some ⟨0, [], 0, [], [], 0⟩
             else if b == [0xB0] then some ⟨0x30000, m4, 3, [[1, 2]], [], 42⟩
             else if b == [0xB1] then some ⟨0x30000, m8, 0, [], [], 43⟩
             else none
           unmarshalTdxPolicy := fun _ => none
           parseAttestation := fun _ => none }
    L := ⟨fun s => if s == "4" then some 4 else if s == "8" then some 8 else none, fun _ => none⟩
    G := { pem := fun _ => none, dflt := ⟨0x30000, [], 0, [], [], 7⟩, emptyQ := (), emptyR := 0
           goldenSev := fun _ => some (some ⟨0x30000, 5, [(4, m4), (8, m8)], [], []⟩)
           goldenTdx := fun _ => some none }
    tagS := fun _ => 0
    tagT := fun _ => 0 }

def E : Env Nat :=
  { readFile := fun p => if p == "e" then some [0xE0] else if p == "agree" then some [0xB0]
                         else if p == "conflict" then some [0xB1] else if p == "empty" then some []
                         else if p == "junk" then some [0x58] else none
    getter := none, now := 150 }

def line (base : String) (extra : List (String × String)) : CmdLine :=
  ⟨"sev policy", [("base", base), ("launch_vmsas", "4"), ("out", "p.out")] ++ extra, ["e"]⟩
end ExampleP

end GceTcb.RpCli
