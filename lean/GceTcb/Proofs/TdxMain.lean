import GceTcb.Proofs.TdxGlue
/-
C05 — assembly of the end-to-end statement: tdx.MRTD returns a digest exactly on the images with valid
TDVF metadata (`Valid`) whose hand-off block fits, and the digest is then the hash of the specification's
record stream over the declared sections in declared order.  Core-only.
-/
namespace GceTcb.Mrtd
open GceTcb GceTcb.Codec GceTcb.Codecs GceTcb.Intervals GceTcb.TdxMeta GceTcb.TdxHob
open GceTcb.Spec.Mrtd GceTcb.Spec.Intervals

/-! ### Option.mapM over a mapped list -/

theorem mapM_option_some {α β γ : Type} (k : γ → α) (f : α → Option β) (g : γ → β) : ∀ l : List γ,
    (∀ a ∈ l, f (k a) = some (g a)) → (l.map k).mapM f = some (l.map g) := by
  intro l
  induction l with
  | nil => intro _; simp
  | cons a t ih =>
    intro h
    rw [List.map_cons, List.mapM_cons, h a (List.mem_cons_self ..), ih (fun b hb => h b (List.mem_cons_of_mem _ hb))]
    rfl

theorem mapM_option_none {α β γ : Type} (k : γ → α) (f : α → Option β) : ∀ l : List γ,
    (∃ a ∈ l, f (k a) = none) → (l.map k).mapM f = none := by
  intro l
  induction l with
  | nil => rintro ⟨a, h, _⟩; cases h
  | cons a t ih =>
    rintro ⟨b, hb, hn⟩
    rw [List.map_cons, List.mapM_cons]
    rcases List.mem_cons.mp hb with rfl | hb
    · rw [hn]; rfl
    · rw [ih ⟨b, hb, hn⟩]
      cases f (k a) <;> rfl

/-! ### InitMemoryRegion over a region list, both directions -/

/-- the specification section a region stands for under InitMemoryRegion -/
def specSectionOf (measureAll : Bool) (r : Region) : Section :=
  ⟨r.gpr.start, r.gpr.len / 4096, measureOf measureAll r, r.buf.toBytes⟩

theorem initMemoryRegion_ok_iff (m : Bool) (r : Region) (a : Bytes) (hr : r.gpr.start + r.gpr.len ≤ 2 ^ 52) :
    initMemoryRegion m r = .ok a ↔ InitOK m r ∧ a = sectionRecs (specSectionOf m r) := by
  have spec := fun a => initMemoryRegion_eq_spec m r a (by omega) (by omega) (by omega)
  unfold initMemoryRegion at spec ⊢
  rcases initChecks_cases m r with ⟨hok, h⟩ | ⟨hno, c, h⟩ <;> rw [h] at spec ⊢
  · exact ⟨fun h' => ⟨hok, spec a h'⟩, fun ⟨_, e⟩ => by rw [e]; exact congrArg Outcome.ok (spec _ rfl)⟩
  · exact ⟨(fun h' => nomatch h'), fun ⟨h', _⟩ => absurd h' hno⟩

/-- tdx.MRTD's loop over the regions succeeds exactly when every region passes the checks of
    InitMemoryRegion, and the bytes hashed are then the specification's records of the regions. -/
theorem initAll_iff (m : Bool) : ∀ (rs : List Region) (s : Bytes),
    (∀ r ∈ rs, r.gpr.start + r.gpr.len ≤ 2 ^ 52) →
    (initAll m rs = .ok s ↔
      (∀ r ∈ rs, InitOK m r) ∧ s = rs.flatMap (fun r => sectionRecs (specSectionOf m r))) := by
  intro rs
  induction rs with
  | nil => intro s _; simp [initAll, eq_comm]
  | cons r rs ih =>
    intro s hr
    have hinv : initAll m (r :: rs) = .ok s ↔
        ∃ a t, initMemoryRegion m r = .ok a ∧ initAll m rs = .ok t ∧ s = a ++ t := by
      rw [initAll]
      cases initMemoryRegion m r <;> cases initAll m rs <;> simp [eq_comm]
    simp only [hinv, initMemoryRegion_ok_iff m r _ (hr r (List.mem_cons_self ..)),
      ih _ (fun x hx => hr x (List.mem_cons_of_mem _ hx)), List.forall_mem_cons, List.flatMap_cons]
    exact ⟨fun ⟨_, _, ⟨h1, e1⟩, ⟨h2, e2⟩, e⟩ => ⟨⟨h1, h2⟩, by rw [e, e1, e2]⟩,
      fun ⟨⟨h1, h2⟩, e⟩ => ⟨_, _, ⟨h1, rfl⟩, ⟨h2, rfl⟩, e⟩⟩

/-! ### the checks of InitMemoryRegion on the regions parse returns -/

theorem finalRegion_attrs (ma : Bool) (fw : Bytes) (b : HostBuf) (s : TdxSection) :
    (finalRegion ma fw b s).attrs = attrsOf ma s := by
  unfold finalRegion; split <;> rfl

theorem isHob_iff (s : TdxSection) : isHob s = true ↔ s.sectionType = 2 := by simp [isHob]

/-- the host buffer of a returned region: the hand-off block, the firmware-volume bytes, or zeros / nothing -/
theorem finalRegion_buf (ma : Bool) (fw : Bytes) (b : HostBuf) (s : TdxSection) :
    (finalRegion ma fw b s).buf =
      if s.sectionType = 2 then b
      else if s.sectionType = 0 ∨ s.sectionType = 1 then ⟨sliceOf fw s.dataOffset (s.dataOffset + s.dataSize), 0⟩
      else ⟨[], if ma then s.memorySize else 0⟩ := by
  unfold finalRegion
  by_cases t2 : s.sectionType = 2
  · rw [if_pos ((isHob_iff s).mpr t2), if_pos t2]
  · have : ¬ isHob s = true := fun h => t2 ((isHob_iff s).mp h)
    rw [if_neg this, if_neg t2]; rfl

theorem finalRegion_buf_length (ma : Bool) (fw : Bytes) (b : HostBuf) (s : TdxSection)
    (hs : SecOK (fw.length % 2 ^ 32) s) (hb : s.sectionType = 2 → b.length = s.memorySize) :
    (finalRegion ma fw b s).buf.length = if s.sectionType = 3 ∧ ma = false then 0 else s.memorySize := by
  obtain ⟨_, _, s3, s4⟩ := hs
  rw [finalRegion_buf]
  by_cases t2 : s.sectionType = 2
  · rw [if_pos t2, hb t2, if_neg (by omega)]
  · rw [if_neg t2]
    by_cases t01 : s.sectionType = 0 ∨ s.sectionType = 1
    · obtain ⟨f1, f2, _⟩ := s4 t01
      have hle : fw.length % 2 ^ 32 ≤ fw.length := Nat.mod_le _ _
      rw [if_pos t01, if_neg (by omega)]
      simp only [HostBuf.length, sliceOf_length _ _ _ (show s.dataOffset ≤ s.dataOffset + s.dataSize ∧
        s.dataOffset + s.dataSize ≤ fw.length by omega)]
      omega
    · rw [if_neg t01]
      have t3 : s.sectionType = 3 := by omega
      cases ma <;> simp [HostBuf.length, t3]

/-- measured-or-not, as InitMemoryRegion derives it from the attribute the parser passes on -/
theorem measureOf_final (m ma : Bool) (hm : m = true → ma = true) (fw : Bytes) (b : HostBuf) (s : TdxSection) :
    measureOf m (finalRegion ma fw b s) = decide (s.attributes % 2 = 1 ∨ ma = true) := by
  unfold measureOf
  rw [finalRegion_attrs]
  unfold attrsOf
  cases ma with
  | true => simp
  | false =>
    have : m = false := by cases m <;> simp_all
    subst this
    simp only [Bool.false_eq_true, if_false, Bool.or_false, or_false, Nat.and_one_is_mod]
    by_cases h : s.attributes % 2 = 1
    · simp [h]
    · have : s.attributes % 2 = 0 := by omega
      simp [this]

/-- A returned region passes InitMemoryRegion exactly when its section is page-aligned and — when not
    everything is measured — a temporary-memory section flagged for extension is empty (parse gives
    such a section no buffer, so there is nothing InitMemoryRegion could extend with). -/
theorem initChecks_final (m ma : Bool) (hm : m = true → ma = true) (fw : Bytes) (b : HostBuf) (s : TdxSection)
    (hs : SecOK (fw.length % 2 ^ 32) s) (hb : s.sectionType = 2 → b.length = s.memorySize) :
    InitOK m (finalRegion ma fw b s) ↔
      (s.memoryBase % 4096 = 0 ∧ s.memorySize % 4096 = 0) ∧
      (ma = false → s.sectionType = 3 → s.attributes % 2 = 1 → s.memorySize = 0) := by
  have hL := finalRegion_buf_length ma fw b s hs hb
  obtain ⟨s1, s2, _, _⟩ := hs
  have hmax : maxInitialMemory = 2 ^ 32 := by decide
  have hbase : s.memoryBase % 2 ^ 64 = s.memoryBase := Nat.mod_eq_of_lt (by omega)
  have hsize : s.memorySize % 2 ^ 64 = s.memorySize := Nat.mod_eq_of_lt (by omega)
  unfold InitOK
  rw [measureOf_final m ma hm, finalRegion_gpr, hL, decide_eq_true_eq]
  simp only [gprOf, hbase, hsize]
  by_cases h3 : s.sectionType = 3 ∧ ma = false
  · rw [if_pos h3]
    constructor
    · rintro ⟨c1, c2, c3, _⟩
      exact ⟨⟨c2, c3⟩, fun _ _ ha => c1 (.inl ha)⟩
    · rintro ⟨⟨c2, c3⟩, c1⟩
      refine ⟨fun hor => ?_, c2, c3, rfl⟩
      rcases hor with ha | ha
      · exact c1 h3.2 h3.1 ha
      · rw [h3.2] at ha; cases ha
  · rw [if_neg h3]
    exact ⟨fun ⟨_, c2, c3, _⟩ => ⟨⟨c2, c3⟩, fun a b' _ => absurd ⟨b', a⟩ h3⟩,
      fun ⟨⟨c2, c3⟩, _⟩ => ⟨fun _ => rfl, c2, c3, by omega⟩⟩

/-! ### the hand-off block against the specification, without a bound on the number of descriptors -/

theorem hobList_length (base : Nat) (secs un : List (Nat × Nat)) (dea : Bool) :
    (Spec.TdHob.hobList base secs un dea).length = 64 + 48 * (secs.length + un.length) := by
  have hr : ∀ rt at' st ln, (Spec.TdHob.resource rt at' st ln).length = 48 := by
    intro rt at' st ln
    simp [Spec.TdHob.resource, Spec.TdHob.header, Spec.TdHob.u16, Spec.TdHob.u32, Spec.TdHob.u64,
      Spec.TdHob.zeros, leBytes_length]
  unfold Spec.TdHob.hobList
  simp only [List.length_append]
  rw [flatMap_length_const _ 48 secs (fun a => hr _ _ _ _), flatMap_length_const _ 48 un (fun a => hr _ _ _ _)]
  simp [Spec.TdHob.phit, Spec.TdHob.endMarker, Spec.TdHob.header, Spec.TdHob.u16, Spec.TdHob.u32,
    Spec.TdHob.u64, leBytes_length]
  omega

/-- getTDHOBList against the specification's hand-off block, for a section shorter than 2^63 and
    unaccepted ranges that do not overflow, provided the 32-bit descriptor arithmetic cannot wrap on a
    block that fits (`hw`; for a TD_HOB section of validated metadata — at most 4 GiB, inside the 52-bit
    space — a list on which it wraps is longer than 4 GiB, and both sides refuse it): the block the
    specification describes is what getTDHOBList returns, and there is none exactly when it refuses. -/
theorem tdHob_eq (hob : Gpr) (priv un : List Gpr) (dea : Bool) (hl : hob.len < 2 ^ 63) (hun : NoOverflow un)
    (hw : 64 + 48 * (priv.length + un.length) ≤ hob.len →
      48 * (un.length + priv.length) + 56 < 2 ^ 32 ∧ hob.start + 56 + 48 * (un.length + priv.length) < 2 ^ 64) :
    Spec.TdHob.tdHob hob.start hob.len (priv.map pair) (un.map pair) dea =
      match getTDHOBList hob priv un dea with
      | .ok b => some b.toBytes
      | _ => none := by
  have hslen := hobList_length hob.start (priv.map pair) (un.map pair) dea
  rw [List.length_map, List.length_map] at hslen
  rw [getTDHOBList_eq hob priv un dea hl]
  unfold Spec.TdHob.tdHob
  simp only [hslen]
  by_cases hfit : 64 + 48 * (priv.length + un.length) > hob.len
  · rw [if_pos hfit, if_neg (by omega)]
  · obtain ⟨w1, w2⟩ := hw (by omega)
    rw [if_neg hfit, if_pos (by omega), ← hobContent_eq hob priv un dea w1 w2 hun]
    rfl

/-! ### sections of the metadata as sections of the specification -/

/-- a TDVF metadata section entry as the specification reads it -/
def metaOf (s : TdxSection) : MetaSection :=
  ⟨s.dataOffset, s.dataSize, s.memoryBase, s.memorySize, s.sectionType, s.attributes⟩

/-- the specification's loaded section for a metadata section, `hb` being the hand-off block -/
def specSec (ma : Bool) (fw hb : Bytes) (s : TdxSection) : Section :=
  ⟨s.memoryBase, s.memorySize / 4096, decide (s.attributes % 2 = 1 ∨ ma = true),
    if s.sectionType = 0 ∨ s.sectionType = 1 then sub fw s.dataOffset s.memorySize
    else if s.sectionType = 2 then hb else Spec.Mrtd.zeros s.memorySize⟩

theorem toSection_eq (mode : Spec.Mrtd.Mode) (fw : Bytes) (sb : List (Nat × Nat)) (secs : List MetaSection) (hb : Bytes)
    (s : TdxSection)
    (hh : s.sectionType = 2 → Spec.TdHob.tdHob s.memoryBase s.memorySize
      (secs.map fun t => (t.memoryAddress, t.memoryDataSize)) (unaccepted mode sb secs) mode.disableEarlyAccept = some hb) :
    toSection mode fw sb secs (metaOf s) = some (specSec mode.measuresAll fw hb s) := by
  unfold toSection content metaOf specSec
  simp only []
  by_cases t01 : s.sectionType = 0 ∨ s.sectionType = 1
  · rw [if_pos t01, if_pos t01]; rfl
  · rw [if_neg t01, if_neg t01]
    by_cases t2 : s.sectionType = 2
    · rw [if_pos t2, if_pos t2, hh t2]; rfl
    · rw [if_neg t2, if_neg t2]; rfl

theorem toSection_none (mode : Spec.Mrtd.Mode) (fw : Bytes) (sb : List (Nat × Nat)) (secs : List MetaSection)
    (s : TdxSection) (t2 : s.sectionType = 2)
    (hh : Spec.TdHob.tdHob s.memoryBase s.memorySize
      (secs.map fun t => (t.memoryAddress, t.memoryDataSize)) (unaccepted mode sb secs) mode.disableEarlyAccept = none) :
    toSection mode fw sb secs (metaOf s) = none := by
  unfold toSection content metaOf
  simp only []
  rw [if_neg (by omega), if_pos t2, hh]; rfl

theorem toBytes_nil (n : Nat) : (⟨[], n⟩ : HostBuf).toBytes = Spec.Mrtd.zeros n := by
  simp [HostBuf.toBytes, Spec.Mrtd.zeros]

/-- The records InitMemoryRegion writes for a returned region are the specification's records of the
    section: same base, pages and measured flag; same contents wherever the contents are measured. -/
theorem recs_eq (m ma : Bool) (hm : m = true → ma = true) (fw : Bytes) (b : HostBuf) (hb : Bytes) (s : TdxSection)
    (hs : SecOK (fw.length % 2 ^ 32) s) (hbh : s.sectionType = 2 → b.toBytes = hb)
    (htemp : ma = false → s.sectionType = 3 → s.attributes % 2 = 1 → s.memorySize = 0) :
    sectionRecs (specSectionOf m (finalRegion ma fw b s)) = sectionRecs (specSec ma fw hb s) := by
  obtain ⟨_, _, s3, s4⟩ := hs
  unfold specSectionOf specSec
  rw [measureOf_final m ma hm, finalRegion_gpr, finalRegion_buf]
  simp only [gprOf]
  by_cases t2 : s.sectionType = 2
  · rw [if_pos t2, if_neg (by omega), if_pos t2, hbh t2]
  · rw [if_neg t2]
    by_cases t01 : s.sectionType = 0 ∨ s.sectionType = 1
    · obtain ⟨f1, _, _⟩ := s4 t01
      rw [if_pos t01, if_pos t01]
      congr 2
      simp only [HostBuf.toBytes, sliceOf, sub, List.replicate_zero, List.append_nil, f1]
      congr 1; omega
    · rw [if_neg t01, if_neg t01, if_neg t2]
      have t3 : s.sectionType = 3 := by omega
      cases ma with
      | true => simp only [if_true, toBytes_nil]
      | false =>
        simp only [Bool.false_eq_true, if_false, toBytes_nil, or_false]
        by_cases ha : s.attributes % 2 = 1
        · rw [htemp rfl t3 ha]
        · have : decide (s.attributes % 2 = 1) = false := by simp [ha]
          rw [this, sectionRecs_not_extended, sectionRecs_not_extended]

/-! ### valid TDVF metadata, and the end-to-end equivalence for one parser configuration -/

/-- **Valid TDVF metadata** of image `fw` for a launch mode — everything tdx.MRTD demands before it
    returns a digest, stated on the image and the section list:
    * `located`: the GUIDed table at the end of the image has the TDX metadata offset block, the
      metadata GUID precedes the descriptor at that offset, and descriptor + section entries decode to `md`;
    * `wellFormed`: `MetaValid` (magic, version, length, section ranges, one TD_HOB, a BFV, sizes add up);
    * `disjoint`: no address belongs to two declared memory ranges;
    * `hobIndex`: the TD_HOB section is among the first 2^31 section entries (the parser keeps its index
      in an int32; with 32 bytes per entry this can only fail for an image of 64 GiB or more — see
      `parse_panic_iff` for what happens then);
    * `aligned`: every memory range starts and ends on a 4 KiB page boundary;
    * `tempMem`: unless everything is measured, a temporary-memory section flagged for extension is
      empty (the parser attaches no buffer to it, so InitMemoryRegion refuses it otherwise). -/
structure Valid (mode : Spec.Mrtd.Mode) (fw : Bytes) (md : TdxMetadata) : Prop where
  located : readTDXMetadata fw = .ok md
  wellFormed : MetaValid (fw.length % 2 ^ 32) md
  disjoint : DisjointL (md.sections.map gprOf)
  hobIndex : md.sections.findIdx isHob < 2 ^ 31
  aligned : ∀ s ∈ md.sections, s.memoryBase % 4096 = 0 ∧ s.memorySize % 4096 = 0
  tempMem : mode.measuresAll = false →
    ∀ s ∈ md.sections, s.sectionType = 3 → s.attributes % 2 = 1 → s.memorySize = 0

theorem pairs_eq (ss : List TdxSection) :
    ((ss.map metaOf).map fun t => (t.memoryAddress, t.memoryDataSize)) = (ss.map gprOf).map pair := by
  rw [List.map_map, List.map_map]; rfl

/-- The specification's stream over the sections of accepted metadata: their records, with what
    getTDHOBList returns as the contents of the TD_HOB section `h`; there is no stream exactly when
    getTDHOBList refuses.  `hun` is the interval theorem for the mode, on these sections. -/
theorem stream_eq (po : ParserOpts) (mode : Spec.Mrtd.Mode) (fw : Bytes) (banks : List Gpr) (sb : List (Nat × Nat))
    (md : TdxMetadata) (h : TdxSection)
    (h1 : mode.measuresAll = po.measureAll) (h2 : mode.disableEarlyAccept = po.disableEarlyAccept)
    (hun : unaccepted mode sb (md.sections.map metaOf) = (unacceptedMemRanges (md.sections.map gprOf) banks).map pair ∧
      NoOverflow (unacceptedMemRanges (md.sections.map gprOf) banks))
    (hmd : extractTDXMetadata fw = .ok md) (hh : md.sections.find? isHob = some h) :
    stream mode fw sb (md.sections.map metaOf) =
      match getTDHOBList (gprOf h) (md.sections.map gprOf) (unacceptedMemRanges (md.sections.map gprOf) banks)
          po.disableEarlyAccept with
      | .ok b => some ((md.sections.map (specSec po.measureAll fw b.toBytes)).flatMap sectionRecs)
      | _ => none := by
  obtain ⟨hv, _, _⟩ := extract_ok fw md hmd
  obtain ⟨h', e1, e2, e3, e4, _⟩ := hob_unique md.sections hv.oneHob
  obtain rfl : h' = h := Option.some.inj (e1.symm.trans hh)
  have ht2 := (isHob_iff h').mp e3
  obtain ⟨k1, k2, _, _⟩ := hv.secs h' e2
  have hmax : maxInitialMemory = 2 ^ 32 := by decide
  have hsp := tdHob_eq (gprOf h') (md.sections.map gprOf) (unacceptedMemRanges (md.sections.map gprOf) banks)
    po.disableEarlyAccept (by simp only [gprOf]; omega) hun.2 (by simp only [gprOf]; omega)
  unfold stream
  cases hg : getTDHOBList (gprOf h') (md.sections.map gprOf) (unacceptedMemRanges (md.sections.map gprOf) banks)
      po.disableEarlyAccept with
  | ok b =>
    rw [hg] at hsp
    rw [mapM_option_some metaOf _ (specSec po.measureAll fw b.toBytes) md.sections]
    · rfl
    · intro x hx
      rw [← h1]
      apply toSection_eq
      intro t2
      rw [e4 x hx ((isHob_iff x).mpr t2), pairs_eq, hun.1, h2]
      exact hsp
  | _ =>
    rw [hg] at hsp
    rw [mapM_option_none metaOf _ md.sections ⟨h', e2, toSection_none _ _ _ _ _ ht2 (by rw [pairs_eq, hun.1, h2]; exact hsp)⟩]
    rfl

/-- One parser configuration (`po`, the banks it is given, the Measurement flag `m`) against one mode
    of the specification.  `hun` is the interval theorem for that mode. -/
theorem stream_iff (po : ParserOpts) (m : Bool) (mode : Spec.Mrtd.Mode) (fw : Bytes) (banks : List Gpr)
    (sb : List (Nat × Nat)) (hm : m = true → po.measureAll = true)
    (h1 : mode.measuresAll = po.measureAll) (h2 : mode.disableEarlyAccept = po.disableEarlyAccept)
    (hun : ∀ ss : List TdxSection, NoOverflow (ss.map gprOf) → DisjointL (ss.map gprOf) →
      unaccepted mode sb (ss.map metaOf) = (unacceptedMemRanges (ss.map gprOf) banks).map pair ∧
      NoOverflow (unacceptedMemRanges (ss.map gprOf) banks))
    (s : Bytes) :
    (∃ regions, parse po fw banks = .ok regions ∧ initAll m regions = .ok s) ↔
      ∃ md, Valid mode fw md ∧ stream mode fw sb (md.sections.map metaOf) = some s := by
  -- with the hand-off block `b` in the TD_HOB section `h`: which sections pass InitMemoryRegion, and
  -- that their records are then the specification's
  have common : ∀ md h b, extractTDXMetadata fw = .ok md → md.sections.find? isHob = some h →
      getTDHOBList (gprOf h) (md.sections.map gprOf) (unacceptedMemRanges (md.sections.map gprOf) banks)
        po.disableEarlyAccept = .ok b →
      (∀ x ∈ md.sections, InitOK m (finalRegion po.measureAll fw b x) ↔
        (x.memoryBase % 4096 = 0 ∧ x.memorySize % 4096 = 0) ∧
        (po.measureAll = false → x.sectionType = 3 → x.attributes % 2 = 1 → x.memorySize = 0)) ∧
      ((∀ x ∈ md.sections, po.measureAll = false → x.sectionType = 3 → x.attributes % 2 = 1 → x.memorySize = 0) →
        (md.sections.map (finalRegion po.measureAll fw b)).flatMap (fun r => sectionRecs (specSectionOf m r)) =
          (md.sections.map (specSec po.measureAll fw b.toBytes)).flatMap sectionRecs) := by
    intro md h b hmd hh hg
    obtain ⟨hv, _, _⟩ := extract_ok fw md hmd
    obtain ⟨h', e1, e2, _, e4, _⟩ := hob_unique md.sections hv.oneHob
    obtain rfl : h' = h := Option.some.inj (e1.symm.trans hh)
    have hblen := getTDHOBList_ok_length _ _ _ _ b (Nat.lt_of_le_of_lt (hv.secs h' e2).1 (by decide)) hg
    refine ⟨fun x hx => initChecks_final m po.measureAll hm fw b x (hv.secs x hx)
      (fun t2 => by rw [e4 x hx ((isHob_iff x).mpr t2)]; exact hblen), fun ht => ?_⟩
    rw [List.flatMap_map, List.flatMap_map]
    exact flatMap_congr_mem _ fun x hx =>
      recs_eq m po.measureAll hm fw b b.toBytes x (hv.secs x hx) (fun _ => rfl) (ht x hx)
  constructor
  · rintro ⟨regions, hparse, hinit⟩
    obtain ⟨i1, i2⟩ := (initAll_iff m _ s (parse_ok_facts po fw banks regions hparse).1).mp hinit
    obtain ⟨md, h, b, hmd, hd, hh, hi31, hg, rfl⟩ := (parse_iff po fw banks regions).mp hparse
    obtain ⟨c1, c2⟩ := common md h b hmd hh hg
    have hchk := fun x hx => (c1 x hx).mp (i1 _ (List.mem_map_of_mem hx))
    have hmv := (extract_iff_valid fw md).mp hmd
    refine ⟨md, ⟨hmv.1, hmv.2, hd, hi31, fun x hx => (hchk x hx).1, fun hma x hx => (hchk x hx).2 (h1 ▸ hma)⟩, ?_⟩
    rw [stream_eq po mode fw banks sb md h h1 h2 (hun _ (sections_noOverflow hmv.2.secs) hd) hmd hh, hg, i2,
      c2 fun x hx => (hchk x hx).2]
  · rintro ⟨md, hvalid, hstream⟩
    have hmd := (extract_iff_valid fw md).mpr ⟨hvalid.located, hvalid.wellFormed⟩
    obtain ⟨h, hh, _⟩ := hob_unique md.sections hvalid.wellFormed.oneHob
    rw [stream_eq po mode fw banks sb md h h1 h2
      (hun _ (sections_noOverflow hvalid.wellFormed.secs) hvalid.disjoint) hmd hh] at hstream
    split at hstream
    · rename_i b hg
      obtain ⟨c1, c2⟩ := common md h b hmd hh hg
      have htemp : ∀ x ∈ md.sections, po.measureAll = false → x.sectionType = 3 → x.attributes % 2 = 1 →
          x.memorySize = 0 := fun x hx hma => hvalid.tempMem (h1 ▸ hma) x hx
      have hparse := (parse_iff po fw banks _).mpr ⟨md, h, b, hmd, hvalid.disjoint, hh, hvalid.hobIndex, hg, rfl⟩
      refine ⟨_, hparse, (initAll_iff m _ s (parse_ok_facts po fw banks _ hparse).1).mpr ⟨?_, ?_⟩⟩
      · intro r hr
        obtain ⟨x, hx, rfl⟩ := List.mem_map.mp hr
        exact (c1 x hx).mpr ⟨hvalid.aligned x hx, htemp x hx⟩
      · rw [c2 htemp]; exact (Option.some.inj hstream).symm
    · cases hstream

/-! ### the interval theorem in the form the modes need -/

theorem unaccepted_model_eq (ps rs : List Gpr)
    (hnp : NoOverflow ps) (hnr : NoOverflow rs) (hdp : DisjointL ps) (hdr : DisjointL rs) :
    unacceptedMemRanges ps rs = (difference (rs.map toIv) (ps.map toIv)).map ofIv :=
  unacceptedCore_eq_difference ps rs _ _ (sortByStart_perm ps)
    (sortByStart_sorted ps (fun g hg => by have := hnp g hg; omega)) (sortByStart_perm rs)
    (sortByStart_sorted rs (fun g hg => by have := hnr g hg; omega)) hnp hnr hdp hdr

/-- the unaccepted ranges lie inside the banks, so they do not overflow either -/
theorem unaccepted_noOverflow (ps rs : List Gpr)
    (hnp : NoOverflow ps) (hnr : NoOverflow rs) (hdp : DisjointL ps) (hdr : DisjointL rs) :
    NoOverflow (unacceptedMemRanges ps rs) := by
  have hsp := sortByStart_sorted ps (fun g hg => by have := hnp g hg; omega)
  have hsr := sortByStart_sorted rs (fun g hg => by have := hnr g hg; omega)
  have hpt := unacceptedCore_pointwise ps rs _ _ (sortByStart_perm ps) hsp (sortByStart_perm rs) hsr hnp hnr hdp hdr
  have hne := (unacceptedCore_sorted _ _ hsp hsr (noOverflow_perm (sortByStart_perm ps).symm hnp)
    (noOverflow_perm (sortByStart_perm rs).symm hnr) (disjoint_perm (sortByStart_perm ps).symm hdp)
    (disjoint_perm (sortByStart_perm rs).symm hdr)).1
  intro a ha
  have ha0 := hne a ha
  have hcov : Covered (a.start + a.len - 1) (unacceptedCore (sortByStart ps) (sortByStart rs)) :=
    ⟨a, ha, by simp only [Gpr.mem]; omega⟩
  obtain ⟨⟨g, hg, hgx⟩, _⟩ := (hpt _).mp hcov
  have := hnr g hg
  simp only [Gpr.mem] at hgx
  omega

theorem spec_unaccepted_eq (mode : Spec.Mrtd.Mode) (hmode : mode ≠ .default) (banks : List Gpr)
    (hnb : NoOverflow banks) (hdb : DisjointL banks) (ss : List TdxSection)
    (hno : NoOverflow (ss.map gprOf)) (hd : DisjointL (ss.map gprOf)) :
    unaccepted mode (banks.map pair) (ss.map metaOf) = (unacceptedMemRanges (ss.map gprOf) banks).map pair ∧
    NoOverflow (unacceptedMemRanges (ss.map gprOf) banks) := by
  refine ⟨?_, unaccepted_noOverflow _ _ hno hnb hd hdb⟩
  rw [unaccepted_model_eq _ _ hno hnb hd hdb]
  have e1 : ((banks.map pair).map fun b => (⟨b.1, b.1 + b.2⟩ : Iv)) = banks.map toIv := by
    rw [List.map_map]; rfl
  have e2 : ((ss.map metaOf).map fun s => (⟨s.memoryAddress, s.memoryAddress + s.memoryDataSize⟩ : Iv)) =
      (ss.map gprOf).map toIv := by
    rw [List.map_map, List.map_map]; rfl
  have e3 : ∀ l : List Iv, (l.map fun i => (i.lo, i.hi - i.lo)) = (l.map ofIv).map pair := by
    intro l; rw [List.map_map]; rfl
  cases mode with
  | default => exact absurd rfl hmode
  | measureAll => simp only [unaccepted]; rw [e1, e2, e3]
  | measureAllEarly => simp only [unaccepted]; rw [e1, e2, e3]

theorem unaccepted_no_banks (ps : List Gpr) : unacceptedMemRanges ps [] = [] := rfl

/-! ### tdx.MRTD -/

/-- the launch mode tdx.MRTD selects: DisableUnacceptedMemory wins over MeasureAllRegions -/
def modeOf (o : LaunchOptions) : Spec.Mrtd.Mode :=
  if o.disableUnacceptedMemory then .measureAllEarly else if o.measureAllRegions then .measureAll else .default

theorem mrtd_ok_iff (H : Bytes → Bytes) (o : LaunchOptions) (fw d : Bytes) :
    mrtd H o fw = .ok d ↔
      ∃ s, (∃ regions, mrtdRegions o fw = .ok regions ∧ initAll o.measureAllRegions regions = .ok s) ∧ H s = d := by
  unfold mrtd mrtdStream
  cases hr : mrtdRegions o fw with
  | err c => simp
  | panic p => simp
  | ok regions =>
    simp only []
    cases hi : initAll o.measureAllRegions regions with
    | err c => simp [hi]
    | panic p => simp [hi]
    | ok s => simp [hi]

/-- tdx.MRTD, every hash and every option combination: the digest is the hash of the
    specification's TDH.MEM.PAGE.ADD / TDH.MR.EXTEND record stream of the regions that
    ExtractMaterialGuestPhysicalRegions* returned, in order, one page at a time. -/
theorem mrtd_eq_region_stream (H : Bytes → Bytes) (o : LaunchOptions) (fw : Bytes) (d : Bytes)
    (h : mrtd H o fw = .ok d) :
    ∃ regions, mrtdRegions o fw = .ok regions ∧
      d = H (regions.flatMap (fun r => sectionRecs (specSectionOf o.measureAllRegions r))) := by
  obtain ⟨s, ⟨regions, hr, hi⟩, rfl⟩ := (mrtd_ok_iff H o fw d).mp h
  obtain ⟨po, banks, e⟩ := mrtdRegions_eq o fw
  exact ⟨regions, hr, by rw [((initAll_iff _ regions s (parse_ok_facts po fw banks regions (e ▸ hr)).1).mp hi).2]⟩

/-- **End-to-end.**  tdx.MRTD returns `d` exactly when the image has valid TDVF metadata `md` for the
    selected mode and `d` is the hash of the specification's record stream (which exists exactly when
    the generated hand-off block fits its section).  Every hash, every image (no size bound), every
    option combination; the banks are only constrained in the modes that use them. -/
theorem mrtd_iff (H : Bytes → Bytes) (o : LaunchOptions) (fw d : Bytes)
    (hb : modeOf o ≠ .default → NoOverflow o.banks ∧ DisjointL o.banks) :
    mrtd H o fw = .ok d ↔
      ∃ md, Valid (modeOf o) fw md ∧
        mrtdOf H (modeOf o) fw (o.banks.map pair) (md.sections.map metaOf) = some d := by
  rw [mrtd_ok_iff]
  simp only [mrtdOf, Option.map_eq_some_iff]
  suffices hcore : ∀ s, (∃ regions, mrtdRegions o fw = .ok regions ∧ initAll o.measureAllRegions regions = .ok s) ↔
      ∃ md, Valid (modeOf o) fw md ∧ stream (modeOf o) fw (o.banks.map pair) (md.sections.map metaOf) = some s by
    simp only [hcore]
    exact ⟨fun ⟨s, ⟨md, hv, hs⟩, hd⟩ => ⟨md, hv, s, hs, hd⟩, fun ⟨md, hv, s, hs, hd⟩ => ⟨s, ⟨md, hv, hs⟩, hd⟩⟩
  intro s
  unfold mrtdRegions extractNoUnacceptedMemory extractTDHOBBug extractDefault
  by_cases hdu : o.disableUnacceptedMemory = true
  · have hmode : modeOf o = .measureAllEarly := by simp [modeOf, hdu]
    rw [hmode] at hb ⊢
    obtain ⟨hnb, hdb⟩ := hb (by decide)
    rw [if_pos hdu]
    exact stream_iff { measureAll := true } o.measureAllRegions .measureAllEarly fw o.banks _ (fun _ => rfl) rfl rfl
      (fun ss hno hd => spec_unaccepted_eq .measureAllEarly (by decide) o.banks hnb hdb ss hno hd) s
  · rw [if_neg hdu]
    by_cases hma : o.measureAllRegions = true
    · have hmode : modeOf o = .measureAll := by simp [modeOf, hdu, hma]
      rw [hmode] at hb ⊢
      obtain ⟨hnb, hdb⟩ := hb (by decide)
      rw [if_pos hma]
      exact stream_iff { disableEarlyAccept := true, measureAll := true } o.measureAllRegions .measureAll fw o.banks _
        (fun _ => rfl) rfl rfl
        (fun ss hno hd => spec_unaccepted_eq .measureAll (by decide) o.banks hnb hdb ss hno hd) s
    · have hmode : modeOf o = .default := by simp [modeOf, hdu, hma]
      rw [hmode, if_neg hma]
      exact stream_iff { disableEarlyAccept := true } o.measureAllRegions .default fw [] _
        (fun h => absurd h hma) rfl rfl (fun ss _ _ => ⟨rfl, fun g hg => by cases hg⟩) s

end GceTcb.Mrtd
