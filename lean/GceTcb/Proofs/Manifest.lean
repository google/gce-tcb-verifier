import GceTcb.Model.Manifest
/-
For C13 (manifest merge keeps a faithful index): the invariant `Inv`, the shapes of the merge (`addEntry_cases`)
and what follows from them, and the run seen from inside the output directory.
-/
namespace GceTcb.Manifest

def Unique (m : List Entry) : Prop :=
  (m.map (·.path)).Nodup ∧ (m.map (·.digest)).Nodup

def Faithful (m : List Entry) (fs : List (String × String)) : Prop :=
  ∀ x ∈ m, lookup fs x.path = some x.digest

def Inv (s : Store) : Prop := Unique s.manifest ∧ Faithful s.manifest s.files

theorem entryMapsOk_iff (m : List Entry) : entryMapsOk m = true ↔ Unique m := by
  simp [entryMapsOk, Unique]

theorem find_put {β : Type} (fs : List (String × β)) (p q : String) (v : β) :
    ((p, v) :: fs.filter (fun x => x.1 != p)).find? (fun x => x.1 == q) =
      if q = p then some (p, v) else fs.find? (fun x => x.1 == q) := by
  by_cases h : q = p
  · subst h; simp
  · have hpq : (p == q) = false := beq_eq_false_iff_ne.mpr (Ne.symm h)
    simp only [List.find?_cons, hpq, if_neg h, List.find?_filter]
    congr 1
    funext a
    by_cases ha : a.1 = q <;> simp [ha, h]

theorem lookup_writeFile (fs : List (String × String)) (p d q : String) :
    lookup (writeFile fs p d) q = if q = p then some d else lookup fs q := by
  rw [lookup, writeFile, find_put, apply_ite (Option.map _)]
  rfl

theorem inj_of_nodup_map {α β : Type} (f : α → β) (l : List α) (hn : (l.map f).Nodup)
    {x y : α} (hx : x ∈ l) (hy : y ∈ l) (h : f x = f y) : x = y := by
  induction l with
  | nil => cases hx
  | cons a t ih =>
    simp only [List.map_cons, List.nodup_cons] at hn
    rcases List.mem_cons.mp hx with rfl | hx' <;> rcases List.mem_cons.mp hy with rfl | hy'
    · rfl
    · exact absurd (h ▸ List.mem_map_of_mem (f := f) hy') hn.1
    · exact absurd (h ▸ List.mem_map_of_mem (f := f) hx') hn.1
    · exact ih hn.2 hx' hy'

theorem nodup_map_snoc {α β : Type} (f : α → β) {l : List α} {e : α} (hn : (l.map f).Nodup)
    (h : ∀ x ∈ l, f x ≠ f e) : ((l ++ [e]).map f).Nodup := by
  rw [List.map_append, List.nodup_append]
  refine ⟨hn, by simp, fun a ha b hb => ?_⟩
  obtain ⟨x, hx, rfl⟩ := List.mem_map.mp ha
  cases List.mem_singleton.mp hb
  exact h x hx

theorem nodup_map_replace {α β : Type} (f : α → β) (l : List α) (e : α)
    (c : α → Bool) (hn : (l.map f).Nodup)
    (h1 : ∀ x ∈ l, c x = true → ∀ y ∈ l, c y = true → x = y ∨ f x = f y)
    (h2 : ∀ y ∈ l, c y = false → f y ≠ f e) :
    ((l.map (fun x => if c x then e else x)).map f).Nodup := by
  rw [List.Nodup, List.pairwise_map, List.pairwise_map]
  refine (List.pairwise_map.mp hn).imp_of_mem fun {a b} ha hb hab => ?_
  by_cases ca : c a = true <;> by_cases cb : c b = true <;> simp only [ca, cb, if_true, if_false]
  · exact fun _ => (h1 a ha ca b hb cb).elim (fun h => hab (h ▸ rfl)) hab
  · exact fun h => h2 b hb (Bool.not_eq_true _ ▸ cb) h.symm
  · exact h2 a ha (Bool.not_eq_true _ ▸ ca)
  · exact hab

theorem nodup_replace_keys (k k' : Entry → String) (m : List Entry) (e : Entry)
    (h₁ : (m.map k).Nodup) (h₂ : (m.map k').Nodup) (hx : ∀ y ∈ m, k y ≠ k e → k' y ≠ k' e) :
    ((m.map fun x => if k x == k e then e else x).map k).Nodup ∧
    ((m.map fun x => if k x == k e then e else x).map k').Nodup := by
  have hc : ∀ {x : Entry}, (k x == k e) = true → k x = k e := fun h => eq_of_beq h
  refine ⟨nodup_map_replace k m e _ h₁ (fun x _ cx y _ cy => .inr ((hc cx).trans (hc cy).symm))
      (fun y _ cy => ne_of_beq_false cy),
    nodup_map_replace k' m e _ h₂
      (fun x hx cx y hy cy => .inl (inj_of_nodup_map k m h₁ hx hy ((hc cx).trans (hc cy).symm)))
      (fun y hy cy => hx y hy (ne_of_beq_false cy))⟩

theorem find_none_key {k : Entry → String} {m : List Entry} {e : Entry}
    (h : m.find? (fun x => k x == k e) = none) : ∀ x ∈ m, k x ≠ k e :=
  fun x hx => by simpa using List.find?_eq_none.mp h x hx

theorem find_some_key {k : Entry → String} {m : List Entry} {e p : Entry}
    (h : m.find? (fun x => k x == k e) = some p) : p ∈ m ∧ k p = k e :=
  ⟨List.mem_of_find?_eq_some h, by simpa using List.find?_some h⟩

/-- The shapes of the merge: the entry is appended, or it replaces the entry with its key `k` (path, else digest) in
    `m'`, the manifest less at most entries with the new digest. -/
theorem addEntry_cases (m : List Entry) (e : Entry) :
    (addEntry m e = m ++ [e] ∧ (Unique m → ∀ x ∈ m, x.path ≠ e.path ∧ x.digest ≠ e.digest)) ∨
    ∃ (k k' : Entry → String) (m' : List Entry),
      (k = Entry.path ∧ k' = Entry.digest ∨ k = Entry.digest ∧ k' = Entry.path) ∧
      addEntry m e = m'.map (fun x => if k x == k e then e else x) ∧
      (∃ p ∈ m', k p = k e) ∧ m'.Sublist m ∧ (∀ x ∈ m, x.digest ≠ e.digest → x ∈ m') ∧
      (Unique m → ∀ y ∈ m', k y ≠ k e → k' y ≠ k' e) := by
  rw [addEntry]
  by_cases hok : entryMapsOk m = true
  case neg =>
    exact .inl ⟨by rw [if_pos (by simpa using hok)], fun hu => absurd ((entryMapsOk_iff m).mpr hu) hok⟩
  rw [hok, if_neg (by decide)]
  cases hp : m.find? (fun x => x.path == e.path) with
  | none =>
    cases hd : m.find? (fun x => x.digest == e.digest) with
    | none => exact .inl ⟨rfl, fun _ x hx => ⟨find_none_key hp x hx, find_none_key hd x hx⟩⟩
    | some q =>
      obtain ⟨hqm, hqd⟩ := find_some_key hd
      exact .inr ⟨Entry.digest, Entry.path, m, .inr ⟨rfl, rfl⟩, rfl, ⟨q, hqm, hqd⟩, .refl _, fun x hx _ => hx,
        fun _ y hy _ => find_none_key hp y hy⟩
  | some p =>
    obtain ⟨hpm, hpp⟩ := find_some_key hp
    by_cases hc : ((m.find? fun x => x.digest == e.digest).isSome && p.digest != e.digest) = true
    · refine .inr ⟨Entry.path, Entry.digest, removeDigest m e.digest, .inl ⟨rfl, rfl⟩, by simp only [if_pos hc],
        ⟨p, List.mem_filter.mpr ⟨hpm, (Bool.and_eq_true .. ▸ hc).2⟩, hpp⟩, List.filter_sublist,
        fun x hx hdg => List.mem_filter.mpr ⟨hx, bne_iff_ne.mpr hdg⟩,
        fun _ y hy _ => bne_iff_ne.mp (List.mem_filter.mp hy).2⟩
    · refine .inr ⟨Entry.path, Entry.digest, m, .inl ⟨rfl, rfl⟩, by simp only [if_neg hc], ⟨p, hpm, hpp⟩, .refl _,
        fun x hx _ => hx, fun hu y hy hne hdy => ?_⟩
      -- nothing was removed: the digest is new, or it is the digest of the entry with the path
      cases hd : m.find? (fun x => x.digest == e.digest) with
      | none => exact find_none_key hd y hy hdy
      | some q =>
        have hpd : p.digest = e.digest := by simpa [hd] using hc
        exact hne ((inj_of_nodup_map (·.digest) m hu.2 hy hpm (hdy.trans hpd.symm)) ▸ hpp)

theorem unique_addEntry (m : List Entry) (e : Entry) (hu : Unique m) : Unique (addEntry m e) := by
  rcases addEntry_cases m e with ⟨h, hne⟩ | ⟨k, k', m', hk, h, _, hsub, _, hx⟩ <;> rw [h]
  · exact ⟨nodup_map_snoc _ hu.1 fun x hx => (hne hu x hx).1, nodup_map_snoc _ hu.2 fun x hx => (hne hu x hx).2⟩
  · have hs : Unique m' := ⟨hu.1.sublist (hsub.map _), hu.2.sublist (hsub.map _)⟩
    rcases hk with ⟨rfl, rfl⟩ | ⟨rfl, rfl⟩
    · exact nodup_replace_keys _ _ m' e hs.1 hs.2 (hx hu)
    · exact (nodup_replace_keys _ _ m' e hs.2 hs.1 (hx hu)).symm

theorem mem_addEntry (m : List Entry) (e : Entry) : e ∈ addEntry m e := by
  rcases addEntry_cases m e with ⟨h, _⟩ | ⟨k, _, m', _, h, ⟨p, hp, hpk⟩, _⟩ <;> rw [h]
  · exact List.mem_append_right _ (List.mem_singleton_self e)
  · exact List.mem_map.mpr ⟨p, hp, if_pos (beq_iff_eq.mpr hpk)⟩

theorem addEntry_subset (m : List Entry) (e x : Entry) (hx : x ∈ addEntry m e) : x ∈ m ∨ x = e := by
  rcases addEntry_cases m e with ⟨h, _⟩ | ⟨k, _, m', _, h, _, hsub, _⟩ <;> rw [h] at hx
  · exact (List.mem_append.mp hx).imp id List.mem_singleton.mp
  · obtain ⟨y, hy, rfl⟩ := List.mem_map.mp hx
    split
    · exact .inr rfl
    · exact .inl (hsub.subset hy)

theorem addEntry_keeps (m : List Entry) (e x : Entry) (hx : x ∈ m) (hp : x.path ≠ e.path)
    (hdg : x.digest ≠ e.digest) : x ∈ addEntry m e := by
  rcases addEntry_cases m e with ⟨h, _⟩ | ⟨k, _, m', hk, h, _, _, hkeep, _⟩ <;> rw [h]
  · exact List.mem_append_left _ hx
  · refine List.mem_map.mpr ⟨x, hkeep x hx hdg, if_neg fun hc => ?_⟩
    rcases hk with ⟨rfl, _⟩ | ⟨rfl, _⟩
    · exact hp (eq_of_beq hc)
    · exact hdg (eq_of_beq hc)

/-- `L` is any way of looking a listed name up (the files of `Store`; a file map through the full path of the name,
    where the contents `v g` carry the digest `g`) that the write changes at the new name only, among the names `D`
    that can be listed. -/
theorem faithful_addEntry_gen {β : Type} (v : String → β) (D : String → Prop) (L L' : String → Option β)
    (m : List Entry) (e : Entry) (hu : Unique m) (hD : ∀ x ∈ m, D x.path) (hDe : D e.path)
    (hL' : ∀ q, D q → L' q = if q = e.path then some (v e.digest) else L q)
    (hf : ∀ x ∈ m, L x.path = some (v x.digest)) :
    ∀ x ∈ addEntry m e, L' x.path = some (v x.digest) := by
  intro x hx
  by_cases hxe : x.path = e.path
  · -- the entry under the new name is the new entry itself
    rw [inj_of_nodup_map (·.path) _ (unique_addEntry m e hu).1 hx (mem_addEntry m e) hxe, hL' _ hDe, if_pos rfl]
  · rcases addEntry_subset m e x hx with hxm | rfl
    · rw [hL' x.path (hD x hxm), if_neg hxe]; exact hf x hxm
    · exact absurd rfl hxe

theorem faithful_addEntry (m : List Entry) (fs : List (String × String)) (e : Entry)
    (hu : Unique m) (hf : Faithful m fs) :
    Faithful (addEntry m e) (writeFile fs e.path e.digest) :=
  faithful_addEntry_gen id (fun _ => True) (lookup fs) _ m e hu (fun _ _ => trivial) trivial
    (fun q _ => lookup_writeFile fs _ _ q) hf

theorem foldl_invariant {σ ρ : Type} (f : σ → ρ → σ) (P : σ → Prop) :
    ∀ (rs : List ρ) (s : σ), (∀ r ∈ rs, ∀ s, P s → P (f s r)) → P s → P (rs.foldl f s)
  | [], _, _, h => h
  | r :: rs, s, hf, h =>
    foldl_invariant f P rs _ (fun x hx => hf x (List.mem_cons_of_mem _ hx)) (hf r List.mem_cons_self s h)

theorem endorseRun_cases (s : Store) (r : Run) :
    ((endorseRun s r).1 = s ∧ (r.snapshot = false → (endorseRun s r).2 = false)) ∨
    (r.snapshot = false ∧ nameOk r.cand = true ∧
      ((lookup s.files (basename r.cand)).isSome = false ∨ r.overwrite = true) ∧
      endorseRun s r = (⟨writeFile s.files (basename r.cand) r.digest,
        addEntry s.manifest ⟨basename r.cand, r.digest, r.time⟩⟩, true)) := by
  unfold endorseRun
  by_cases hsn : r.snapshot = true
  · exact .inl (by simp [hsn])
  by_cases hok : nameOk r.cand = true
  case neg => exact .inl (by simp [hsn, hok])
  by_cases hc : ((lookup s.files (basename r.cand)).isSome && !r.overwrite) = true
  · exact .inl (by simp [hsn, hok, hc])
  · refine .inr ⟨by simpa using hsn, hok, ?_, by simp [hsn, hok, hc]⟩
    cases h1 : (lookup s.files (basename r.cand)).isSome <;> cases h2 : r.overwrite <;> simp_all

end GceTcb.Manifest
