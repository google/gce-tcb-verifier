import GceTcb.Proofs.PathParse
/-
Helper lemmas for C19: on well-typed values the descriptor-tracking evaluator of access.go (with the
cursor fix) agrees step by step with the descriptor-free specification `walk`; the executable checker
`typedB` is sound for the typing judgement `Typed`; Boolean tests that let the kernel compare a result
with an expected error or scalar.
-/
namespace GceTcb.Path
open GceTcb

def DescTyped (sch : Schema) : Desc → Value → Prop
  | .nil, _ => True
  | .msg md, v => Typed sch (.msg md.name) v
  | .field fd, v => Typed sch (.fieldOf fd) v

theorem typed_msg_inv {sch : Schema} {n : Str} {v : Value} (h : Typed sch (.msg n) v) :
    ∃ fs, v = .msg n fs ∧ ∀ md k x fd, lookupMsg sch n = some md → (k, x) ∈ fs → md.byNumber k = some fd →
      Typed sch (.fieldOf fd) x := by
  cases h with
  | msg _ fs hf => exact ⟨fs, rfl, hf⟩

theorem typed_field_inv {sch : Schema} {fd : Field} {v : Value} (h : Typed sch (.fieldOf fd) v) :
    match fd.card with
    | .single => Typed sch (.elemOf fd) v
    | .list => ∃ xs, v = .list xs ∧ ∀ x, x ∈ xs → Typed sch (.elemOf fd) x
    | .map kk => ∃ kc es, v = .map kc es ∧ kk.cls = some kc ∧
        (∀ k x, (k, x) ∈ es → k.cls = kc) ∧ ∀ k x, (k, x) ∈ es → Typed sch (.elemOf fd) x := by
  cases h with
  | single _ _ hc he => rw [hc]; exact he
  | list _ xs hc he => rw [hc]; exact ⟨xs, rfl, he⟩
  | map _ kk kc es hc hk h1 h2 => rw [hc]; exact ⟨kc, es, rfl, hk, h1, h2⟩

theorem typed_elem_msg {sch : Schema} {fd : Field} {v : Value} (h : Typed sch (.elemOf fd) v)
    (hk : fd.kind.isMessage = true) : Typed sch (.msg fd.ref) v := by
  cases h with
  | scalar _ s hs => rw [isMessage_iff.mp hk] at hs; cases hs
  | sub _ _ _ hm => exact hm

/-- the default `Message.Get` returns for an unpopulated field is well typed -/
theorem default_typed {sch : Schema} {fd : Field} (hkey : ∀ kk, fd.card = .map kk → ∃ kc, kk.cls = some kc) :
    Typed sch (.fieldOf fd) (defaultOf fd) := by
  unfold defaultOf
  cases hc : fd.card with
  | single =>
    refine .single _ _ hc ?_
    unfold defaultElem
    cases hk : fd.kind.cls with
    | some c => exact .scalar _ _ hk
    | none => exact .sub _ _ (isMessage_iff.mpr hk) (.msg _ _ fun _ _ _ _ _ hm => nomatch hm)
  | list => exact .list _ _ hc nofun
  | map kk =>
    obtain ⟨kc, hkc⟩ := hkey kk hc
    simp only [hkc, Option.getD_some]
    exact .map _ kk kc _ hc hkc (fun _ _ hm => nomatch hm) (fun _ _ hm => nomatch hm)

theorem find_fst_mem {α β : Type} [BEq α] [LawfulBEq α] {l : List (α × β)} {a : α} {p : α × β}
    (h : l.find? (fun p => p.1 == a) = some p) : (a, p.2) ∈ l := by
  have h1 := List.find?_some h
  cases beq_iff_eq.mp h1
  exact List.mem_of_find?_eq_some h

theorem msgGet_typed {sch : Schema} (hwf : sch.wf = true) {md : MsgDesc} (hl : Linked sch md) {fd : Field}
    (hfd : fd ∈ md.fields) {fs : List (Nat × Value)} (hv : Typed sch (.msg md.name) (.msg md.name fs)) :
    Typed sch (.fieldOf fd) (msgGet fs fd) := by
  have hw := wf_field hwf hl hfd
  cases hv with
  | msg _ _ hf =>
    unfold msgGet lookupField
    cases hlk : fs.find? (fun p => p.1 == fd.number) with
    | some p => exact hf md _ _ fd hl (find_fst_mem hlk) hw.1
    | none => exact default_typed hw.2.2

theorem elem_desc_typed {sch : Schema} {fd : Field} {d' : Desc} {x : Value}
    (hr : resolveRef sch fd.kind fd.ref = .ok d') (hx : Typed sch (.elemOf fd) x) : DescTyped sch d' x := by
  rcases (resolveRef_sat sch _ _).of_ok hr with ⟨hk, md, rfl, hlk⟩ | ⟨_, rfl⟩
  · have := typed_elem_msg hx hk
    rwa [← (lookupMsg_some hlk).1] at this
  · trivial

theorem target_value {sch : Schema} {d : Desc} {md : MsgDesc} {cur : Value} (ht : Target sch d md)
    (hv : DescTyped sch d cur) : Typed sch (.msg md.name) cur := by
  cases ht with
  | msg _ _ => exact hv
  | field f _ hc hm =>
    have he := typed_field_inv hv
    rw [hc] at he
    exact elem_desc_typed ((message_eq sch (single_flags hc).2).symm.trans hm) he

theorem evalStep_eq_walkStep {sch : Schema} (hwf : sch.wf = true) {d d' : Desc} {s : Step}
    (hs : StepOK sch d s d') {cur : Value} (hv : DescTyped sch d cur) (i : Nat) :
    (∃ c, evalStep .fixed sch i d cur s = .ok (d', c) ∧ walkStep cur s = .ok c ∧ DescTyped sch d' c) ∨
    (∃ e, evalStep .fixed sch i d cur s = .err e ∧ walkStep cur s = .err e) := by
  cases hs with
  | field _ md fd ht hfd =>
    left
    have hl := target_linked ht
    have hw := wf_field hwf hl hfd
    have hcur := target_value ht hv
    obtain ⟨fs, rfl, -⟩ := typed_msg_inv hcur
    refine ⟨msgGet fs fd, ?_, rfl, msgGet_typed hwf hl hfd hcur⟩
    cases ht with
    | msg _ _ => simp only [evalStep, Outcome.bind_ok, hw.1, valueMessageGet, hw.2.1, if_true]
    | field f _ _ hm => simp only [evalStep, hm, Outcome.bind_ok, hw.1, valueMessageGet, hw.2.1, if_true]
  | list fd idx _ hc h0 hm =>
    have hx := typed_field_inv hv
    rw [hc] at hx
    obtain ⟨xs, rfl, hx⟩ := hx
    have hfl := isList_of_card hc
    simp only [evalStep, hfl.1, Bool.not_true, Bool.false_eq_true, if_false, hm, Outcome.bind_ok, valueList,
      show ¬ idx < 0 by omega, walkStep, false_or]
    by_cases hge : idx ≥ (xs.length : Int)
    · simp only [if_pos hge]
      exact .inr ⟨"range", rfl, rfl⟩
    · have hlt : idx.toNat < xs.length := by omega
      simp only [if_neg hge, List.getElem?_eq_getElem hlt]
      exact .inl ⟨_, rfl, rfl, elem_desc_typed ((message_eq sch hfl.2).symm.trans hm) (hx _ (List.getElem_mem hlt))⟩
  | map fd kk k _ hc hk hm =>
    have hx := typed_field_inv hv
    rw [hc] at hx
    obtain ⟨kc, es, rfl, hkc, -, hvals⟩ := hx
    have hmap := isMap_of_card hc
    have hkc' : k.cls = kc := (Option.some.inj (hkc.symm.trans hk)).symm
    simp only [evalStep, hmap, Bool.not_true, Bool.false_eq_true, if_false, valueMapGet, hkc', if_true,
      Outcome.bind_ok, walkStep, lookupKey]
    cases hlk : es.find? (fun p => p.1 == k) with
    | none => right; exact ⟨"key", rfl, rfl⟩
    | some p =>
      left
      refine ⟨p.2, ?_, rfl, elem_desc_typed ((mapValueMessage_eq sch hmap).symm.trans hm) (hvals k p.2 (find_fst_mem hlk))⟩
      simp only [Variant.fixed, if_true, hm, Outcome.bind_ok]

theorem evalFrom_eq_walkFrom {sch : Schema} (hwf : sch.wf = true) {d d' : Desc} {steps : List Step}
    (hp : PathOK sch d steps d') :
    ∀ (i : Nat) (cur : Value) (acc : List Value), DescTyped sch d cur →
      evalFrom .fixed sch steps i d cur acc = walkFrom steps cur acc := by
  induction hp with
  | nil d => intro i cur acc _; rfl
  | cons d d1 d2 s rest hs _ ih =>
    intro i cur acc hv
    unfold evalFrom walkFrom
    rcases evalStep_eq_walkStep hwf hs hv i with ⟨c, he, hw, ht⟩ | ⟨e, he, hw⟩
    · rw [he, hw]; exact ih (i + 1) c (acc ++ [c]) ht
    · rw [he, hw]

theorem walkStep_not_panic (cur : Value) (s : Step) : (walkStep cur s).isPanic = false := by
  unfold walkStep
  repeat' split
  all_goals rfl

theorem walkFrom_not_panic : ∀ (steps : List Step) (cur : Value) (acc : List Value),
    (walkFrom steps cur acc).isPanic = false := by
  intro steps
  induction steps with
  | nil => intro cur acc; rfl
  | cons s rest ih =>
    intro cur acc
    unfold walkFrom
    have := walkStep_not_panic cur s
    cases hws : walkStep cur s with
    | ok c => exact ih c _
    | err e => rfl
    | panic p => rw [hws] at this; cases this

mutual
theorem typedElemB_sound (sch : Schema) (fd : Field) :
    ∀ v, typedElemB sch fd v = true → Typed sch (.elemOf fd) v
  | .scalar s, h => by
    simp only [typedElemB, beq_iff_eq] at h
    exact .scalar _ _ h
  | .msg ty fs, h => by
    simp only [typedElemB, Bool.and_eq_true, beq_iff_eq] at h
    obtain ⟨⟨hk, rfl⟩, hf⟩ := h
    exact .sub _ _ hk (.msg _ _ (typedFieldsB_sound sch fs _ hf))
  | .list _, h => by simp [typedElemB] at h
  | .map _ _, h => by simp [typedElemB] at h
theorem typedFieldsB_sound (sch : Schema) :
    ∀ fs omd, typedFieldsB sch omd fs = true → ∀ md n x fd, omd = some md → (n, x) ∈ fs →
      md.byNumber n = some fd → Typed sch (.fieldOf fd) x
  | [], _, _ => fun _ _ _ _ _ hm => (List.not_mem_nil hm).elim
  | (n', x') :: rest, omd, h => by
    intro md n x fd ho hm hb
    subst ho
    simp only [typedFieldsB, Bool.and_eq_true] at h
    rcases List.mem_cons.mp hm with he | hr
    · rw [(Prod.mk.inj he).1] at hb
      rw [hb] at h
      rw [(Prod.mk.inj he).2]
      exact typedFieldB_sound sch fd x' h.1
    · exact typedFieldsB_sound sch rest _ h.2 md n x fd rfl hr hb
theorem typedFieldB_sound (sch : Schema) (fd : Field) :
    ∀ v, typedFieldB sch fd v = true → Typed sch (.fieldOf fd) v
  | .scalar s, h => by
    simp only [typedFieldB, Bool.and_eq_true, beq_iff_eq] at h
    exact .single _ _ h.1 (.scalar _ _ h.2)
  | .msg ty fs, h => by
    simp only [typedFieldB, Bool.and_eq_true, beq_iff_eq] at h
    obtain ⟨⟨⟨hc, hk⟩, rfl⟩, hf⟩ := h
    exact .single _ _ hc (.sub _ _ hk (.msg _ _ (typedFieldsB_sound sch fs _ hf)))
  | .list xs, h => by
    simp only [typedFieldB, Bool.and_eq_true, beq_iff_eq] at h
    exact .list _ _ h.1 (typedListB_sound sch fd xs h.2)
  | .map kc es, h => by
    simp only [typedFieldB, Bool.and_eq_true] at h
    obtain ⟨h1, h2⟩ := h
    split at h1
    · next kk hc =>
      exact .map _ kk kc es hc (beq_iff_eq.mp h1) (fun k x hm => (typedEntriesB_sound sch fd kc es h2 (k, x) hm).1)
        (fun k x hm => (typedEntriesB_sound sch fd kc es h2 (k, x) hm).2)
    · cases h1
theorem typedListB_sound (sch : Schema) (fd : Field) :
    ∀ xs, typedListB sch fd xs = true → ∀ x, x ∈ xs → Typed sch (.elemOf fd) x
  | [], _ => fun _ hm => (List.not_mem_nil hm).elim
  | a :: r, h => by
    simp only [typedListB, Bool.and_eq_true] at h
    exact List.forall_mem_cons.mpr ⟨typedElemB_sound sch fd a h.1, typedListB_sound sch fd r h.2⟩
theorem typedEntriesB_sound (sch : Schema) (fd : Field) (kc : VClass) :
    ∀ es, typedEntriesB sch fd kc es = true → ∀ p, p ∈ es → p.1.cls = kc ∧ Typed sch (.elemOf fd) p.2
  | [], _ => fun _ hm => (List.not_mem_nil hm).elim
  | (k, x) :: r, h => by
    simp only [typedEntriesB, Bool.and_eq_true, beq_iff_eq] at h
    exact List.forall_mem_cons.mpr ⟨⟨h.1.1, typedElemB_sound sch fd x h.1.2⟩, typedEntriesB_sound sch fd kc r h.2⟩
end

/-- The executable checker is sound for the typing judgement. -/
theorem typedB_sound {sch : Schema} {root : Str} {v : Value} (h : typedB sch root v = true) :
    Typed sch (.msg root) v := by
  cases v with
  | msg ty fs =>
    simp only [typedB, Bool.and_eq_true, beq_iff_eq] at h
    obtain ⟨rfl, hf⟩ := h
    exact .msg _ _ (typedFieldsB_sound sch fs _ hf)
  | scalar _ => simp [typedB] at h
  | list _ => simp [typedB] at h
  | map _ _ => simp [typedB] at h

/-! ### comparing a result with an expected one by kernel evaluation

`Value` is a nested inductive without decidable equality, so a statement `x = expected` about values cannot be
handed to `decide +kernel` and `rfl` would evaluate `x` in the elaborator first. For the two shapes the test
vectors of Props/C19 expect — an error class, a scalar — the comparison is a Boolean test. -/

theorem eq_err_of_test {α : Type} {x : Outcome α} {s : String}
    (h : (match x with | .err c => decide (c = s) | _ => false) = true) : x = .err s := by
  cases x with
  | err c => exact congrArg _ (of_decide_eq_true h)
  | ok _ => cases h
  | panic _ => cases h

theorem eq_scalar_of_test {x : Outcome (Option Value)} {s : Scalar}
    (h : (match x with | .ok (some (.scalar t)) => decide (t = s) | _ => false) = true) :
    x = .ok (some (.scalar s)) := by
  split at h
  · exact congrArg _ (congrArg _ (congrArg _ (of_decide_eq_true h)))
  · cases h

end GceTcb.Path
