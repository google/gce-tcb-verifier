import GceTcb.Proofs.ToolChain
/-
A second instance of `ToolChain.Kit`, built only to show that the agreement hypotheses `Agree` are satisfiable
(non-vacuity of the theorems of Props/C03Tools.lean): every value is written in an unbounded unary / length-prefixed
form, so that the decoders are total inverses for ALL documents (no 64-bit ranges as in protobuf).
-/
namespace GceTcb.ToolChain.Toy
open GceTcb

def encNat (n : Nat) : Bytes := List.replicate n 1 ++ [0]

def decNat : Bytes → Option (Nat × Bytes)
  | [] => none
  | b :: r => if b = 0 then some (0, r) else (decNat r).map fun x => (x.1 + 1, x.2)

theorem decNat_enc (n : Nat) (r : Bytes) : decNat (encNat n ++ r) = some (n, r) := by
  induction n with
  | zero => simp [encNat, decNat]
  | succ k ih =>
    have : encNat (k + 1) ++ r = 1 :: (encNat k ++ r) := by simp [encNat, List.replicate_succ]
    rw [this]
    simp [decNat, ih]

def encB (b : Bytes) : Bytes := encNat b.length ++ b

def decB (x : Bytes) : Option (Bytes × Bytes) :=
  match decNat x with
  | some (n, r) => if n ≤ r.length then some (r.take n, r.drop n) else none
  | none => none

theorem decB_enc (b r : Bytes) : decB (encB b ++ r) = some (b, r) := by
  simp [decB, encB, List.append_assoc, decNat_enc]

def encInt (i : Int) : Bytes := if i < 0 then 1 :: encNat (-i).toNat else 0 :: encNat i.toNat

def decInt : Bytes → Option (Int × Bytes)
  | [] => none
  | s :: x =>
    match decNat x with
    | some (n, r) => some (if s = 0 then (n : Int) else -(n : Int), r)
    | none => none

theorem decInt_enc (i : Int) (r : Bytes) : decInt (encInt i ++ r) = some (i, r) := by
  unfold encInt
  by_cases h : i < 0
  · simp only [h, if_true, List.cons_append, decInt, decNat_enc]
    have : ((-i).toNat : Int) = -i := Int.toNat_of_nonneg (by omega)
    simp [this]
  · simp only [h, if_false, List.cons_append, decInt, decNat_enc]
    have : (i.toNat : Int) = i := Int.toNat_of_nonneg (by omega)
    simp [this]

def encRows : List (Nat × Bytes) → Bytes
  | [] => []
  | (k, v) :: t => encNat k ++ (encB v ++ encRows t)

def decRows : Nat → Bytes → Option (List (Nat × Bytes) × Bytes)
  | 0, x => some ([], x)
  | n + 1, x =>
    match decNat x with
    | none => none
    | some (k, r) =>
      match decB r with
      | none => none
      | some (v, r2) =>
        match decRows n r2 with
        | none => none
        | some (t, r3) => some ((k, v) :: t, r3)

theorem decRows_enc (l : List (Nat × Bytes)) (r : Bytes) : decRows l.length (encRows l ++ r) = some (l, r) := by
  induction l with
  | nil => simp [decRows, encRows]
  | cons a t ih =>
    obtain ⟨k, v⟩ := a
    simp [decRows, encRows, List.append_assoc, decNat_enc, decB_enc, ih]

def encList (l : List (Nat × Bytes)) : Bytes := encNat l.length ++ encRows l

def decList (x : Bytes) : Option (List (Nat × Bytes) × Bytes) :=
  match decNat x with
  | some (n, r) => decRows n r
  | none => none

theorem decList_enc (l : List (Nat × Bytes)) (r : Bytes) : decList (encList l ++ r) = some (l, r) := by
  simp [decList, encList, List.append_assoc, decNat_enc, decRows_enc]

/-- the document as the verifier reads it, field by field -/
def encGolden (g : Verify.Golden) : Bytes :=
  (match g.timestamp with | none => [0] | some t => 1 :: (encInt t.secs ++ encInt t.nanos)) ++
  (encNat g.clSpec ++ (encB g.commit ++ (encB g.cert ++ (encB g.digest ++ (encB g.other ++
  ((match g.sevSnp with | none => [0] | some s => 1 :: (encB s.svsmMeasurement ++ encList s.measurements)) ++
  (match g.tdx with | none => [0] | some t => 1 :: encList t.measurements)))))))

def decTs : Bytes → Option (Option Verify.Timestamp × Bytes)
  | [] => none
  | f :: x =>
    if f = 0 then some (none, x)
    else
      match decInt x with
      | none => none
      | some (s, r) =>
        match decInt r with
        | none => none
        | some (n, r2) => some (some ⟨s, n⟩, r2)

def decSev : Bytes → Option (Option Verify.SevSnp × Bytes)
  | [] => none
  | f :: x =>
    if f = 0 then some (none, x)
    else
      match decB x with
      | none => none
      | some (sv, r) =>
        match decList r with
        | none => none
        | some (m, r2) => some (some ⟨sv, m⟩, r2)

def decTdx : Bytes → Option (Option Verify.Tdx × Bytes)
  | [] => none
  | f :: x =>
    if f = 0 then some (none, x)
    else
      match decList x with
      | none => none
      | some (m, r2) => some (some ⟨m⟩, r2)

def decGolden (x : Bytes) : Option Verify.Golden := do
  let (ts, r1) ← decTs x
  let (cl, r2) ← decNat r1
  let (commit, r3) ← decB r2
  let (cert, r4) ← decB r3
  let (digest, r5) ← decB r4
  let (other, r6) ← decB r5
  let (sev, r7) ← decSev r6
  let (tdx, _) ← decTdx r7
  pure ⟨ts, cl, commit, cert, digest, sev, tdx, other⟩

theorem decGolden_enc (g : Verify.Golden) : decGolden (encGolden g) = some g := by
  obtain ⟨ts, cl, commit, cert, digest, sev, tdx, other⟩ := g
  have h1 : ∀ r, decTs ((match ts with | none => [0] | some t => 1 :: (encInt t.secs ++ encInt t.nanos)) ++ r) = some (ts, r) := by
    intro r
    cases ts with
    | none => simp [decTs]
    | some t => simp [decTs, List.append_assoc, decInt_enc]
  have h2 : ∀ r, decSev ((match sev with | none => [0] | some s => 1 :: (encB s.svsmMeasurement ++ encList s.measurements)) ++ r) = some (sev, r) := by
    intro r
    cases sev with
    | none => simp [decSev]
    | some s => simp [decSev, List.append_assoc, decB_enc, decList_enc]
  have h3 : decTdx (match tdx with | none => [0] | some t => 1 :: encList t.measurements) = some (tdx, []) := by
    cases tdx with
    | none => simp [decTdx]
    | some t =>
      have := decList_enc t.measurements []
      simp only [List.append_nil] at this
      simp [decTdx, this]
  simp only [decGolden, encGolden, h1, decNat_enc, decB_enc, h2, h3, Option.bind_eq_bind,
    Option.bind_some, Option.pure_def]

def encEndorsement (e : Verify.Endorsement) : Bytes := encB e.payload ++ encB e.signature

def decEndorsement (x : Bytes) : Option Verify.Endorsement :=
  match decB x with
  | none => none
  | some (p, r) =>
    match decB r with
    | none => none
    | some (s, _) => some ⟨p, s⟩

theorem decEndorsement_enc (e : Verify.Endorsement) : decEndorsement (encEndorsement e) = some e := by
  have := decB_enc e.signature []
  simp only [List.append_nil] at this
  simp [decEndorsement, encEndorsement, decB_enc, this]

/-- certificates are opaque on the reading side; every chain and every signature is accepted (the laws of `Agree`
    only say what MUST be accepted) -/
def codec : Codec Bytes where
  certDer := fun _ => [1]
  rootPem := fun _ => [1]
  certOf := fun _ => [1]
  signPss := fun _ _ => []
  marshalGolden := fun d => encGolden (viewGolden d)
  marshalEndorsement := encEndorsement

def vprims : Verify.Prims Bytes (List Bytes) Nat where
  unmarshalEndorsement := decEndorsement
  unmarshalGolden := decGolden
  timeFromNil := some ⟨0, 0⟩
  parseCert := some
  verifyChain := fun _ _ _ => true
  checkSigPss256 := fun _ _ _ => true
  objectURL := fun _ _ => ""
  loadRootPool := fun _ => none
  sevPolicyOptions := fun _ _ _ _ => some 0
  snpBaseChecks := fun _ _ => true
  tdxPolicyOptions := fun _ _ _ _ => some 0
  tdxQuoteChecks := fun _ _ => true
  tdxExtractEndorsement := fun _ => none

def world : RpCli.World Bytes (List Bytes) Nat Unit Unit :=
  { P := { v := vprims, pemCerts := fun b => [b], poolOf := id, unmarshalSevPolicy := fun _ => none,
           unmarshalTdxPolicy := fun _ => none, parseAttestation := fun _ => none }
    L := ⟨String.toNat?, String.toInt?⟩
    G := { pem := fun _ => none, dflt := ⟨0, [], 0, [], [], ()⟩, emptyQ := (), emptyR := (),
           goldenSev := fun _ => none, goldenTdx := fun _ => none }
    tagS := fun _ => 0, tagT := fun _ => 0 }

/-- any key-management / endorse side with this reading side -/
def kit (W : KeyCli.Wiring) (pt : String → Option (Int × Nat)) (EP : EndorseCli.Params) (Pr : Endorse.Prims)
    (T : Endorse.Tables) : Kit Bytes (List Bytes) Unit Unit :=
  { W := W, pt := pt, EP := EP, Pr := Pr, T := T, RW := world, C := codec }

/-- **`Agree` is satisfiable.** -/
theorem agree (W : KeyCli.Wiring) (pt : String → Option (Int × Nat)) (EP : EndorseCli.Params) (Pr : Endorse.Prims)
    (T : Endorse.Tables) : Agree (kit W pt EP Pr T) where
  endorsement_rt := decEndorsement_enc
  golden_rt := fun d => decGolden_enc (viewGolden d)
  der_nonempty := fun _ => rfl
  der_parse := fun _ => rfl
  pem_root := fun _ => rfl
  chain_ok := fun _ _ _ _ _ _ _ _ => rfl
  sig_ok := fun _ _ => rfl

end GceTcb.ToolChain.Toy
