import GceTcb.Model.SevLd
import GceTcb.Spec.SnpLaunch
import GceTcb.Proofs.SnpVmsa
import GceTcb.Proofs.SnpSections
/-
C04 — the loops of sev/measurement.go and sev/ld_from_ovmf.go compute the SNP_LAUNCH_UPDATE digest
chain of Spec/SnpLaunch.lean: PAGE_INFO, the page loops of Update and ZeroContentUpdate, and the alignment
check at the addresses LaunchDigest uses.
-/
namespace GceTcb.Proofs.SnpChain
open GceTcb GceTcb.Codec GceTcb.Codecs GceTcb.GuidTable GceTcb.SevMeta GceTcb.SevLd
open GceTcb.Proofs.SnpSections (Sec)
open GceTcb.Spec.SnpLaunch (Page launchUpdate)

/- `H` stands for SHA-384; its 48-byte output is assumed where a digest is compared with the ABI structure. -/
variable (H : Bytes → Bytes) (hH : ∀ x, (H x).length = 48)

theorem zeros_eq (n : Nat) : Codecs.zeros n = Spec.SnpLaunch.zeros n := rfl

theorem pageInfoBytes_eq (d c : Bytes) (pt gpa : Nat) (hd : d.length = 48) (hc : c.length = 48) (hpt : pt < 256) :
    pageInfoBytes d c pt gpa = Spec.SnpLaunch.pageInfo d c pt gpa := by
  have h1 : leBytes 48 (leVal d) = d := by rw [← hd]; exact leBytes_leVal d
  have h2 : leBytes 48 (leVal c) = c := by rw [← hc]; exact leBytes_leVal c
  simp only [pageInfoBytes, Rec.enc, pageInfoRec, encF, h1, h2, Spec.SnpLaunch.pageInfo, List.append_nil,
    Nat.zero_mul, Nat.add_zero]
  have h3 : leBytes 1 pt = [UInt8.ofNat pt] := by simp [leBytes, Nat.mod_eq_of_lt hpt]
  have h4 : leBytes 1 0 = [0] := rfl
  have h5 : leBytes 4 0 = [0, 0, 0, 0] := rfl
  rw [h3, h4, h5]
  simp only [List.append_assoc]

include hH in
theorem update4K_eq (d : Bytes) (hd : d.length = 48) (gpa : Nat) (data : Bytes) (pt : Nat) (hpt : pt < 256) :
    update4K H d gpa data pt = launchUpdate H d ⟨pt, gpa, some data⟩ := by
  simp only [update4K, launchUpdate, pageInfoBytes_eq d (H data) pt gpa hd (hH _) hpt]

theorem zeroContentUpdate4K_eq (d : Bytes) (hd : d.length = 48) (gpa pt : Nat) (hpt : pt < 256) :
    zeroContentUpdate4K H d gpa pt = launchUpdate H d ⟨pt, gpa, none⟩ := by
  have hz : zeros48.length = 48 := List.length_replicate
  simp only [zeroContentUpdate4K, launchUpdate, pageInfoBytes_eq d zeros48 pt gpa hd hz hpt]
  rfl

include hH in
theorem launchUpdate_length (d : Bytes) (p : Page) : (launchUpdate H d p).length = 48 := hH _

include hH in
theorem foldl_launchUpdate_length (ps : List Page) (d : Bytes) (hd : d.length = 48) :
    (ps.foldl (launchUpdate H) d).length = 48 := by
  induction ps generalizing d with
  | nil => exact hd
  | cons p ps ih => exact ih _ (hH _)

theorem slice_nat (site : String) (s : Bytes) (a b : Nat) (h : a ≤ b ∧ b ≤ s.length) :
    slice site s (a : Int) (b : Int) = .ok ((s.drop a).take (b - a)) := by
  unfold slice
  rw [if_pos (by omega)]
  simp only [Int.toNat_natCast]

theorem slice_no_panic_nat (site : String) (s : Bytes) (a b : Nat) (h : a ≤ b ∧ b ≤ s.length) (p : String) :
    slice site s (a : Int) (b : Int) ≠ .panic p := by
  rw [slice_nat site s a b h]; simp

/-- the slice the page loop of Update takes while `k + 1` pages remain -/
theorem slice_page (site : String) (s : Bytes) (off k : Nat) (h : off + 4096 * (k + 1) ≤ s.length) :
    slice site s (off : Int) ((off : Int) + 4096) = .ok ((s.drop off).take 4096) := by
  simpa using slice_nat site s off (off + 4096) (by omega)

/-- the pages the loop of Update hands to Update4K, starting at byte `off` -/
def dataPages (pt gpa : Nat) (data : Bytes) (off k : Nat) : List Page :=
  (List.range k).map fun i => ⟨pt, (gpa + (off + 4096 * i)) % 2 ^ 64, some ((data.drop (off + 4096 * i)).take 4096)⟩

theorem dataPages_succ (pt gpa : Nat) (data : Bytes) (off k : Nat) :
    dataPages pt gpa data off (k + 1) =
      ⟨pt, (gpa + off) % 2 ^ 64, some ((data.drop off).take 4096)⟩ :: dataPages pt gpa data (off + 4096) k := by
  simp only [dataPages, List.range_succ_eq_map, List.map_cons, List.map_map, Nat.mul_zero, Nat.add_zero]
  refine congrArg (List.cons _) (List.map_congr_left fun i _ => ?_)
  simp only [Function.comp, Nat.succ_eq_add_one, Nat.mul_add, Nat.mul_one, Nat.add_assoc, Nat.add_comm 4096]

include hH in
theorem updatePages_eq (pt gpa : Nat) (hpt : pt < 256) (data : Bytes) (k off : Nat) (d : Bytes) (hd : d.length = 48)
    (hfit : off + 4096 * k ≤ data.length) :
    updatePages H pt gpa data k off d = .ok ((dataPages pt gpa data off k).foldl (launchUpdate H) d) := by
  induction k generalizing off d with
  | zero => simp [updatePages, dataPages]
  | succ k ih =>
    rw [updatePages, slice_page _ data off k hfit, dataPages_succ, List.foldl_cons]
    simp only
    rw [update4K_eq H hH d hd _ _ pt hpt]
    exact ih (off + 4096) _ (hH _) (by omega)

include hH in
theorem zeroPages_eq (pt : Nat) (hpt : pt < 256) (k gpa : Nat) (d : Bytes) (hd : d.length = 48)
    (hfit : gpa + 4096 * k < 2 ^ 64) :
    zeroPages H pt k gpa d =
      ((List.range k).map fun i => (⟨pt, gpa + 4096 * i, none⟩ : Page)).foldl (launchUpdate H) d := by
  induction k generalizing gpa d with
  | zero => simp [zeroPages]
  | succ k ih =>
    rw [zeroPages, List.range_succ_eq_map, List.map_cons, List.foldl_cons, List.map_map,
      zeroContentUpdate4K_eq H d hd gpa pt hpt, (by omega : (gpa + 4096) % 2 ^ 64 = gpa + 4096),
      ih (gpa + 4096) _ (launchUpdate_length H hH _ _) (by omega)]
    refine congrArg (List.foldl _ _) (List.map_congr_left fun i _ => ?_)
    simp only [Function.comp, Nat.succ_eq_add_one, Nat.mul_add, Nat.mul_one, Nat.add_assoc, Nat.add_comm 4096]

/-- a guest-physical address width for which the measurement is defined: Milan 48, Genoa 52 -/
structure WidthOK (w : Nat) : Prop where
  lo : 33 ≤ w
  hi : w ≤ 63

theorem pow_facts (w : Nat) (h : WidthOK w) : 2 ^ 33 ≤ 2 ^ w ∧ 2 ^ w ≤ 2 ^ 63 ∧ 2 ^ w % 4096 = 0 := by
  refine ⟨Nat.pow_le_pow_right (by decide) h.lo, Nat.pow_le_pow_right (by decide) h.hi, ?_⟩
  have : 2 ^ w = 4096 * 2 ^ (w - 12) := by
    have h12 : w = 12 + (w - 12) := by have := h.lo; omega
    conv => lhs; rw [h12, Nat.pow_add]
  rw [this]; exact Nat.mul_mod_right _ _

theorem productHigh_eq (w : Nat) (h : WidthOK w) : productHigh w = 2 ^ w - 4096 := by
  obtain ⟨h1, h2, h3⟩ := pow_facts w h
  unfold productHigh
  generalize 2 ^ w = P at *
  simp only
  omega

theorem specProductHigh_eq (w : Nat) (h : WidthOK w) : Spec.SnpLaunch.productHigh w = 2 ^ w - 4096 := by
  obtain ⟨h1, h2, h3⟩ := pow_facts w h
  unfold Spec.SnpLaunch.productHigh
  generalize 2 ^ w = P at *
  omega

theorem checkAlign_none_iff (high gpa len : Nat) :
    checkAlign high gpa len = none ↔ gpa % 4096 = 0 ∧ len % 4096 = 0 ∧ gpa ≤ (high + 0x1000 + 2 ^ 64 - len) % 2 ^ 64 := by
  unfold checkAlign
  constructor
  · intro h
    split at h; · cases h
    split at h; · cases h
    split at h; · cases h
    omega
  · rintro ⟨h1, h2, h3⟩
    rw [if_neg (by omega), if_neg (by omega), if_neg (by omega)]

include hH in
/-- go: SnpMeasurement.Update when the check passes.  4096 divides 2^32, so the narrowed length is page-aligned only
    if the length is. -/
theorem update_ok (high : Nat) (d : Bytes) (hd : d.length = 48) (gpa : Nat) (data : Bytes) (pt : Nat) (hpt : pt < 256)
    (hc : checkAlign high gpa (data.length % 2 ^ 32) = none) :
    update H high d gpa data pt = .ok ((dataPages pt gpa data 0 (data.length / 4096)).foldl (launchUpdate H) d) := by
  obtain ⟨_, ha, _⟩ := (checkAlign_none_iff _ _ _).mp hc
  have hk : (data.length + 4095) / 4096 = data.length / 4096 := by omega
  unfold update
  rw [hc, hk]
  exact updatePages_eq H hH pt gpa hpt data _ 0 d hd (by omega)

theorem checkAlign_rom (w : Nat) (h : WidthOK w) (len : Nat) (hlen : len < 2 ^ 63) :
    checkAlign (productHigh w) (romBase len) (len % 2 ^ 32) = none ↔ len % 4096 = 0 ∧ len ≤ 2 ^ 32 := by
  obtain ⟨h1, h2, h3⟩ := pow_facts w h
  rw [checkAlign_none_iff, productHigh_eq w h]
  unfold romBase
  generalize 2 ^ w = P at *
  rw [Nat.mod_eq_of_lt (by omega : len < 2 ^ 64)]
  omega

theorem romPages_eq (fw : Bytes) (hlen : fw.length ≤ 2 ^ 32) :
    dataPages pageTypeNormal (romBase fw.length) fw 0 (fw.length / 4096) = Spec.SnpLaunch.romPages fw := by
  unfold dataPages Spec.SnpLaunch.romPages romBase
  refine List.map_congr_left fun i hi => ?_
  have hi' := List.mem_range.mp hi
  rw [(by omega : (2 ^ 32 + 2 ^ 64 - fw.length % 2 ^ 64) % 2 ^ 64 = 2 ^ 32 - fw.length),
    (by omega : (2 ^ 32 - fw.length + (0 + 4096 * i)) % 2 ^ 64 = 2 ^ 32 - fw.length + 4096 * i), Nat.zero_add]
  rfl

/-! ### sev.measureZeroContentUefiPages: the kind switch and the alignment check on a descriptor -/

def toSpec (s : Sec) : Spec.SnpLaunch.Section := ⟨s.address, s.length, s.kind⟩

def KindKnown (s : Sec) : Prop :=
  s.kind = kindUnmeasured ∨ s.kind = kindSecret ∨ s.kind = kindCpuid ∨ s.kind = kindSvsmCaa

instance : DecidablePred KindKnown := fun s => by unfold KindKnown; exact inferInstance

theorem sectionPageType_some (kind : Nat)
    (h : kind = kindUnmeasured ∨ kind = kindSecret ∨ kind = kindCpuid ∨ kind = kindSvsmCaa) :
    sectionPageType kind = some (Spec.SnpLaunch.kindPageType kind) ∧ Spec.SnpLaunch.kindPageType kind < 256 ∧
    Spec.SnpLaunch.kindPageType kind ≠ pageTypeVmsa ∧ Spec.SnpLaunch.kindPageType kind ≠ pageTypeNormal ∧
    (Spec.SnpLaunch.kindPageType kind = pageTypeUnmeasured ∨ Spec.SnpLaunch.kindPageType kind = pageTypeSecret ∨
     Spec.SnpLaunch.kindPageType kind = pageTypeCpuid ∨ Spec.SnpLaunch.kindPageType kind = pageTypeZero) := by
  rcases h with rfl | rfl | rfl | rfl <;> decide

theorem sectionPageType_none (kind : Nat)
    (h : ¬ (kind = kindUnmeasured ∨ kind = kindSecret ∨ kind = kindCpuid ∨ kind = kindSvsmCaa)) :
    sectionPageType kind = none := by
  unfold sectionPageType
  simp only [not_or] at h
  rw [if_neg h.1, if_neg h.2.1, if_neg h.2.2.1, if_neg h.2.2.2]

theorem checkAlign_sec (w : Nat) (h : WidthOK w) (a l : Nat) (ha : a < 2 ^ 32) (hl : l < 2 ^ 32) :
    checkAlign (productHigh w) a l = none ↔ a % 4096 = 0 ∧ l % 4096 = 0 := by
  obtain ⟨h1, h2, h3⟩ := pow_facts w h
  rw [checkAlign_none_iff, productHigh_eq w h]
  generalize 2 ^ w = P at *
  omega

end GceTcb.Proofs.SnpChain
