import GceTcb.Proofs.SnpTotal
import GceTcb.Proofs.TdxHob
import GceTcb.Proofs.TdxStream
import GceTcb.Proofs.TdxValid
/-
C08 (TDX half) — the functions below tdxFwParser.parse one by one: the checked slice, where
extractTDXMetadata looks for the metadata (never a panic; what a successful run says about the image
size), getTDHOBList as an equation below the 2^63 bound of its `Grow`, and InitMemoryRegion.  The
GUID-table walk is the shared model (Proofs/SnpTotal.lean).  Core-only.
-/
namespace GceTcb.TdxMeta
open GceTcb GceTcb.Codec GceTcb.Codecs GceTcb.GuidTable GceTcb.Intervals

theorem goSlice_ok (site : String) (b : Bytes) (lo hi : Nat) (h : lo ≤ hi ∧ hi ≤ b.length) :
    goSlice site b lo hi = .ok (sliceOf b lo hi) := by
  have hc : (0 : Int) ≤ (lo : Int) ∧ (lo : Int) ≤ (hi : Int) ∧ (hi : Int) ≤ (b.length : Int) := by omega
  unfold goSlice slice sliceOf
  rw [if_pos hc]
  simp only [Int.toNat_natCast]

/-- the unsigned slice panics exactly outside `lo ≤ hi ≤ len` -/
theorem goSlice_panic (site : String) (b : Bytes) (lo hi : Nat) (h : ¬ (lo ≤ hi ∧ hi ≤ b.length)) :
    goSlice site b lo hi = .panic site := by
  have hc : ¬ ((0 : Int) ≤ (lo : Int) ∧ (lo : Int) ≤ (hi : Int) ∧ (hi : Int) ≤ (b.length : Int)) := by omega
  unfold goSlice slice
  rw [if_neg hc]

theorem sliceOf_length (b : Bytes) (lo hi : Nat) (h : lo ≤ hi ∧ hi ≤ b.length) : (sliceOf b lo hi).length = hi - lo := by
  simp [sliceOf]; omega

/-- uint32 arithmetic of the metadata GUID offset: both slice expressions are in range -/
theorem guid_offset_in_range (L mo : Nat) (hL : 50 ≤ L) (h1 : ¬ (mo > (L - 16) % 2 ^ 32 ∨ mo < 16)) :
    let goff := (L % 2 ^ 32 + 2 ^ 32 - mo + 2 ^ 32 - 16) % 2 ^ 32
    goff ≤ (goff + 16) % 2 ^ 32 ∧ (goff + 16) % 2 ^ 32 ≤ L := by
  intro goff
  have hgo : goff = (L % 2 ^ 32 + 2 ^ 32 - mo + 2 ^ 32 - 16) % 2 ^ 32 := rfl
  by_cases hl : L % 2 ^ 32 ≥ 16
  · have : (L - 16) % 2 ^ 32 = L % 2 ^ 32 - 16 := by omega
    omega
  · have : (L - 16) % 2 ^ 32 = L % 2 ^ 32 + 2 ^ 32 - 16 := by omega
    omega

theorem tdxMetadataFromBytes_no_panic (b : Bytes) : ¬ (tdxMetadataFromBytes b).isPanic := by
  unfold tdxMetadataFromBytes tdxDescriptorFromBytes Rec.dec Rec.decBody
  by_cases h1 : b.length < tdxDescriptorRec.size
  · simp [h1, Outcome.isPanic]
  · simp only [h1, if_false]
    by_cases h2 : tdxDescriptorRec.valid (decF tdxDescriptorRec.ws b) = true
    · simp only [h2, if_true]
      split <;> simp [Outcome.isPanic]
    · simp [h2, Outcome.isPanic]

theorem locateMetadata_no_panic (fw block : Bytes) (hL : 50 ≤ fw.length) :
    ¬ (locateMetadata fw block).isPanic ∧ ∀ d, locateMetadata fw block = .ok d → d.length ≤ fw.length := by
  unfold locateMetadata
  by_cases h0 : block.length < 4 + 18
  · simp [h0, Outcome.isPanic]
  · simp only [h0, if_false]
    by_cases h1 : leVal (block.take 4) > (fw.length - 16) % 2 ^ 32 ∨ leVal (block.take 4) < 16
    · simp [h1, Outcome.isPanic]
    · simp only [h1, if_false]
      have hr := guid_offset_in_range fw.length (leVal (block.take 4)) hL h1
      simp only [] at hr
      rw [goSlice_ok _ _ _ _ hr]
      simp only []
      split
      · simp [Outcome.isPanic]
      · rw [goSlice_ok _ _ _ _ ⟨hr.2, Nat.le_refl _⟩]
        refine ⟨by simp [Outcome.isPanic], ?_⟩
        intro d hd
        injection hd with hd
        rw [← hd]; simp [sliceOf]

/-- readTDXMetadata returns an error or a value, and a value only through every stage: a GUIDed table
    (so the image has its 50-byte footer), the TDX metadata offset block in it, a descriptor in range. -/
theorem read_cases (fw : Bytes) :
    (∃ c, readTDXMetadata fw = .err c) ∨
    ∃ desc md, 50 ≤ fw.length ∧ desc.length ≤ fw.length ∧ tdxMetadataFromBytes desc = .ok md ∧
      readTDXMetadata fw = .ok md := by
  unfold readTDXMetadata
  cases hm : getFwGUIDToBlockMap fw with
  | panic p => exact absurd hm (Proofs.SnpTotal.getFwGUIDToBlockMap_no_panic fw p)
  | err c => exact .inl ⟨_, rfl⟩
  | ok m =>
    have hL : 50 ≤ fw.length := by
      unfold getFwGUIDToBlockMap getFwGUIDTable at hm
      by_cases h0 : fw.length < 50
      · simp [h0] at hm
      · omega
    simp only []
    cases m.lookup tdxOffsetUuid with
    | none => exact .inl ⟨_, rfl⟩
    | some block =>
      obtain ⟨hp, hl⟩ := locateMetadata_no_panic fw block hL
      simp only []
      cases hd : locateMetadata fw block with
      | panic p => rw [hd] at hp; exact absurd rfl hp
      | err c => exact .inl ⟨_, rfl⟩
      | ok desc =>
        have hq := tdxMetadataFromBytes_no_panic desc
        simp only []
        cases hmd : tdxMetadataFromBytes desc with
        | panic p => rw [hmd] at hq; exact absurd rfl hq
        | err c => exact .inl ⟨_, rfl⟩
        | ok md => exact .inr ⟨desc, md, hL, hl desc hd, hmd, rfl⟩

theorem extract_no_panic (fw : Bytes) : ¬ (extractTDXMetadata fw).isPanic := by
  rw [extract_eq]
  rcases read_cases fw with ⟨c, h⟩ | ⟨_, md, _, _, _, h⟩ <;> rw [h] <;> simp only []
  · exact Bool.false_ne_true
  · have hv := validate_no_panic (fw.length % 2 ^ 32) md
    cases hvv : validateTDXMetadataSections (fw.length % 2 ^ 32) md with
    | panic p => rw [hvv] at hv; exact absurd rfl hv
    | _ => exact Bool.false_ne_true

/-- What the image says about the metadata it carries: the section list fits the image (which holds at
    least the 50-byte table footer), and SectionCount, a uint32, bounds its length. -/
theorem read_ok (fw : Bytes) (md : TdxMetadata) (h : readTDXMetadata fw = .ok md) :
    32 * md.sections.length ≤ fw.length ∧ 50 ≤ fw.length ∧ md.sections.length < 2 ^ 32 := by
  rcases read_cases fw with ⟨c, h'⟩ | ⟨desc, md', hL, hl, hmd, h'⟩ <;> rw [h'] at h
  · cases h
  · cases h
    obtain ⟨_, hlen, hc, hr, _⟩ := tdxMetadata_canon desc md hmd
    exact ⟨by omega, hL, hc ▸ hr.2.2.2⟩

/-- Metadata returned by extractTDXMetadata passed validation, and its section list fits the image. -/
theorem extract_ok (fw : Bytes) (md : TdxMetadata) (h : extractTDXMetadata fw = .ok md) :
    MetaValid (fw.length % 2 ^ 32) md ∧ 32 * md.sections.length ≤ fw.length ∧ 50 ≤ fw.length :=
  have h' := (extract_iff_valid fw md).mp h
  ⟨h'.2, (read_ok fw md h'.1).1, (read_ok fw md h'.1).2.1⟩

/-- SectionCount is a uint32: accepted metadata has fewer than 2^32 sections (whatever the image size). -/
theorem extract_count (fw : Bytes) (md : TdxMetadata) (h : extractTDXMetadata fw = .ok md) :
    md.sections.length < 2 ^ 32 :=
  (read_ok fw md ((extract_iff_valid fw md).mp h).1).2.2

end GceTcb.TdxMeta

namespace GceTcb.TdxHob
open GceTcb GceTcb.Intervals GceTcb.TdxMeta

/-- getTDHOBList on a section shorter than 2^63 (`Grow` does not panic; the validated cap is 2^32): the
    56-byte hand-off table, 48 bytes per descriptor and the 8-byte end marker either exceed the section
    or are padded with zeros to its size. -/
theorem getTDHOBList_eq (hob : Gpr) (priv un : List Gpr) (dea : Bool) (h : hob.len < 2 ^ 63) :
    getTDHOBList hob priv un dea =
      if 64 + 48 * (priv.length + un.length) > hob.len then .err "hoboverflow"
      else .ok ⟨hobContent hob priv un dea, hob.len - (64 + 48 * (priv.length + un.length))⟩ := by
  have hl : hob.len % 2 ^ 64 = hob.len := Nat.mod_eq_of_lt (by omega)
  have hc : (hobContent hob priv un dea).length = 64 + 48 * (priv.length + un.length) := by
    rw [hobContent_length]; omega
  unfold getTDHOBList
  rw [hl, if_neg (by omega)]
  simp only [hc]

theorem getTDHOBList_no_panic (hob : Gpr) (priv un : List Gpr) (dea : Bool) (h : hob.len < 2 ^ 63) :
    ¬ (getTDHOBList hob priv un dea).isPanic := by
  rw [getTDHOBList_eq hob priv un dea h]
  split <;> exact Bool.false_ne_true

theorem getTDHOBList_ok_length (hob : Gpr) (priv un : List Gpr) (dea : Bool) (b : HostBuf)
    (h : hob.len < 2 ^ 63) (hb : getTDHOBList hob priv un dea = .ok b) : b.length = hob.len := by
  rw [getTDHOBList_eq hob priv un dea h] at hb
  split at hb
  · cases hb
  · cases hb
    simp only [HostBuf.length, hobContent_length]; omega

end GceTcb.TdxHob

namespace GceTcb.Mrtd
open GceTcb GceTcb.Intervals GceTcb.TdxMeta GceTcb.TdxHob

/-- what the checks of InitMemoryRegion demand of a region -/
def InitOK (m : Bool) (r : Region) : Prop :=
  (measureOf m r = true → r.gpr.len % 2 ^ 64 = r.buf.length) ∧ r.gpr.start % 2 ^ 64 % 4096 = 0 ∧
    r.gpr.len % 2 ^ 64 % 4096 = 0 ∧ r.buf.length % 256 = 0

/-- There is no third case: the slice `data[i:i+256]` is only evaluated when the region is measured,
    and then the buffer has the region's length. -/
theorem initChecks_cases (m : Bool) (r : Region) :
    InitOK m r ∧ initChecks m r = .ok (measureOf m r) ∨ ¬ InitOK m r ∧ ∃ c, initChecks m r = .err c := by
  unfold InitOK initChecks measureOf
  generalize ((r.attrs &&& 1 ≠ 0) || m) = M
  simp only []
  by_cases h1 : M = true ∧ r.gpr.len % 2 ^ 64 ≠ r.buf.length
  · rw [if_pos h1]; exact .inr ⟨fun h => h1.2 (h.1 h1.1), _, rfl⟩
  rw [if_neg h1]
  by_cases h2 : r.gpr.start % 2 ^ 64 % 4096 ≠ 0
  · rw [if_pos h2]; exact .inr ⟨fun h => h2 h.2.1, _, rfl⟩
  rw [if_neg h2]
  by_cases h3 : r.gpr.len % 2 ^ 64 % 4096 ≠ 0
  · rw [if_pos h3]; exact .inr ⟨fun h => h3 h.2.2.1, _, rfl⟩
  rw [if_neg h3]
  by_cases h4 : r.buf.length % 256 ≠ 0
  · rw [if_pos h4]; exact .inr ⟨fun h => h4 h.2.2.2, _, rfl⟩
  rw [if_neg h4, if_neg fun hh => h1 ⟨hh.1, by omega⟩]
  exact .inl ⟨⟨fun hm => Classical.not_not.mp fun hne => h1 ⟨hm, hne⟩, Classical.not_not.mp h2,
    Classical.not_not.mp h3, Classical.not_not.mp h4⟩, rfl⟩

theorem initChecks_no_panic (m : Bool) (r : Region) : ¬ (initChecks m r).isPanic := by
  rcases initChecks_cases m r with ⟨_, h⟩ | ⟨_, _, h⟩ <;> rw [h] <;> exact Bool.false_ne_true

theorem initMemoryRegion_no_panic (m : Bool) (r : Region) : ¬ (initMemoryRegion m r).isPanic := by
  unfold initMemoryRegion
  have := initChecks_no_panic m r
  cases h : initChecks m r with
  | ok b => simp [Outcome.isPanic]
  | err c => simp [Outcome.isPanic]
  | panic p => rw [h] at this; simp [Outcome.isPanic] at this

theorem initAll_no_panic (m : Bool) : ∀ (rs : List Region), ¬ (initAll m rs).isPanic := by
  intro rs
  induction rs with
  | nil => simp [initAll, Outcome.isPanic]
  | cons r rs ih =>
    unfold initAll
    have h1 := initMemoryRegion_no_panic m r
    cases h : initMemoryRegion m r with
    | ok s =>
      simp only []
      cases h' : initAll m rs with
      | ok t => simp [Outcome.isPanic]
      | err c => simp [Outcome.isPanic]
      | panic p => rw [h'] at ih; simp [Outcome.isPanic] at ih
    | err c => simp [Outcome.isPanic]
    | panic p => rw [h] at h1; simp [Outcome.isPanic] at h1

end GceTcb.Mrtd
