import GceTcb.Model.DecTotal
/-
Helper lemmas for C07 (verifier-glue half): the no-panic predicate and the cost bound on the
result-with-trace monad `M`; `Runs`, which is both at once, with its rules for `bind`, `if` and the checked
operations; and `Runs` for the model functions that other model functions call.  A model function is
analysed once, by following its text with these rules: every leaf is a return, an error or a checked operation
on a value known to be non-nil.
-/
namespace GceTcb.DecTotal
open GceTcb

/-- the computation does not end in a Go run-time panic -/
def NoPanic {α : Type} (x : M α) : Prop := ∀ s, x.out ≠ .panic s

/-- the recorded cost (loop iterations + bytes the glue allocates) is at most `n` -/
def CostLe {α : Type} (x : M α) (n : Nat) : Prop := x.tr.cost ≤ n

@[simp] theorem bind_def {α β : Type} (x : M α) (f : α → M β) : (x >>= f) = M.bind x f := rfl
@[simp] theorem pure_def {α : Type} (a : α) : (Pure.pure a : M α) = M.pure a := rfl

theorem pure_bind {α β : Type} (a : α) (f : α → M β) : M.bind (M.pure a) f = f a := by
  simp [M.bind, M.pure, Trace.add]

theorem fail_bind {α β : Type} (c : String) (f : α → M β) : M.bind (fail c) f = fail c := rfl

theorem bind_out {α β : Type} (x : M α) (f : α → M β) :
    (M.bind x f).out = match x.out with
      | .ok a => (f a).out
      | .err c => .err c
      | .panic s => .panic s := by
  unfold M.bind; cases x.out <;> rfl

theorem bind_tr_le {α β : Type} (x : M α) {f : α → M β} {t a : Nat}
    (hf : ∀ m, (f m).tr.ticks ≤ t ∧ (f m).tr.alloc ≤ a) :
    (M.bind x f).tr.ticks ≤ x.tr.ticks + t ∧ (M.bind x f).tr.alloc ≤ x.tr.alloc + a := by
  unfold M.bind
  cases x.out with
  | ok m => exact ⟨Nat.add_le_add_left (hf m).1 _, Nat.add_le_add_left (hf m).2 _⟩
  | err c => exact ⟨Nat.le_add_right _ _, Nat.le_add_right _ _⟩
  | panic s => exact ⟨Nat.le_add_right _ _, Nat.le_add_right _ _⟩

theorem noPanic_bind {α β : Type} {x : M α} {f : α → M β} (hx : NoPanic x)
    (hf : ∀ a, x.out = .ok a → NoPanic (f a)) : NoPanic (M.bind x f) := by
  intro s h
  unfold M.bind at h
  cases hxo : x.out with
  | ok a => rw [hxo] at h; exact hf a hxo s (by simpa using h)
  | err c => rw [hxo] at h; simp at h
  | panic p => exact hx p hxo

theorem noPanic_bind' {α β : Type} {x : M α} {f : α → M β} (hx : NoPanic x)
    (hf : ∀ a, NoPanic (f a)) : NoPanic (M.bind x f) :=
  noPanic_bind hx (fun a _ => hf a)

theorem cost_add (a b : Trace) : (a.add b).cost = a.cost + b.cost := by
  simp [Trace.add, Trace.cost]; omega

theorem costLe_crash {α : Type} (c : String) : CostLe (crash c : M α) 0 := Nat.zero_le 0

theorem costLe_mono {α : Type} {x : M α} {n m : Nat} (h : CostLe x n) (hnm : n ≤ m) : CostLe x m :=
  Nat.le_trans h hnm

theorem costLe_bind {α β : Type} {x : M α} {f : α → M β} {n m : Nat} (hx : CostLe x n)
    (hf : ∀ a, x.out = .ok a → CostLe (f a) m) : CostLe (M.bind x f) (n + m) := by
  unfold CostLe M.bind
  cases hxo : x.out with
  | ok a =>
    simp only [cost_add]
    have := hf a hxo
    unfold CostLe at hx this
    omega
  | err c => simp only; unfold CostLe at hx; omega
  | panic p => simp only; unfold CostLe at hx; omega

theorem costLe_bind' {α β : Type} {x : M α} {f : α → M β} {n m : Nat} (hx : CostLe x n)
    (hf : ∀ a, CostLe (f a) m) : CostLe (M.bind x f) (n + m) :=
  costLe_bind hx (fun a _ => hf a)

/-- `x` does not panic and, when `H` holds, its recorded cost is at most `n`.  `H` is what a bound assumes of the
    parsers (`True` for most entry points); the rules, and every function analysed with them, hold for every `H`. -/
def Runs {α : Type} (H : Prop) (x : M α) (n : Nat) : Prop := NoPanic x ∧ (H → CostLe x n)

variable {α β : Type} {H : Prop} {n m : Nat} {x y : M α} {f : α → M β} {c : Prop} [Decidable c]

theorem Runs.noPanic (h : Runs True x n) : NoPanic x := h.1
theorem Runs.cost (h : Runs True x n) : CostLe x n := h.2 trivial

theorem Runs.mono_of (h : Runs H x n) (hnm : H → n ≤ m) : Runs H x m :=
  ⟨h.1, fun hH => Nat.le_trans (h.2 hH) (hnm hH)⟩

theorem Runs.mono (h : Runs H x n) (hnm : n ≤ m) : Runs H x m := h.mono_of fun _ => hnm

theorem runs_of_out (ho : ∀ s, x.out ≠ .panic s) (ht : x.tr = {}) : Runs H x n :=
  ⟨ho, fun _ => by rw [CostLe, ht]; exact Nat.zero_le n⟩

theorem runs_pure (a : α) : Runs H (M.pure a) n := runs_of_out nofun rfl
theorem runs_fail (e : String) : Runs H (fail e : M α) n := runs_of_out nofun rfl
theorem runs_tick (k : Nat) : Runs H (tick k) k := ⟨nofun, fun _ => by simp [CostLe, tick, Trace.cost]⟩
theorem runs_allocate (k : Nat) : Runs H (allocate k) k := ⟨nofun, fun _ => by simp [CostLe, allocate, Trace.cost]⟩
theorem runs_httpGet (g : Url → Option Bytes) (u : Url) : Runs H (httpGet g u) n := ⟨nofun, fun _ => Nat.zero_le n⟩
theorem runs_sliceFrom (site : String) (b : Bytes) (k : Nat) (h : k ≤ b.length) : Runs H (sliceFrom site b k) n := by
  unfold sliceFrom; rw [if_pos h]; exact runs_pure _

theorem runs_bind (hx : Runs H x n) (hf : ∀ a, x.out = .ok a → Runs H (f a) m) :
    Runs H (M.bind x f) (n + m) :=
  ⟨noPanic_bind hx.1 fun a ha => (hf a ha).1, fun hH => costLe_bind (hx.2 hH) fun a ha => (hf a ha).2 hH⟩

theorem runs_bind0L (hx : Runs H x 0) (hf : ∀ a, x.out = .ok a → Runs H (f a) n) :
    Runs H (M.bind x f) n :=
  (runs_bind hx hf).mono (Nat.le_of_eq (Nat.zero_add n))

theorem runs_bind0R (hx : Runs H x n) (hf : ∀ a, x.out = .ok a → Runs H (f a) 0) :
    Runs H (M.bind x f) n :=
  runs_bind hx hf

/-- a loop iteration, or a write through a fixed buffer -/
theorem runs_tick_bind {f : Unit → M β} {k : Nat} (hf : Runs H (f ()) n) : Runs H (M.bind (tick k) f) (n + k) :=
  (runs_bind (runs_tick k) fun _ _ => hf).mono (Nat.le_of_eq (Nat.add_comm k n))

theorem runs_deref_bind {site : String} {o : Option α} {a : α} (h : o = some a) (hf : Runs H (f a) n) :
    Runs H (M.bind (deref site o) f) n := by
  subst h; exact (pure_bind a f).symm ▸ hf

theorem runs_ite' (hx : c → Runs H x n) (hy : ¬c → Runs H y n) :
    Runs H (if c then x else y) n := by
  split
  · exact hx ‹_›
  · exact hy ‹_›

theorem runs_ite (hx : Runs H x n) (hy : Runs H y n) :
    Runs H (if c then x else y) n :=
  runs_ite' (fun _ => hx) fun _ => hy

/-- the early return `if … { return err }` -/
theorem runs_guard {e : String} {y : M α} (hy : Runs H y n) :
    Runs H (if c then fail e else y) n :=
  runs_ite (runs_fail e) hy

theorem guard_out_ok {e : String} {a : α} (h : (if c then fail e else y).out = .ok a) : ¬c ∧ y.out = .ok a := by
  split at h
  · cases h
  · exact ⟨‹_›, h⟩

/-- what `passes` makes of a result -/
def okB : Outcome Unit → Outcome Bool
  | .ok _ => .ok true
  | .err _ => .ok false
  | .panic s => .panic s

theorem passes_out (x : M Unit) : (passes x).out = okB x.out := by
  unfold passes; cases x.out <;> rfl

/-- `passes` and `catchErr` turn an error into a value and leave a panic and the trace as they are -/
theorem runs_passes {x : M Unit} (h : Runs H x n) : Runs H (passes x) n := by
  unfold passes Runs NoPanic CostLe at *
  cases hx : x.out <;> simp_all

theorem runs_catchErr (h : Runs H x n) : Runs H (catchErr x) n := by
  unfold catchErr Runs NoPanic CostLe at *
  cases hx : x.out <;> simp_all

theorem deref_out_ok {site : String} {o : Option α} {a : α} (h : (deref site o).out = .ok a) : o = some a := by
  cases o with
  | none => simp [deref, crash] at h
  | some b => simp [deref, M.pure] at h; rw [h]

variable {Cert Roots Time : Type}

theorem runs_checkCertificate (P : Parsers Cert Roots Time) (c : Bytes) (r : Option Roots) (t : Time) :
    Runs H (checkCertificate P c r t) 0 := by
  unfold checkCertificate
  refine runs_guard ?_
  split
  · exact runs_fail _
  · split
    · exact runs_fail _
    · exact runs_ite (runs_pure _) (runs_fail _)

theorem runs_anyMeasurement (given : Bytes) (l : List (Nat × Bytes)) : Runs H (anyMeasurement given l) l.length := by
  induction l with
  | nil => exact runs_pure _
  | cons p rest ih =>
    simp only [anyMeasurement, bind_def, List.length_cons]
    exact runs_tick_bind (runs_ite (runs_pure _) ih)

theorem runs_checkRanges (n : Nat) (l : List (Nat × Nat)) (t : Nat) : Runs H (checkRanges n t l) l.length := by
  induction l generalizing t with
  | nil => exact runs_pure _
  | cons e rest ih =>
    simp only [checkRanges, bind_def, List.length_cons]
    exact runs_tick_bind (runs_guard (runs_guard (runs_guard (ih _))))

theorem runs_reportCertsOf (quote2 : Bytes) : Runs H (reportCertsOf quote2) 0 := by
  unfold reportCertsOf
  exact runs_ite' (fun h => runs_sliceFrom _ _ _ h) fun _ => runs_pure _

theorem reportCertsOf_out (quote2 : Bytes) :
    (reportCertsOf quote2).out = .ok (if reportSize ≤ quote2.length then quote2.drop reportSize else []) := by
  unfold reportCertsOf sliceFrom
  split <;> rfl

theorem decodeQuote_out {Cert Roots Time : Type} (P : Parsers Cert Roots Time) (quote : Bytes) :
    (decodeQuote P quote).out = .ok (match P.hexDecode quote with
      | some d => d
      | none => match P.base64Decode quote with
        | some d => d
        | none => quote) := by
  simp only [decodeQuote, bind_def, bind_out, allocate]
  cases P.hexDecode quote with
  | some d => rfl
  | none => cases P.base64Decode quote <;> rfl

theorem runs_policyModificationAllowed (s : PSevSnp) (p : Option SevPol) (o : SevPolicyOptions) :
    Runs H (policyModificationAllowed (some s) p (some o)) 0 := by
  simp only [policyModificationAllowed, bind_def, deref, pure_bind]
  exact runs_ite (runs_pure _) (runs_ite (runs_pure _) (runs_pure _))

theorem runs_addBundle (P : Parsers Cert Roots Time) (s : Option PSevSnp) (p : SevPol) : Runs H (addBundle P s p) 0 := by
  simp only [addBundle, bind_def]
  refine runs_ite (runs_pure _) ?_
  split
  · exact runs_fail _
  · rename_i hid
    refine runs_deref_bind hid (runs_guard (runs_deref_bind hid ?_))
    refine runs_ite (runs_pure _) ?_
    split
    · exact runs_fail _
    · rename_i hauth
      exact runs_deref_bind hauth (runs_guard (runs_deref_bind hauth (runs_guard (runs_pure _))))

theorem runs_modifyPolicyRest (P : Parsers Cert Roots Time) (s : PSevSnp) (p : SevPol) (o : SevPolicyOptions) :
    Runs H (modifyPolicy.modifyPolicyRest P (some s) (some p) o) 0 := by
  simp only [modifyPolicy.modifyPolicyRest, bind_def, deref, pure_bind]
  refine runs_ite (runs_guard (runs_addBundle P _ _)) ?_
  split
  · exact runs_fail _
  · exact runs_addBundle P _ _

theorem runs_modifyPolicy (P : Parsers Cert Roots Time) (s : PSevSnp) (p : SevPol) (o : SevPolicyOptions) :
    Runs H (modifyPolicy P (some s) (some p) (some o)) 0 := by
  simp only [modifyPolicy, bind_def, deref, pure_bind]
  refine runs_ite ?_ (runs_modifyPolicyRest P _ _ _)
  refine runs_bind0L (runs_policyModificationAllowed _ _ _) fun _ _ => ?_
  exact runs_guard (runs_guard (runs_modifyPolicyRest P _ _ _))

theorem runs_collectMrtds (ram : Int) (rows : List (Option PTdxRow)) (acc : List Bytes) :
    Runs H (collectMrtds ram rows acc) (2 * rows.length) := by
  induction rows generalizing acc with
  | nil => exact runs_pure _
  | cons m rest ih =>
    simp only [collectMrtds, bind_def, List.length_cons]
    refine (runs_tick_bind (n := 1 + 2 * rest.length) ?_).mono (by omega)
    refine runs_ite ((ih _).mono (by omega)) (runs_guard ?_)
    exact runs_bind (runs_allocate 1) fun _ _ => ih _

theorem runs_modifyTdxPolicy (p : TdxPol) (mrtds : List Bytes) (o : TdxPolicyOptions) :
    Runs H (modifyTdxPolicy (some p) mrtds (some o)) 0 := by
  simp only [modifyTdxPolicy, bind_def, deref, pure_bind]
  split
  · exact runs_pure _
  · exact runs_ite (runs_guard (runs_pure _)) (runs_pure _)

theorem runs_extractEndorsementSev (P : Parsers Cert Roots Time) (att : Option PAtt)
    (o : SevValidateOptions Roots Time) : Runs H (extractEndorsementSev P att (some o)) 0 := by
  simp only [extractEndorsementSev, bind_def, deref, pure_bind]
  split
  · exact runs_pure _
  · split
    · exact runs_fail _
    · refine runs_guard (runs_bind0L (runs_httpGet _ _) fun _ _ => ?_)
      split
      · exact runs_fail _
      · split
        · exact runs_fail _
        · exact runs_pure _

theorem runs_fetchEndorsement (g : Option (Url → Option Bytes)) (u : Option Url) : Runs H (fetchEndorsement g u) 0 := by
  simp only [fetchEndorsement, bind_def]
  split
  · exact runs_fail _
  · split
    · exact runs_fail _
    · refine runs_bind0L (runs_httpGet _ _) fun _ _ => ?_
      split
      · exact runs_pure _
      · exact runs_fail _

theorem getD_map_le {α : Type} {o : Option α} {f : α → Nat} {n : Nat} (h : ∀ a, o = some a → f a ≤ n) :
    (o.map f).getD 0 ≤ n := by
  cases o with
  | none => exact Nat.zero_le n
  | some a => exact h a rfl

end GceTcb.DecTotal
