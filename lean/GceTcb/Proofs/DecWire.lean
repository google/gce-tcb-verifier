import GceTcb.Model.DecWire
import GceTcb.Proofs.DecTotal
import GceTcb.Proofs.ProtoWireLast
/-
Lemmas for C07 over the codec instance (Props/C07Wire.lean). A field read from the wire occupies at least
`wireW f = |canonical tag| + |value bytes|` bytes (a canonical tag is never longer than the tag read), so the
weights of the fields read sum to at most |input|. Hence an instrumented decoder whose every step stays within
the weight of its field ticks at most |input| and allocates at most K·|input|, accepted or rejected
(`decodeIntoM_cost`); and a measure no step raises by more than that weight grows by at most |input|
(`decodeInto_measure`), which gives the size law of the glue's linear bounds (`held…`). Core-only.
-/
namespace GceTcb.DecWire
open GceTcb GceTcb.ProtoWire GceTcb.DecTotal

theorem encodeVarintF_minimal (f : Nat) : ∀ (b : Bytes) (v : Nat) (r : Bytes), decodeVarintF f b = some (v, r) →
    (encodeVarintF f v).length + r.length ≤ b.length := by
  induction f with
  | zero => intro b v r h; simp [decodeVarintF] at h
  | succ f ih =>
    intro b v r h
    cases b with
    | nil => simp [decodeVarintF] at h
    | cons x xs =>
      rw [decodeVarintF] at h
      split at h
      · rename_i hx
        split at h
        · cases h
        · simp only [Option.some.injEq, Prod.mk.injEq] at h
          obtain ⟨rfl, rfl⟩ := h
          simp [encodeVarintF, hx]
          omega
      · rename_i hx
        split at h
        · cases h
        · cases hd : decodeVarintF f xs with
          | none => rw [hd] at h; cases h
          | some p =>
            obtain ⟨v', r'⟩ := p
            rw [hd] at h
            simp only [Option.some.injEq, Prod.mk.injEq] at h
            obtain ⟨rfl, rfl⟩ := h
            have := ih xs v' r' hd
            have hx2 := x.toNat_lt
            rw [encodeVarintF]
            split
            · simp only [List.length_cons, List.length_nil]
              have := encodeVarintF_length_le f v'
              omega
            · have e : (x.toNat - 128 + 128 * v') / 128 = v' := by omega
              simp only [List.length_cons, e]
              omega

theorem encodeVarint_minimal (b : Bytes) (v : Nat) (r : Bytes) (h : decodeVarint b = some (v, r)) :
    (encodeVarint v).length + r.length ≤ b.length := by
  have hb := decodeVarint_bound b v r h
  unfold encodeVarint
  rw [Nat.mod_eq_of_lt hb]
  exact encodeVarintF_minimal 10 b v r h

theorem consumed_length (b r : Bytes) (h : r.length ≤ b.length) : (consumed b r).length + r.length = b.length := by
  simp [consumed]; omega

/-- canonical tag + value bytes as they appeared: what the field contributes to the unknown-field bytes, and
    a lower bound of the bytes it occupied on the wire -/
def wireW (f : Field) : Nat := f.unknownBytes.length

theorem wireW_pos (f : Field) : 1 ≤ wireW f := by
  have := (encodeVarint_length (f.num * 8 + f.val.wt)).1
  simp only [wireW, Field.unknownBytes, tagBytes, List.length_append]
  omega

/-- a length-delimited value is a length prefix and the payload -/
theorem decodeLen_weight (b p r : Bytes) (h : decodeLen b = some (p, r)) : p.length + 1 + r.length ≤ b.length := by
  unfold decodeLen at h
  cases hd : decodeVarint b with
  | none => rw [hd] at h; cases h
  | some q =>
    obtain ⟨m, r1⟩ := q
    rw [hd] at h
    have := decodeVarint_lt b m r1 hd
    simp only at h
    split at h
    · cases h
    · cases h
      simp only [List.length_take, List.length_drop]
      omega

/-- `+ 2`: a length-delimited field occupies its payload, a length prefix and a tag. -/
theorem readField_weight (b : Bytes) (f : Field) (r : Bytes) (h : readField b = some (f, r)) :
    wireW f + r.length ≤ b.length ∧ ∀ p, f.val = .len p → p.length + 2 ≤ wireW f := by
  unfold readField at h
  cases hd : decodeVarint b with
  | none => rw [hd] at h; cases h
  | some q =>
    obtain ⟨tag, b1⟩ := q
    rw [hd] at h
    have hmin := encodeVarint_minimal b tag b1 hd
    have hpos := (encodeVarint_length tag).1
    have htag : ∀ wt, tag % 8 = wt → tagBytes (tag / 8) wt = encodeVarint tag := by
      intro wt hwt; unfold tagBytes; congr 1; omega
    simp only at h
    split at h
    · cases h
    · split at h
      · rename_i hw
        cases hv : decodeVarint b1 with
        | none => rw [hv] at h; cases h
        | some q2 =>
          rw [hv] at h
          cases h
          have hc := consumed_length b1 q2.2 (Nat.le_of_lt (decodeVarint_lt b1 _ _ hv))
          simp only [wireW, Field.unknownBytes, Val.wt, htag 0 hw, List.length_append]
          exact ⟨by omega, nofun⟩
      · rename_i hw
        split at h
        · cases h
        · cases h
          simp only [wireW, Field.unknownBytes, Val.wt, htag 1 hw, List.length_append, List.length_take,
            List.length_drop]
          exact ⟨by omega, nofun⟩
      · rename_i hw
        cases hv : decodeLen b1 with
        | none => rw [hv] at h; cases h
        | some q2 =>
          rw [hv] at h
          cases h
          have hc := consumed_length b1 q2.2 (Nat.le_of_lt (decodeLen_lt b1 _ _ hv))
          have hl := decodeLen_weight b1 _ _ hv
          simp only [wireW, Field.unknownBytes, Val.wt, htag 2 hw, List.length_append]
          refine ⟨by omega, fun p hp => ?_⟩
          cases hp
          omega
      · rename_i hw
        cases hv : skipGroups b1.length [tag / 8] b1 with
        | none => rw [hv] at h; cases h
        | some r2 =>
          rw [hv] at h
          cases h
          have hc := consumed_length b1 r (skipGroups_le _ _ _ _ hv)
          simp only [wireW, Field.unknownBytes, Val.wt, htag 3 hw, List.length_append]
          exact ⟨by omega, nofun⟩
      · rename_i hw
        split at h
        · cases h
        · cases h
          simp only [wireW, Field.unknownBytes, Val.wt, htag 5 hw, List.length_append, List.length_take,
            List.length_drop]
          exact ⟨by omega, nofun⟩
      · cases h

/-- `f` is a field some `readField` returned; only of such a field is a payload known to lie within `wireW f`
    (`readOff_len`) -/
def ReadOff (f : Field) : Prop := ∃ b r, readField b = some (f, r)

def wsum (fs : List Field) : Nat := (fs.map wireW).sum

theorem fieldsPrefixF_weight (n : Nat) : ∀ (b : Bytes), wsum (fieldsPrefixF n b) ≤ b.length ∧
    ∀ f ∈ fieldsPrefixF n b, ReadOff f := by
  induction n with
  | zero => intro b; simp [fieldsPrefixF, wsum]
  | succ n ih =>
    intro b
    rw [fieldsPrefixF]
    cases hr : readField b with
    | none => simp [wsum]
    | some q =>
      obtain ⟨f, r⟩ := q
      have hw := (readField_weight b f r hr).1
      obtain ⟨h1, h2⟩ := ih r
      simp only [wsum, List.map_cons, List.sum_cons] at h1 ⊢
      refine ⟨by omega, ?_⟩
      intro g hg
      rcases List.mem_cons.mp hg with rfl | hg'
      · exact ⟨b, r, hr⟩
      · exact h2 g hg'

theorem fieldsPrefix_weight (b : Bytes) : wsum (fieldsPrefix b) ≤ b.length ∧ ∀ f ∈ fieldsPrefix b, ReadOff f :=
  fieldsPrefixF_weight _ b

theorem fieldsPrefixF_of_parse (n : Nat) : ∀ (b : Bytes) (fs : List Field),
    parseFieldsF n b = some fs → fieldsPrefixF n b = fs := by
  induction n with
  | zero =>
    intro b fs h
    cases b with
    | nil => cases h; rfl
    | cons x xs => cases h
  | succ n ih =>
    intro b fs h
    cases b with
    | nil => cases h; rfl
    | cons x xs =>
      rw [parseFieldsF] at h
      rw [fieldsPrefixF]
      cases hr : readField (x :: xs) with
      | none => rw [hr] at h; cases h
      | some q =>
        rw [hr] at h
        cases hp : parseFieldsF n q.2 with
        | none => simp only [hp] at h; cases h
        | some fs' =>
          simp only [hp, Option.some.injEq] at h
          subst h
          simp only [ih _ _ hp]

theorem fieldsPrefix_of_parse (b : Bytes) (fs : List Field) (h : parseFields b = some fs) : fieldsPrefix b = fs :=
  fieldsPrefixF_of_parse b.length b fs h

theorem parseFields_weight {b : Bytes} {fs : List Field} (h : parseFields b = some fs) :
    wsum fs ≤ b.length ∧ ∀ f ∈ fs, ReadOff f := by
  rw [← fieldsPrefix_of_parse b fs h]; exact fieldsPrefix_weight b

theorem readOff_len {f : Field} {p : Bytes} (h : ReadOff f) (hp : f.val = .len p) : p.length + 2 ≤ wireW f := by
  obtain ⟨b, r, hr⟩ := h
  exact (readField_weight b f r hr).2 p hp

theorem stepWith_out {σ : Type} (step : σ → Field → Option σ) (c : σ → Field → Trace) (m : σ) (f : Field) :
    (stepWith step c m f).out = toOut (step m f) := rfl

theorem loopM_out {σ : Type} (step : σ → Field → Option σ) (c : σ → Field → Trace) (fs : List Field) : ∀ (m : σ),
    (loopM (stepWith step c) m fs).out = toOut (foldFields step m fs) := by
  induction fs with
  | nil => intro m; rfl
  | cons f fs ih =>
    intro m
    show (M.bind (stepWith step c m f) fun m' => loopM (stepWith step c) m' fs).out = _
    rw [bind_out, stepWith_out, foldFields]
    cases step m f with
    | none => rfl
    | some m' => exact ih m'

theorem decodeIntoM_out {σ : Type} (step : σ → Field → Option σ) (c : σ → Field → Trace) (init : σ) (b : Bytes) :
    (decodeIntoM (stepWith step c) init b).out = toOut (decodeInto step init b) := by
  unfold decodeIntoM decodeInto
  rw [bind_out, loopM_out]
  cases hp : parseFields b with
  | some fs =>
    rw [fieldsPrefix_of_parse b fs hp]
    show _ = toOut (foldFields step init fs)
    cases foldFields step init fs <;> rfl
  | none => cases foldFields step init (fieldsPrefix b) <;> rfl

/-- the bound a step has to meet: within `wireW f` ticks (the loop's own tick included) and `K·wireW f` allocation -/
def StepOk (K : Nat) (t : Trace) (f : Field) : Prop := t.ticks + 1 ≤ wireW f ∧ t.alloc ≤ K * wireW f

theorem loopM_cost {σ : Type} (stepM : σ → Field → M σ) (K : Nat) (fs : List Field)
    (hc : ∀ m, ∀ f ∈ fs, StepOk K (stepM m f).tr f) : ∀ (m : σ),
    (loopM stepM m fs).tr.ticks ≤ wsum fs ∧ (loopM stepM m fs).tr.alloc ≤ K * wsum fs := by
  induction fs with
  | nil => intro m; exact ⟨Nat.zero_le _, Nat.zero_le _⟩
  | cons f fs ih =>
    intro m
    obtain ⟨h1, h2⟩ := hc m f List.mem_cons_self
    obtain ⟨(i1 : _ ≤ 1 + _), (i2 : _ ≤ 0 + _)⟩ :=
      bind_tr_le (tick 1) fun _ => bind_tr_le (stepM m f) (ih fun m g hg => hc m g (List.mem_cons_of_mem _ hg))
    simp only [loopM, wsum, List.map_cons, List.sum_cons, Nat.mul_add] at i1 i2 ⊢
    omega

theorem decodeIntoM_cost {σ : Type} (stepM : σ → Field → M σ) (K : Nat) (init : σ) (b : Bytes)
    (hc : ∀ m f, ReadOff f → StepOk K (stepM m f).tr f) :
    (decodeIntoM stepM init b).tr.ticks ≤ b.length ∧ (decodeIntoM stepM init b).tr.alloc ≤ K * b.length := by
  unfold decodeIntoM
  obtain ⟨hw, hro⟩ := fieldsPrefix_weight b
  obtain ⟨l1, l2⟩ := loopM_cost stepM K (fieldsPrefix b) (fun m f hf => hc m f (hro f hf)) init
  obtain ⟨h1, h2⟩ := bind_tr_le (t := 0) (a := 0) (loopM stepM init (fieldsPrefix b))
    (f := fun m => if (parseFields b).isSome then M.pure m else fail "wire")
    fun m => by split <;> exact ⟨Nat.le_refl 0, Nat.le_refl 0⟩
  have := Nat.mul_le_mul_left K hw
  exact ⟨by omega, by omega⟩

theorem stepOk_zero {K : Nat} {f : Field} : StepOk K {} f := ⟨wireW_pos f, Nat.zero_le _⟩

theorem stepOk_unknown {K : Nat} (hK : 1 ≤ K) {f : Field} : StepOk K (allocT f.unknownBytes.length) f :=
  ⟨wireW_pos f, Nat.le_mul_of_pos_left _ hK⟩

theorem stepOk_bytes {K : Nat} (hK : 1 ≤ K) {f : Field} {p : Bytes} (hf : ReadOff f) (hp : f.val = .len p) :
    StepOk K (allocT p.length) f :=
  ⟨wireW_pos f, Nat.le_trans (Nat.le_trans (Nat.le_add_right _ 2) (readOff_len hf hp)) (Nat.le_mul_of_pos_left _ hK)⟩

/-- an embedded message: at most one new object, then the nested decoder's trace -/
theorem stepOk_nested {K k : Nat} (hk : k ≤ K) {f : Field} {p : Bytes} {t : Trace} (hf : ReadOff f)
    (hp : f.val = .len p) (ht : t.ticks ≤ p.length ∧ t.alloc ≤ K * p.length) : StepOk K ((allocT k).add t) f := by
  have hw := readOff_len hf hp
  have h1 : K * (p.length + 2) ≤ K * wireW f := Nat.mul_le_mul_left K hw
  rw [Nat.mul_add] at h1
  refine ⟨?_, ?_⟩
  · show 0 + t.ticks + 1 ≤ wireW f; omega
  · show k + t.alloc ≤ K * wireW f; omega

theorem costTimestamp_ok {K : Nat} (hK : 1 ≤ K) (m : WTimestamp) (f : Field) : StepOk K (costTimestamp m f) f := by
  unfold costTimestamp
  split
  · exact stepOk_zero
  · exact stepOk_zero
  · exact stepOk_unknown hK

theorem costRow_ok {K : Nat} (hK : 1 ≤ K) (m : WRow) (f : Field) (hf : ReadOff f) : StepOk K (costRow m f) f := by
  unfold costRow
  split
  · exact stepOk_zero
  · exact stepOk_zero
  · exact stepOk_bytes hK hf ‹_›
  · exact stepOk_unknown hK

theorem costTdx_ok {K : Nat} (hK : 1 ≤ K) (m : WTdx) (f : Field) (hf : ReadOff f) : StepOk K (costTdx K m f) f := by
  unfold costTdx
  split
  · exact stepOk_zero
  · exact stepOk_nested (Nat.le_refl K) hf ‹_› (decodeIntoM_cost _ K _ _ (costRow_ok hK))
  · exact stepOk_unknown hK

theorem costEntry_ok {K : Nat} (hK : 1 ≤ K) (m : Nat × Bytes) (f : Field) (hf : ReadOff f) :
    StepOk K (costEntry m f) f := by
  unfold costEntry
  split
  · exact stepOk_bytes hK hf ‹_›
  · exact stepOk_zero

theorem costSevSnp_ok {K : Nat} (hK : 1 ≤ K) (m : WSevSnp) (f : Field) (hf : ReadOff f) :
    StepOk K (costSevSnp K m f) f := by
  unfold costSevSnp
  split
  · exact stepOk_zero
  · exact stepOk_nested (Nat.le_refl K) hf ‹_› (decodeIntoM_cost _ K _ _ (costEntry_ok hK))
  · exact stepOk_bytes hK hf ‹_›
  · exact stepOk_bytes hK hf ‹_›
  · exact stepOk_zero
  · exact stepOk_bytes hK hf ‹_›
  · exact stepOk_bytes hK hf ‹_›
  · exact stepOk_unknown hK

theorem ite_le (c : Prop) [Decidable c] (K : Nat) : (if c then 0 else K) ≤ K := by split <;> omega

theorem costGolden_ok {K : Nat} (hK : 1 ≤ K) (m : WGolden) (f : Field) (hf : ReadOff f) :
    StepOk K (costGolden K m f) f := by
  unfold costGolden
  split
  · exact stepOk_nested (ite_le _ K) hf ‹_› (decodeIntoM_cost _ K _ _ fun m f _ => costTimestamp_ok hK m f)
  · exact stepOk_zero
  · exact stepOk_bytes hK hf ‹_›
  · exact stepOk_bytes hK hf ‹_›
  · exact stepOk_bytes hK hf ‹_›
  · exact stepOk_bytes hK hf ‹_›
  · exact stepOk_nested (ite_le _ K) hf ‹_› (decodeIntoM_cost _ K _ _ (costSevSnp_ok hK))
  · exact stepOk_nested (ite_le _ K) hf ‹_› (decodeIntoM_cost _ K _ _ (costTdx_ok hK))
  · exact stepOk_unknown hK

/-- the container: no heap object besides the copies -/
theorem costEndorsement_ok (m : WEndorsement) (f : Field) (hf : ReadOff f) : StepOk 1 (costEndorsement m f) f := by
  unfold costEndorsement
  split
  · exact stepOk_bytes (Nat.le_refl 1) hf ‹_›
  · exact stepOk_bytes (Nat.le_refl 1) hf ‹_›
  · exact stepOk_unknown (Nat.le_refl 1)

def Grows {σ : Type} (step : σ → Field → Option σ) (μ : σ → Nat) : Prop :=
  ∀ m f m', ReadOff f → step m f = some m' → μ m' ≤ μ m + wireW f

theorem foldFields_measure {σ : Type} {step : σ → Field → Option σ} {μ : σ → Nat} (hstep : Grows step μ)
    (fs : List Field) : ∀ (m m' : σ), (∀ f ∈ fs, ReadOff f) → foldFields step m fs = some m' → μ m' ≤ μ m + wsum fs := by
  induction fs with
  | nil =>
    intro m m' _ h
    cases h; exact Nat.le_refl _
  | cons f fs ih =>
    intro m m' hro h
    simp only [foldFields] at h
    cases hs : step m f with
    | none => rw [hs] at h; cases h
    | some m1 =>
      rw [hs] at h
      have h1 := hstep m f m1 (hro f List.mem_cons_self) hs
      have h2 := ih m1 m' (fun g hg => hro g (List.mem_cons_of_mem _ hg)) h
      simp only [wsum, List.map_cons, List.sum_cons] at h2 ⊢
      omega

theorem decodeInto_measure {σ : Type} {step : σ → Field → Option σ} {μ : σ → Nat} (hstep : Grows step μ) {init m' : σ}
    {b : Bytes} (h : decodeInto step init b = some m') : μ m' ≤ μ init + b.length := by
  obtain ⟨fs, hp, hf⟩ := decodeInto_parses step init m' b h
  obtain ⟨hw, hro⟩ := parseFields_weight hp
  have := foldFields_measure hstep fs init m' hro hf
  omega

/-! `held…`: the bytes held by the byte-string fields and the unknown-field bytes at every level, plus ONE per heap
object (embedded message, repeated element, map entry).  That it is at most the number of input bytes is a statement
about the decoded VALUE alone, independent of the cost accounting above. -/

def heldTs (t : WTimestamp) : Nat := t.unknown.length
def heldRow (r : WRow) : Nat := r.mrtd.length + r.unknown.length
def heldRows (l : List WRow) : Nat := (l.map fun r => heldRow r + 1).sum
def heldTdx (d : WTdx) : Nat := heldRows d.measurements + d.unknown.length
def heldMap (l : List (Nat × Bytes)) : Nat := (l.map fun p => p.2.length + 1).sum
def heldSnp (s : WSevSnp) : Nat :=
  heldMap s.measurements + s.familyId.length + s.imageId.length + s.caBundle.length + s.svsmMeasurement.length +
    s.unknown.length
def heldOpt {α : Type} (h : α → Nat) : Option α → Nat
  | none => 0
  | some a => h a + 1
def heldGolden (g : WGolden) : Nat :=
  g.commit.length + g.cert.length + g.digest.length + g.caBundle.length + g.unknown.length +
    heldOpt heldTs g.timestamp + heldOpt heldSnp g.sevSnp + heldOpt heldTdx g.tdx
def heldEndorsement (e : WEndorsement) : Nat :=
  e.serializedUefiGolden.length + e.signature.length + e.unknown.length

theorem heldOpt_some {α : Type} (h : α → Nat) (a : α) : heldOpt h (some a) = h a + 1 := rfl

/-- an embedded message decoded into the one already there (else into the empty one): at most one new object -/
theorem heldOpt_nested {α : Type} {h : α → Nat} {z t : α} (hz : h z = 0) (o : Option α) {f : Field} {p : Bytes}
    (hf : ReadOff f) (hp : f.val = .len p) (ht : h t ≤ h (o.getD z) + p.length) :
    heldOpt h (some t) ≤ heldOpt h o + wireW f := by
  have := readOff_len hf hp
  cases o with
  | none => simp only [heldOpt, Option.getD_none, hz] at ht ⊢; omega
  | some a => simp only [heldOpt, Option.getD_some] at ht ⊢; omega

theorem stepTimestamp_held : Grows stepTimestamp heldTs := by
  intro m f m' _ h
  unfold stepTimestamp at h
  split at h
  · cases h; exact Nat.le_add_right _ _
  · cases h; exact Nat.le_add_right _ _
  · cases h; exact Nat.le_of_eq List.length_append

theorem stepRow_held : Grows stepRow heldRow := by
  intro m f m' hf h
  unfold stepRow at h
  split at h
  · cases h; exact Nat.le_add_right _ _
  · cases h; exact Nat.le_add_right _ _
  · cases h
    have := readOff_len hf ‹_›
    simp only [heldRow]; omega
  · cases h; simp only [heldRow, wireW, List.length_append]; omega

theorem decodeRow_held (r : WRow) (b : Bytes) (h : decodeRow b = some r) : heldRow r ≤ b.length := by
  have := decodeInto_measure stepRow_held h
  simpa [heldRow, WRow.zero] using this

theorem stepTdx_held : Grows stepTdx heldTdx := by
  intro m f m' hf h
  unfold stepTdx at h
  split at h
  · cases h; exact Nat.le_add_right _ _
  · split at h
    · cases h
    · cases h
      have := decodeRow_held _ _ ‹_›
      have := readOff_len hf ‹_›
      simp only [heldTdx, heldRows, List.map_append, List.sum_append, List.map_cons, List.map_nil, List.sum_cons,
        List.sum_nil]
      omega
  · cases h; simp only [heldTdx, wireW, List.length_append]; omega

theorem stepEntry_held : Grows stepEntry (·.2.length) := by
  intro m f m' hf h
  unfold stepEntry at h
  split at h
  · cases h; exact Nat.le_add_right _ _
  · cases h
    have := readOff_len hf ‹_›
    simp only; omega
  · cases h; exact Nat.le_add_right _ _

theorem decodeEntry_held (e : Nat × Bytes) (b : Bytes) (h : decodeEntry b = some e) : e.2.length ≤ b.length := by
  have := decodeInto_measure stepEntry_held h
  simpa using this

theorem mapSet_held (l : List (Nat × Bytes)) (k : Nat) (v : Bytes) : heldMap (mapSet l k v) ≤ heldMap l + v.length + 1 := by
  induction l with
  | nil => simp [mapSet, heldMap]
  | cons p t ih =>
    obtain ⟨k', v'⟩ := p
    unfold mapSet
    split
    · simp [heldMap]; omega
    · split
      · simp [heldMap]; omega
      · simp only [heldMap, List.map_cons, List.sum_cons] at ih ⊢; omega

theorem stepSevSnp_held : Grows stepSevSnp heldSnp := by
  intro m f m' hf h
  unfold stepSevSnp at h
  split at h
  · cases h; exact Nat.le_add_right _ _
  · split at h
    · cases h
    · rename_i k v he
      cases h
      have := decodeEntry_held (k, v) _ he
      have := readOff_len hf ‹_›
      have := mapSet_held m.measurements k v
      simp only [heldSnp] at *
      omega
  · cases h
    have := readOff_len hf ‹_›
    simp only [heldSnp]; omega
  · cases h
    have := readOff_len hf ‹_›
    simp only [heldSnp]; omega
  · cases h; exact Nat.le_add_right _ _
  · cases h
    have := readOff_len hf ‹_›
    simp only [heldSnp]; omega
  · cases h
    have := readOff_len hf ‹_›
    simp only [heldSnp]; omega
  · cases h; simp only [heldSnp, wireW, List.length_append]; omega

theorem stepGolden_held : Grows stepGolden heldGolden := by
  intro m f m' hf h
  unfold stepGolden at h
  split at h
  · split at h
    · cases h
    · cases h
      have := heldOpt_nested (h := heldTs) rfl m.timestamp hf ‹_› (decodeInto_measure stepTimestamp_held ‹_›)
      simp only [heldGolden]; omega
  · cases h; exact Nat.le_add_right _ _
  · cases h
    have := readOff_len hf ‹_›
    simp only [heldGolden]; omega
  · cases h
    have := readOff_len hf ‹_›
    simp only [heldGolden]; omega
  · cases h
    have := readOff_len hf ‹_›
    simp only [heldGolden]; omega
  · cases h
    have := readOff_len hf ‹_›
    simp only [heldGolden]; omega
  · split at h
    · cases h
    · cases h
      have := heldOpt_nested (h := heldSnp) rfl m.sevSnp hf ‹_› (decodeInto_measure stepSevSnp_held ‹_›)
      simp only [heldGolden]; omega
  · split at h
    · cases h
    · cases h
      have := heldOpt_nested (h := heldTdx) rfl m.tdx hf ‹_› (decodeInto_measure stepTdx_held ‹_›)
      simp only [heldGolden]; omega
  · cases h; simp only [heldGolden, wireW, List.length_append]; omega

theorem decodeGolden_held (b : Bytes) (g : WGolden) (h : decodeGolden b = some g) : heldGolden g ≤ b.length := by
  have := decodeInto_measure stepGolden_held h
  simpa [heldGolden, heldOpt, WGolden.zero] using this

theorem stepEndorsement_held : Grows stepEndorsement heldEndorsement := by
  intro m f m' hf h
  unfold stepEndorsement at h
  split at h
  · cases h
    have := readOff_len hf ‹_›
    simp only [heldEndorsement]; omega
  · cases h
    have := readOff_len hf ‹_›
    simp only [heldEndorsement]; omega
  · cases h; simp only [heldEndorsement, wireW, List.length_append]; omega

theorem decodeEndorsement_held (b : Bytes) (e : WEndorsement) (h : decodeEndorsement b = some e) :
    heldEndorsement e ≤ b.length := by
  have := decodeInto_measure stepEndorsement_held h
  simpa [heldEndorsement, WEndorsement.zero] using this

/-- `C07Dec.SizeLaw`, container -/
theorem decodeEndorsement_sizes (b : Bytes) (e : WEndorsement) (h : decodeEndorsement b = some e) :
    e.serializedUefiGolden.length ≤ b.length ∧ e.signature.length ≤ b.length := by
  have := decodeEndorsement_held b e h
  unfold heldEndorsement at this
  omega

/-- map entries + TDX rows held by a golden measurement -/
def entriesRows (g : WGolden) : Nat :=
  ((g.sevSnp.map (·.measurements.length)).getD 0) + ((g.tdx.map (·.measurements.length)).getD 0)

theorem length_le_sum_succ {α : Type} (w : α → Nat) (l : List α) : l.length ≤ (l.map fun a => w a + 1).sum := by
  induction l with
  | nil => exact Nat.le_refl 0
  | cons a t ih => simp only [List.length_cons, List.map_cons, List.sum_cons]; omega

/-- every map entry and every row is an object of its own -/
theorem entriesRows_le_held (g : WGolden) : entriesRows g ≤ heldGolden g := by
  have hs : (g.sevSnp.map (·.measurements.length)).getD 0 ≤ heldOpt heldSnp g.sevSnp := getD_map_le fun s h => by
    have := length_le_sum_succ (·.2.length) s.measurements
    simp only [h, heldOpt, heldSnp, heldMap]; omega
  have ht : (g.tdx.map (·.measurements.length)).getD 0 ≤ heldOpt heldTdx g.tdx := getD_map_le fun d h => by
    have := length_le_sum_succ heldRow d.measurements
    simp only [h, heldOpt, heldTdx, heldRows]; omega
  simp only [entriesRows, heldGolden]
  omega

/-- `C07Dec.SizeLaw`, golden measurement -/
theorem decodeGolden_entriesRows (b : Bytes) (g : WGolden) (h : decodeGolden b = some g) :
    entriesRows g ≤ b.length :=
  Nat.le_trans (entriesRows_le_held g) (decodeGolden_held b g h)

theorem lastD_mem {α : Type} (sel : Field → Option α) (d : α) (fs : List Field) :
    lastD sel d fs = d ∨ ∃ f ∈ fs, sel f = some (lastD sel d fs) := by
  induction fs generalizing d with
  | nil => exact Or.inl rfl
  | cons f fs ih =>
    simp only [lastD]
    rcases ih ((sel f).getD d) with h | ⟨g, hg, hs⟩
    · rw [h]
      cases hsel : sel f with
      | none => exact Or.inl rfl
      | some a => exact Or.inr ⟨f, List.mem_cons_self, by simp [hsel]⟩
    · exact Or.inr ⟨g, List.mem_cons_of_mem _ hg, hs⟩

theorem isLen_val (num : Nat) (f : Field) (p : Bytes) (h : isLen num f = some p) : f.val = .len p := by
  unfold isLen at h
  split at h
  · split at h
    · cases h; assumption
    · cases h
  · cases h

end GceTcb.DecWire
