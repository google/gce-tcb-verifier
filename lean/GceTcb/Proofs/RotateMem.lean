import GceTcb.Proofs.RotateGcs
/-
C10, immediate authority (memca): the mutation's setters change the authority at once, Finalize is a
no-op.  Only the tail of rotate.Key differs from the deferred authority's (`updatePrimaryM_spec`).
-/
namespace GceTcb.CA

variable {sc : Nat → Fault} {ow : Bool}

section mem
variable (cfg : Cfg) (r c0 : Cert) (p0 root0 : String)

/-- Phase predicate before the primary is switched: the authority's contents are the good initial ones
    (root `root0` with certificate `r`, primary `p0` with certificate `c0`), possibly with the new key
    `kk` live and its certificate `extra` already added. -/
structure PhM (kk : Option (String × Nat)) (extra : Option (String × Cert)) (s : St) : Prop where
  inv : InvM cfg r c0 s
  prim : s.memPrimary = p0
  root : s.memRoot = root0
  nd : NoDestroy s.log
  key : ∀ k mat, kk = some (k, mat) → lookup s.keys k = some mat
  ex : ∀ k c, extra = some (k, c) → lookup s.memCerts k = some c

variable {cfg r c0 p0 root0}

theorem PhM.stable (kk : Option (String × Nat)) (extra : Option (String × Cert)) :
    Stable (PhM cfg r c0 p0 root0 kk extra) :=
  fun _ _ f hc h => ⟨h.inv.transfer rfl rfl rfl rfl, h.prim, h.root, h.nd.snoc hc f, h.key, h.ex⟩

theorem PhM.safe (hca : cfg.ca = .memca) {kk : Option (String × Nat)} {extra : Option (String × Cert)} {s : St}
    (h : PhM cfg r c0 p0 root0 kk extra s) : Safe cfg s :=
  ⟨h.inv.inv hca, DAC_of_noDestroy cfg h.nd⟩

theorem PhM.weaken {kk : Option (String × Nat)} {extra : Option (String × Cert)} {s : St}
    (h : PhM cfg r c0 p0 root0 kk extra s) : PhM cfg r c0 p0 root0 none none s :=
  ⟨h.inv, h.prim, h.root, h.nd, fun _ _ e => (by cases e), fun _ _ e => (by cases e)⟩

theorem PhM.caReads (hca : cfg.ca = .memca) (kk : Option (String × Nat)) (extra : Option (String × Cert)) :
    CAReads cfg (PhM cfg r c0 p0 root0 kk extra) p0 root0 r where
  stable := PhM.stable kk extra
  psk := by unfold caPsk; rw [hca]; exact Tr.get .caPsk rfl (PhM.stable kk extra) fun s h => ⟨_, rfl, h.prim⟩
  prk := by unfold caPrk; rw [hca]; exact Tr.get .caPrk rfl (PhM.stable kk extra) fun s h => ⟨_, rfl, h.root⟩
  issuer := by
    unfold caIssuer; rw [hca]
    exact Tr.get .caBundle rfl (PhM.stable kk extra) fun s h => ⟨r, by rw [h.inv.root]; rfl, rfl⟩
  cert := fun kvn => by
    unfold caCert; rw [hca]
    refine Tr.call (.caCert kvn) ((PhM.stable kk extra).logged rfl) (fun _ h => h) ?_ (fun _ _ h => h)
    refine Triple.getSt_bind fun s0 h0 => Triple.pre ?_ (fun s hs => by subst hs; exact h0)
    cases lookup s0.memCerts kvn with
    | none => exact Triple.throw (fun _ h => ⟨h, Or.inr rfl⟩)
    | some c => exact Triple.pure _ (fun _ h => h)
  kroot := fun s h => by have := h.inv.kroot; rw [h.root] at this; exact this

/-- after the primary was switched -/
structure PhMD (cfg : Cfg) (r C c0 : Cert) (p0 root0 : String) (f : Fault) (s : St) : Prop where
  inv : InvM cfg r C s
  prim : s.memPrimary = cfg.bump p0
  root : s.memRoot = root0
  old : lookup s.keys p0 = some c0.pub
  nd : NoDestroy s.log
  com : f = .ok → commitCall cfg ∈ s.log

theorem PhMD.safe (hca : cfg.ca = .memca) {C : Cert} {f : Fault} {s : St} (h : PhMD cfg r C c0 p0 root0 f s) : Safe cfg s :=
  ⟨h.inv.inv hca, DAC_of_noDestroy cfg h.nd⟩

/-- go: keyRequest.updatePrimaryAndDestroy on the immediate authority: Finalize is a no-op call, and the commit point -/
theorem updatePrimaryM_spec (hca : cfg.ca = .memca) (hb : BumpOK cfg) (h0 : p0 ≠ "") (hpr : p0 ≠ root0) {mat : Nat}
    {C : Cert} (hpub : C.pub = mat) (hsig : C.sigBy = r.pub) (mu : Mut) :
    Tr sc ow (PhM cfg r c0 p0 root0 (some (cfg.bump p0, mat)) (some (cfg.bump p0, C)))
      (do let mu ← mutSetPrimary cfg mu (cfg.bump p0); caFinalize cfg mu mu.certs; destroyOld cfg p0; pure (cfg.bump p0))
      (fun kv s => kv = cfg.bump p0 ∧ s.memPrimary = cfg.bump p0 ∧ InvM cfg r C s ∧ DAC cfg s.log) (Safe cfg) := by
  unfold mutSetPrimary; rw [hca]
  show Triple sc _ (((modSt fun s => { s with memPrimary := cfg.bump p0 }) >>= fun _ => pure mu) >>= fun mu2 => _) _ _ _
  -- the switch: from here on the new key is the primary, certified by the certificate just added
  refine Triple.bind (Q1 := fun _ s => PhMD cfg r C c0 p0 root0 .fail s)
    (Triple.bind (Q1 := fun _ s => PhMD cfg r C c0 p0 root0 .fail s)
      (Triple.modSt _ fun s h => ?_) fun _ => Triple.pure _ (fun _ h => h)) fun mu2 => ?_
  · have hi := h.inv
    exact ⟨⟨hi.root, h.ex _ _ rfl, by rw [hpub]; exact h.key _ _ rfl, hsig, hi.kroot, hb.2 _, hi.root_ne, hi.broot _,
        hi.broot⟩, rfl, h.root, by have := hi.kprim; rw [h.prim] at this; exact this, h.nd, fun e => by cases e⟩
  have hlog : ∀ s f, PhMD cfg r C c0 p0 root0 .fail s → PhMD cfg r C c0 p0 root0 f (s.logged .caFin f) := fun s f h =>
    ⟨h.inv.transfer rfl rfl rfl rfl, h.prim, h.root, h.old, h.nd.snoc (.of_isDestroy rfl) f, fun hf => by
      subst hf
      show commitCall cfg ∈ s.log ++ [(Call.caFin, Fault.ok)]
      unfold commitCall; rw [hca]; simp⟩
  refine Triple.bind (Q1 := fun _ s => PhMD cfg r C c0 p0 root0 .ok s) ?_ fun _ => ?_
  · unfold caFinalize; rw [hca]
    exact Tr.wrapI (P' := fun f s => PhMD cfg r C c0 p0 root0 f s) (Q' := fun f _ s => PhMD cfg r C c0 p0 root0 f s)
      .caFin hlog (fun s h => (hlog s .fail h).safe hca) (fun f => Triple.pure _ (fun _ h => h)) (fun _ s h => h.safe hca)
  -- the old key goes; the primary and the root are other keys
  refine Triple.bind ((destroyOld_spec (I := fun s => s.memPrimary = cfg.bump p0 ∧ s.memRoot = root0 ∧ InvM cfg r C s) h0
      (fun _ _ _ h => ⟨h.1, h.2.1, h.2.2.transfer rfl rfl rfl rfl⟩)
      (fun s _ h => ⟨h.1, h.2.1, h.2.2.of_lookups rfl rfl rfl rfl
        (lookup_erase_ne _ _ _ (by rw [h.1]; exact hb.1 _)) (lookup_erase_ne _ _ _ (by rw [h.2.1]; exact Ne.symm hpr))⟩)).weaken
    (fun _ h => ⟨⟨h.prim, h.root, h.inv⟩, h.old, .of_noDestroy h.nd (h.com rfl)⟩) (fun _ _ h => h.1)
    (fun _ h => ⟨h.1.2.2.inv hca, h.2.2.1⟩)) fun _ => ?_
  exact Triple.pure _ (fun s h => ⟨rfl, h.1.1, h.1.2.2, h.2.2.1⟩)

/-- go: rotate.Key on the immediate authority, for one arbitrary fault script. -/
theorem rotateKey_mem (hca : cfg.ca = .memca) (hb : BumpOK cfg) (req : Req) :
    Tr sc ow (PhM cfg r c0 p0 root0 none none) (rotateKey cfg req)
      (fun kv s => kv = cfg.bump p0 ∧ s.memPrimary = cfg.bump p0 ∧
        ∃ mat, InvM cfg r ⟨req.cn, req.serial, mat, r.pub⟩ s ∧ DAC cfg s.log)
      (Safe cfg) := by
  unfold rotateKey
  refine Triple.have_fact (φ := p0 ≠ root0 ∧ p0 ≠ "" ∧ root0 ≠ "")
    (fun s h => ⟨by have := h.inv.sr; rw [h.prim, h.root] at this; exact this,
      by have := h.inv.sig_ne; rw [h.prim] at this; exact this,
      by have := h.inv.root_ne; rw [h.root] at this; exact this⟩) fun hst => ?_
  have hne : ∀ {kk extra s}, PhM cfg r c0 p0 root0 kk extra s → cfg.bump p0 ≠ s.memPrimary :=
    fun h => by rw [h.prim]; exact hb.1 _
  refine Triple.bind (((PhM.caReads hca none none).kmCreate
      (Q := fun s => ∃ mat, PhM cfg r c0 p0 root0 (some (cfg.bump p0, mat)) none s)
      (fun s h => ⟨s.nextMat, h.inv.of_lookups rfl rfl rfl rfl (lookup_cons_ne (hne h))
          (lookup_cons_ne (h.inv.broot _)),
        h.prim, h.root, h.nd, fun k mat e => by cases e; exact lookup_cons_self, h.ex⟩)
      (fun _ ⟨_, h⟩ => h.weaken)).weakenX (fun _ h => h.safe hca))
    fun kver => Triple.of_fact fun hk => Triple.of_exists fun mat => ?_
  refine Triple.bind (((PhM.caReads hca _ _).getCurrentInfo).weakenX (fun _ h => h.safe hca))
    fun x => Triple.of_fact fun hx => ?_
  rw [hx, hk]
  show Triple sc _ (if root0 = "" ∨ cfg.bump p0 = "" then throw else _) _ _ _
  refine Triple.ite (fun hc => Triple.unreach fun s h => hc.elim hst.2.2 (hb.2 _)) fun _ => ?_
  -- on this authority the certificate is added at once
  refine Triple.bind (((PhM.caReads hca _ _).signCert req (fun _ h => h.key _ mat rfl) (mu := {})
      (Q := PhM cfg r c0 p0 root0 (some (cfg.bump p0, mat)) (some (cfg.bump p0, ⟨req.cn, req.serial, mat, r.pub⟩)))
      (by
        unfold mutAddCert; rw [hca]
        refine Triple.bind (Q1 := fun _ s => PhM cfg r c0 p0 root0 (some (cfg.bump p0, mat))
          (some (cfg.bump p0, ⟨req.cn, req.serial, mat, r.pub⟩)) s) (Triple.modSt _ fun s h => ?_)
          fun _ => Triple.pure _ (fun _ h => ⟨rfl, h⟩)
        exact ⟨h.inv.of_lookups rfl rfl (lookup_cons_ne (h.inv.broot _)) (lookup_cons_ne (hne h)) rfl rfl,
          h.prim, h.root, h.nd, h.key, fun k c' e => by cases e; exact lookup_cons_self⟩)).weakenX
      (fun _ h => h.safe hca)) fun y => Triple.of_fact fun hy => ?_
  rw [hy]
  exact (updatePrimaryM_spec (C := ⟨req.cn, req.serial, mat, r.pub⟩) hca hb hst.2.1 hst.1 rfl rfl {}).post
    (fun _ _ h => ⟨h.1, h.2.1, mat, h.2.2⟩)

end mem

end GceTcb.CA
