import GceTcb.Model.SevLd
import GceTcb.Proofs.Codecs
import GceTcb.Proofs.Outcome
import GceTcb.Proofs.SnpSections
/-
C08 (SEV half) — totality of the firmware analysis: no checked operation of the model panics, on any
byte string; parsed values are in range; loop iterations are bounded.
-/
namespace GceTcb.Proofs.SnpTotal
open GceTcb GceTcb.Codec GceTcb.GuidTable GceTcb.SevMeta GceTcb.SevLd
open GceTcb.Codecs hiding sevEsResetBlockFromBytes metadataOffsetFromBytes sevMetadataFromBytes sevMetadataSectionFromBytes
open GceTcb.Proofs.SnpSections (Sec)

/-- for `C08_checked_sites_inventoried` -/
theorem all_contains_filterMap (keys : List String) (idx : List Nat) :
    (idx.filterMap (keys[·]?)).all (fun c => keys.contains c) = true := by
  simp only [List.all_eq_true, List.mem_filterMap, List.contains_iff_mem]
  rintro c ⟨i, _, hi⟩
  exact List.mem_of_getElem? hi

theorem slice_ok {site : String} {s : Bytes} {a b : Int} {r : Bytes} (h : slice site s a b = .ok r) :
    0 ≤ a ∧ a ≤ b ∧ b ≤ (s.length : Int) ∧ r = (s.drop a.toNat).take (b.toNat - a.toNat) := by
  unfold slice at h
  split at h
  · cases h; rename_i hc; exact ⟨hc.1, hc.2.1, hc.2.2, rfl⟩
  · cases h

theorem slice_in_range (site : String) (s : Bytes) (a b : Int) (h : 0 ≤ a ∧ a ≤ b ∧ b ≤ (s.length : Int)) :
    ∃ r, slice site s a b = .ok r ∧ (r.length : Int) = b - a := by
  unfold slice
  rw [if_pos h]
  refine ⟨_, rfl, ?_⟩
  simp only [List.length_take, List.length_drop]
  omega

theorem slice_not_err (site : String) (s : Bytes) (a b : Int) (c : String) : slice site s a b ≠ .err c := by
  unfold slice; split <;> simp

theorem slice_mid (site : String) (s X Y Z : Bytes) (a b : Int) (hs : s = X ++ (Y ++ Z)) (ha : a = X.length)
    (hb : b = a + Y.length) : slice site s a b = .ok Y := by
  subst hs ha hb
  unfold slice
  rw [if_pos (by simp only [List.length_append]; omega)]
  have h1 : ((X.length : Int)).toNat = X.length := by omega
  have h2 : ((X.length : Int) + Y.length).toNat - X.length = Y.length := by omega
  rw [h1, h2, List.drop_left, List.take_left]

theorem populateFromBytes_total (data : Bytes) (h : 18 ≤ data.length) :
    populateFromBytes data = .ok (fwGuidEntryRec.ofVals (decF fwGuidEntryRec.ws data)) := by
  unfold populateFromBytes slice
  rw [if_pos (by omega), if_pos (by omega)]

theorem populateFromBytes_size_lt (data : Bytes) : (fwGuidEntryRec.ofVals (decF fwGuidEntryRec.ws data)).size < 2 ^ 16 := by
  simp only [fwGuidEntryRec, decF]
  have := leVal_lt (data.take 2)
  have hl : (data.take 2).length ≤ 2 := by simp; omega
  have : 256 ^ (data.take 2).length ≤ 256 ^ 2 := Nat.pow_le_pow_right (by decide) hl
  omega

theorem getFwGUIDTable_total (fw : Bytes) : (getFwGUIDTable fw).Total fun table => table.length + 50 ≤ fw.length := by
  unfold getFwGUIDTable
  split
  · trivial
  · rename_i hlen
    obtain ⟨ent, he, hel⟩ := slice_in_range "ovmf.GetFwGUIDTable#0:slice" fw ((fw.length : Int) - 50) fw.length (by omega)
    rw [he]
    simp only
    rw [populateFromBytes_total ent (by omega)]
    simp only
    split
    · trivial
    · split
      · trivial
      · rename_i hsz
        generalize (fwGuidEntryRec.ofVals (decF fwGuidEntryRec.ws ent)).size = sz at *
        obtain ⟨r, hr, hrl⟩ := slice_in_range "ovmf.GetFwGUIDTable#1:slice" fw ((fw.length : Int) - 32 - sz)
          ((fw.length : Int) - 32 - sz + ((sz : Int) - 18)) (by omega)
        rw [hr]
        show r.length + 50 ≤ fw.length
        omega

theorem walkStep_no_panic (table : Bytes) (n : Nat) (acc : BlockMap) (hn : n ≤ table.length) (p : String) :
    walkStep table n acc ≠ .panic p := by
  unfold walkStep
  split
  · simp
  · rename_i h18
    obtain ⟨eb, he, hel⟩ := slice_in_range "ovmf.GetFwGUIDToBlockMap#0:slice" table ((n : Int) - 18) ((n : Int) - 18 + 18) (by omega)
    rw [he]
    simp only
    rw [populateFromBytes_total eb (by omega)]
    simp only
    split
    · simp
    · split
      · simp
      · rename_i hsz _
        generalize (fwGuidEntryRec.ofVals (decF fwGuidEntryRec.ws eb)).size = sz at *
        obtain ⟨r, hr, _⟩ := slice_in_range "ovmf.GetFwGUIDToBlockMap#1:slice" table ((n : Int) - sz) ((n : Int) - sz + sz) (by omega)
        rw [hr]; simp

theorem guidWalk_no_panic (table : Bytes) (n : Nat) (acc : BlockMap) (hn : n ≤ table.length) (p : String) :
    guidWalk table n acc ≠ .panic p := by
  induction n using Nat.strongRecOn generalizing acc with
  | _ n ih =>
    rw [guidWalk]
    split
    · simp
    · split
      · rename_i n' acc' hstep
        have := walkStep_decreases hstep
        exact ih n' (by omega) acc' (by omega)
      · simp
      · rename_i s hstep
        exact absurd hstep (walkStep_no_panic table n acc hn s)

theorem getFwGUIDToBlockMap_no_panic (fw : Bytes) (p : String) : getFwGUIDToBlockMap fw ≠ .panic p := by
  unfold getFwGUIDToBlockMap
  rcases (getFwGUIDTable_total fw).cases with ⟨c, h⟩ | ⟨table, h, _⟩ <;> rw [h]
  · simp
  · exact guidWalk_no_panic _ _ _ (Nat.le_refl _) p

/-- every iteration removes at least 18 bytes -/
theorem guidWalkTicks_le (table : Bytes) (n : Nat) (acc : BlockMap) : guidWalkTicks table n acc ≤ n / 18 + 1 := by
  induction n using Nat.strongRecOn generalizing acc with
  | _ n ih =>
    rw [guidWalkTicks]
    split
    · omega
    · split
      · rename_i n' acc' hstep
        have hd := walkStep_decreases hstep
        have := ih n' (by omega) acc'
        omega
      · omega
      · omega

theorem getFwGUIDToBlockMapTicks_le (fw : Bytes) : getFwGUIDToBlockMapTicks fw ≤ fw.length / 18 + 1 := by
  unfold getFwGUIDToBlockMapTicks
  rcases (getFwGUIDTable_total fw).cases with ⟨c, h⟩ | ⟨table, h, hl⟩ <;> rw [h] <;> simp only
  · omega
  · have := guidWalkTicks_le table table.length []
    omega

theorem extractGUIDBlockFromMap_total (m : BlockMap) (g : Bytes) (n : Nat) :
    (extractGUIDBlockFromMap m g n).Total fun blk => blk.length % 2 ^ 32 = n := by
  unfold extractGUIDBlockFromMap
  split
  · trivial
  · split
    · trivial
    · rename_i hh
      show _ % _ = n
      omega

theorem sevEsResetBlockFromBytes_no_panic (data : Bytes) (p : String) : sevEsResetBlockFromBytes data ≠ .panic p := by
  unfold sevEsResetBlockFromBytes slice
  split
  · simp
  · rw [if_pos (by omega), if_pos (by omega), if_pos (by omega)]; simp

theorem extractSevEsResetBlock_no_panic (m : BlockMap) (p : String) : extractSevEsResetBlock m ≠ .panic p := by
  unfold extractSevEsResetBlock
  rcases (extractGUIDBlockFromMap_total m sevEsResetBlockGuid 22).cases with ⟨c, h⟩ | ⟨blk, h, _⟩ <;> rw [h]
  · simp
  · exact sevEsResetBlockFromBytes_no_panic _ p

theorem metadataOffsetFromBytes_total (blk : Bytes) (h : 22 ≤ blk.length) :
    ∃ mo, metadataOffsetFromBytes blk = .ok mo ∧ mo.offset < 2 ^ 32 := by
  unfold metadataOffsetFromBytes
  obtain ⟨r0, h0, hl0⟩ := slice_in_range "abi.MetadataOffsetFromBytes#0:slice" blk 0 4 (by omega)
  obtain ⟨r1, h1, hl1⟩ := slice_in_range "abi.MetadataOffsetFromBytes#1:slice" blk 4 22 (by omega)
  rw [h0, h1]
  simp only
  rw [populateFromBytes_total r1 (by omega)]
  refine ⟨_, rfl, ?_⟩
  have := leVal_lt r0
  have h4 : r0.length = 4 := by omega
  rw [h4] at this
  exact this

/-- the four slices of abi.SevMetadataFromBytes read the four fields of the codec (C18) -/
theorem sevMetadataFromBytes_eq (b : Bytes) (h : 16 ≤ b.length) :
    sevMetadataFromBytes b = .ok (sevMetadataRec.ofVals (decF sevMetadataRec.ws b)) := by
  unfold sevMetadataFromBytes slice
  rw [if_pos (by omega), if_pos (by omega), if_pos (by omega), if_pos (by omega)]
  simp [sevMetadataRec, decF, List.drop_drop]

theorem sevMetadataSectionFromBytes_eq (b : Bytes) (h : 12 ≤ b.length) :
    sevMetadataSectionFromBytes b = .ok (sevMetadataSectionRec.ofVals (decF sevMetadataSectionRec.ws b)) := by
  unfold sevMetadataSectionFromBytes slice
  rw [if_pos (by omega), if_pos (by omega), if_pos (by omega)]
  simp [sevMetadataSectionRec, decF, List.drop_drop]

theorem readSections_total (fw : Bytes) (start : Int) (count it : Nat) (h0 : 0 ≤ start)
    (hfit : start + 12 * ((it : Int) + count) ≤ fw.length) :
    ∃ secs, readSections fw start count it = .ok secs ∧ secs.length = count ∧ ∀ s ∈ secs, s.InRange := by
  induction count generalizing it with
  | zero => exact ⟨[], rfl, rfl, by simp⟩
  | succ k ih =>
    unfold readSections
    obtain ⟨blk, hb, hbl⟩ := slice_in_range "ovmf.extractSevOvmfMetadata#1:slice" fw (start + it * 12) fw.length (by omega)
    rw [hb]
    simp only
    rw [sevMetadataSectionFromBytes_eq blk (by omega)]
    simp only
    obtain ⟨rest, hrest, hlen, hrr⟩ := ih (it + 1) (by omega)
    rw [hrest]
    refine ⟨_ :: rest, rfl, by simp [hlen], ?_⟩
    intro x hx
    rcases List.mem_cons.mp hx with rfl | hx
    · exact sevMetadataSectionLaws.inr blk rfl
    · exact hrr x hx

theorem readSectionsTicks_le (fw : Bytes) (start : Int) (count it : Nat) : readSectionsTicks fw start count it ≤ count := by
  induction count generalizing it with
  | zero => simp [readSectionsTicks]
  | succ k ih =>
    unfold readSectionsTicks
    split
    · split
      · have := ih (it + 1); omega
      · omega
    · omega

theorem sevMetadataHeader_total (m : BlockMap) (fw : Bytes) :
    (sevMetadataHeader m fw).Total fun r => 0 ≤ r.2 ∧ r.2 + 12 * (r.1 : Int) ≤ fw.length ∧ 12 * r.1 + 16 ≤ fw.length := by
  unfold sevMetadataHeader
  rcases (extractGUIDBlockFromMap_total m sevMetadataOffsetGuid 22).cases with ⟨c, h⟩ | ⟨blk, h, hl⟩ <;> rw [h]
  · trivial
  obtain ⟨mo, hmo, _⟩ := metadataOffsetFromBytes_total blk (by omega)
  simp only [hmo]
  split
  · trivial
  · split
    · trivial
    · rename_i h1 h2
      obtain ⟨hb, hhb, hbl⟩ := slice_in_range "ovmf.extractSevOvmfMetadata#0:slice" fw ((fw.length : Int) - mo.offset) fw.length (by omega)
      rw [hhb]
      simp only
      rw [sevMetadataFromBytes_eq hb (by omega)]
      generalize sevMetadataRec.ofVals (decF sevMetadataRec.ws hb) = md
      simp only
      split
      · trivial
      · split
        · trivial
        · split
          · trivial
          · show 0 ≤ _ ∧ _
            omega

theorem extractSevOvmfMetadata_total (m : BlockMap) (fw : Bytes) :
    (extractSevOvmfMetadata m fw).Total fun secs => 12 * secs.length + 16 ≤ fw.length ∧ ∀ s ∈ secs, s.InRange := by
  unfold extractSevOvmfMetadata
  rcases (sevMetadataHeader_total m fw).cases with ⟨c, hh⟩ | ⟨⟨count, start⟩, hh, h0, h1, h2⟩ <;> rw [hh]
  · trivial
  · obtain ⟨secs, hs, hl, hr⟩ := readSections_total fw start count 0 h0 (by omega)
    simp only [hs]
    exact ⟨by omega, hr⟩

theorem extractSevOvmfMetadataTicks_le (m : BlockMap) (fw : Bytes) : 12 * extractSevOvmfMetadataTicks m fw ≤ fw.length := by
  unfold extractSevOvmfMetadataTicks
  rcases (sevMetadataHeader_total m fw).cases with ⟨c, hh⟩ | ⟨⟨count, start⟩, hh, _, _, h2⟩ <;> rw [hh] <;> simp only
  · omega
  · have := readSectionsTicks_le fw start count 0
    omega

/-- go: ExtractFromFirmware never panics and, when it succeeds with both flags, has stored a reset block and a
    descriptor list whose values fit 32 bits and whose length is bounded by the image size. -/
theorem extractFromFirmware_total (es snp : Bool) (fw : Bytes) :
    (extractFromFirmware es snp fw).Total fun r => es = true → snp = true →
      ∃ rb secs, r = (some rb, some secs) ∧ 12 * secs.length + 16 ≤ fw.length ∧ ∀ s ∈ secs, s.InRange := by
  unfold extractFromFirmware
  cases es
  · cases snp
    · exact fun h => nomatch h
    · trivial
  · simp only [Bool.not_true, Bool.false_eq_true, if_false]
    rcases Outcome.ok_or_err (getFwGUIDToBlockMap_no_panic fw) with ⟨e, hm⟩ | ⟨m, hm⟩ <;> simp only [hm]
    · trivial
    rcases Outcome.ok_or_err (extractSevEsResetBlock_no_panic m) with ⟨e, hr⟩ | ⟨rb, hr⟩ <;> simp only [hr]
    · trivial
    cases snp
    · exact fun _ h => nomatch h
    · simp only [if_true]
      rcases (extractSevOvmfMetadata_total m fw).cases with ⟨c, hs⟩ | ⟨secs, hs, hl, hrr⟩ <;> rw [hs]
      · trivial
      · exact fun _ _ => ⟨rb, secs, rfl, hl, hrr⟩

theorem extractFromFirmware_tt (fw : Bytes) :
    (∃ c, extractFromFirmware true true fw = .err c) ∨
    (∃ rb secs, extractFromFirmware true true fw = .ok (some rb, some secs) ∧ 12 * secs.length + 16 ≤ fw.length ∧
      ∀ s ∈ secs, s.InRange) := by
  rcases (extractFromFirmware_total true true fw).cases with h | ⟨_, hp, h⟩
  · exact .inl h
  · obtain ⟨rb, secs, rfl, hb⟩ := h rfl rfl
    exact .inr ⟨rb, secs, hp, hb⟩

theorem parsed_inRange {fw : Bytes} {rb : Codecs.ResetBlock} {secs : List Sec}
    (hp : extractFromFirmware true true fw = .ok (some rb, some secs)) :
    12 * secs.length + 16 ≤ fw.length ∧ ∀ s ∈ secs, s.InRange := by
  rcases extractFromFirmware_tt fw with ⟨e, he⟩ | ⟨rb', secs', hp', h⟩
  · rw [he] at hp; cases hp
  · cases hp.symm.trans hp'
    exact h

theorem extractFromFirmware_no_panic (es snp : Bool) (fw : Bytes) (p : String) : extractFromFirmware es snp fw ≠ .panic p :=
  (extractFromFirmware_total es snp fw).no_panic p

theorem extractFromFirmwareTicks_le (es snp : Bool) (fw : Bytes) :
    extractFromFirmwareTicks es snp fw ≤ fw.length / 18 + 1 + fw.length / 12 := by
  unfold extractFromFirmwareTicks
  have h1 := getFwGUIDToBlockMapTicks_le fw
  split
  · omega
  · cases getFwGUIDToBlockMap fw with
    | err c => simp only; omega
    | panic q => simp only; omega
    | ok m =>
      simp only
      have := extractSevOvmfMetadataTicks_le m fw
      split
      · split <;> omega
      · omega

end GceTcb.Proofs.SnpTotal
