import GceTcb.Model.SecureJoin
/-
Lemmas for C16 (confinement clause): cutting paths at '/', composition of the kernel's walk,
the walk below a root that meets no symbolic link, the invariant of SecureJoinVFS's loop, Clean/Join
of a root with cleaned components, the walk on two file systems that show the same, and `applyPart` /
`renderAbs` on components as `filepath.Join` on texts. Core-only.
-/
namespace GceTcb.SecureJoin

theorem splitSlash_ne_nil (l : PathStr) : splitSlash l ≠ [] := by
  cases l with
  | nil => exact List.cons_ne_nil _ _
  | cons c cs =>
    rw [splitSlash]
    split
    · exact List.cons_ne_nil _ _
    · split <;> exact List.cons_ne_nil _ _

theorem splitSlash_append_slash (a b : PathStr) :
    splitSlash (a ++ '/' :: b) = splitSlash a ++ splitSlash b := by
  induction a with
  | nil => simp [splitSlash]
  | cons c cs ih =>
    by_cases hc : c = '/'
    · simp only [List.cons_append, splitSlash, hc, if_true, ih, List.cons_append]
    · simp only [List.cons_append, splitSlash, if_neg hc, ih]
      cases hs : splitSlash cs with
      | nil => exact absurd hs (splitSlash_ne_nil cs)
      | cons p ps => simp

theorem splitSlash_noslash (c : Name) (h : '/' ∉ c) : splitSlash c = [c] := by
  induction c with
  | nil => rfl
  | cons x xs ih =>
    have hx : x ≠ '/' := fun e => h (by simp [e])
    have hxs : '/' ∉ xs := fun e => h (List.mem_cons_of_mem _ e)
    simp only [splitSlash, if_neg hx, ih hxs]

theorem splitSlash_no_slash (l : PathStr) : ∀ p ∈ splitSlash l, '/' ∉ p := by
  induction l with
  | nil => simp [splitSlash]
  | cons c cs ih =>
    rw [splitSlash]
    split
    · exact List.forall_mem_cons.mpr ⟨List.not_mem_nil, ih⟩
    · next hc =>
      split
      · simp [Ne.symm hc]
      · next q qs hs =>
        rw [hs] at ih
        obtain ⟨hq, hqs⟩ := List.forall_mem_cons.mp ih
        exact List.forall_mem_cons.mpr ⟨fun h => (List.mem_cons.mp h).elim (fun e => hc e.symm) hq, hqs⟩

theorem splitSlash_append_flatMap (a : PathStr) (comps : List Name) (h : ∀ c ∈ comps, '/' ∉ c) :
    splitSlash (a ++ comps.flatMap ('/' :: ·)) = splitSlash a ++ comps := by
  induction comps generalizing a with
  | nil => simp
  | cons c cs ih =>
    obtain ⟨hc, hcs⟩ := List.forall_mem_cons.mp h
    rw [List.flatMap_cons, List.cons_append, splitSlash_append_slash, ih c hcs, splitSlash_noslash c hc]
    rfl

theorem isAbs_append (a b : PathStr) (h : a ≠ []) : isAbs (a ++ b) = isAbs a := by
  cases a with
  | nil => exact absurd rfl h
  | cons x xs => rfl

theorem flatMap_isAbs (c : Name) (cs : List Name) (t : PathStr) : isAbs ((c :: cs).flatMap ('/' :: ·) ++ t) = true := rfl

/-- A component that Clean keeps: not empty, not ".", not "..", '/'-free. -/
def Normal (c : Name) : Prop := c ≠ [] ∧ c ≠ ['.'] ∧ c ≠ dotdot ∧ '/' ∉ c

def AllNormal (l : List Name) : Prop := ∀ c ∈ l, Normal c

theorem Normal.not_noop {c : Name} (h : Normal c) : ¬ (c = [] ∨ c = ['.']) := fun h' => h'.elim h.1 h.2.1

theorem comp_cases {c : Name} (hc : '/' ∉ c) : (c = [] ∨ c = ['.']) ∨ c = dotdot ∨ Normal c :=
  if h1 : c = [] ∨ c = ['.'] then .inl h1
  else if h2 : c = dotdot then .inr (.inl h2)
  else .inr (.inr ⟨fun e => h1 (.inl e), fun e => h1 (.inr e), h2, hc⟩)

theorem AllNormal.nil : AllNormal [] := fun _ h => nomatch h

theorem AllNormal.dropLast {l : List Name} (h : AllNormal l) : AllNormal l.dropLast :=
  fun c hc => h c (List.dropLast_subset _ hc)

theorem AllNormal.snoc {l : List Name} {c : Name} (h : AllNormal l) (hc : Normal c) : AllNormal (l ++ [c]) :=
  List.forall_mem_append.mpr ⟨h, List.forall_mem_singleton.mpr hc⟩

theorem AllNormal.noslash {l : List Name} (h : AllNormal l) : ∀ c ∈ l, '/' ∉ c := fun c hc => (h c hc).2.2.2

theorem AllNormal.rel {ns : List Name} (hn : AllNormal ns) : ∀ c ∈ ns, c ≠ [] ∧ '/' ∉ c :=
  fun c hc => ⟨(hn c hc).1, (hn c hc).2.2.2⟩

section Walk
variable (fs : FS) (f : Bool)

/-- What a symbolic link hands over to at level `b`. -/
def nextOf : Nat → List Name → List Name → Res
  | 0 => fun _ _ => .err .loop
  | b + 1 => walk fs f b

theorem walk_eq (b : Nat) : walk fs f b = walkList fs f b (nextOf fs f b) := by
  cases b <;> rfl

theorem walk_noop (b : Nat) (cur : List Name) (c : Name) (rest : List Name)
    (h : c = [] ∨ c = ['.']) : walk fs f b cur (c :: rest) = walk fs f b cur rest := by
  rw [walk_eq, walkList, if_pos h]

/-- How a resolution continues with the components `X` after a prefix has been resolved. -/
def contWalk (X : List Name) : Res → Res
  | .ok R .dir b' => walk fs f b' R X
  | .ok _ (.file _) _ => .err .notdir
  | .ok _ (.link _) _ => .err .loop
  | .err e => .err e

/-- Composition of the kernel's walk: a prefix with more to come is resolved with links followed. -/
theorem walk_append (X : List Name) (hX : X ≠ []) :
    ∀ (b : Nat) (A cur : List Name), walk fs f b cur (A ++ X) = contWalk fs f X (walk fs true b cur A) := by
  -- the walk at budget `b`, given the statement for what a symbolic link hands over to
  suffices step : ∀ b, (∀ A cur, nextOf fs f b cur (A ++ X) = contWalk fs f X (nextOf fs true b cur A)) →
      ∀ A cur, walk fs f b cur (A ++ X) = contWalk fs f X (walk fs true b cur A) by
    intro b
    induction b with
    | zero => exact step 0 fun _ _ => rfl
    | succ b ih => exact step (b + 1) ih
  intro b hn A
  rw [walk_eq fs f b, walk_eq fs true b]
  induction A with
  | nil => intro cur; rw [← walk_eq]; rfl
  | cons c A' ih =>
    intro cur
    rw [List.cons_append, walkList, walkList]
    by_cases h1 : c = [] ∨ c = ['.']
    · rw [if_pos h1, if_pos h1]; exact ih cur
    by_cases h2 : c = dotdot
    · rw [if_neg h1, if_neg h1, if_pos h2, if_pos h2]; exact ih _
    rw [if_neg h1, if_neg h1, if_neg h2, if_neg h2]
    cases fs.look (cur ++ [c]) with
    | absent => rfl
    | fault => rfl
    | ent e =>
      cases e with
      | dir => exact ih _
      | file i => by_cases h3 : A' = [] <;> simp [h3, hX, contWalk]
      | link t =>
        simp only [List.append_eq_nil_iff, hX, and_false, false_and, if_false, Bool.true_eq_false, ← List.append_assoc]
        exact hn _ _

end Walk

/-- Walking the (normal) components `comps` down from the directory at `loc` meets no symbolic link:
    each one is a directory that is entered, or the walk stops there (absent, regular file, fault). -/
def NoLink (fs : FS) : List Name → List Name → Prop
  | _, [] => True
  | loc, c :: rest =>
    match fs.look (loc ++ [c]) with
    | .ent .dir => NoLink fs (loc ++ [c]) rest
    | .ent (.link _) => False
    | _ => True

theorem NoLink.prefix (fs : FS) : ∀ (a b loc : List Name), NoLink fs loc (a ++ b) → NoLink fs loc a := by
  intro a
  induction a with
  | nil => intro b loc _; trivial
  | cons c a' ih =>
    intro b loc h
    simp only [List.cons_append, NoLink] at h ⊢
    split
    · next hlk => rw [hlk] at h; exact ih b _ h
    · next t hlk => rw [hlk] at h; exact h
    · trivial

theorem NoLink.dropLast {fs : FS} {loc cur : List Name} (h : NoLink fs loc cur) : NoLink fs loc cur.dropLast := by
  obtain ⟨t, ht⟩ := List.dropLast_prefix cur
  rw [← ht] at h
  exact NoLink.prefix fs _ t loc h

theorem walk_nolink (fs : FS) (f : Bool) (b : Nat) :
    ∀ (comps loc : List Name), AllNormal comps → NoLink fs loc comps →
      ∀ loc' e b', walk fs f b loc comps = .ok loc' e b' → loc <+: loc' := by
  rw [walk_eq]
  intro comps
  induction comps with
  | nil =>
    intro loc _ _ loc' e b' h
    cases h
    exact List.prefix_refl _
  | cons c rest ih =>
    intro loc hn hl loc' e b' h
    obtain ⟨hc, hrest⟩ := List.forall_mem_cons.mp hn
    rw [walkList, if_neg hc.not_noop, if_neg hc.2.2.1] at h
    split at h
    · cases h
    · cases h
    · next hlk =>
      rw [NoLink, hlk] at hl
      exact (List.prefix_append loc [c]).trans (ih _ hrest hl loc' e b' h)
    · split at h
      · cases h; exact List.prefix_append loc [c]
      · cases h
    · next t hlk =>
      rw [NoLink, hlk] at hl
      exact hl.elim

/-- What lstat answers when the loop keeps `nextPath`: ENOENT, ENOTDIR, or something that is not a symbolic link. -/
def Kept : Res → Prop
  | .err .noent | .err .notdir => True
  | .ok _ (.link _) _ | .err _ => False
  | .ok _ _ _ => True

theorem NoLink.snoc (fs : FS) (b : Nat) (part : Name) (hp : Normal part) :
    ∀ (cur loc : List Name), AllNormal cur → NoLink fs loc cur → Kept (walk fs false b loc (cur ++ [part])) →
      NoLink fs loc (cur ++ [part]) := by
  rw [walk_eq]
  intro cur
  induction cur with
  | nil =>
    intro loc _ _ h
    rw [List.nil_append, walkList, if_neg hp.not_noop, if_neg hp.2.2.1] at h
    rw [List.nil_append, NoLink]
    split
    · trivial
    · next t hlk =>
      simp only [hlk, and_self, if_true] at h
      exact h
    · trivial
  | cons c rest ih =>
    intro loc hn hl h
    obtain ⟨hc, hrest⟩ := List.forall_mem_cons.mp hn
    rw [List.cons_append, walkList, if_neg hc.not_noop, if_neg hc.2.2.1] at h
    simp only [List.cons_append, NoLink] at hl ⊢
    split
    · next hlk =>
      rw [hlk] at h hl
      exact ih _ hrest hl h
    · next t hlk => rw [hlk] at hl; exact hl
    · trivial

/-- go: `nextPath := filepath.Join("/", currentPath, part)` on the components, by the kind of `part`. -/
theorem applyPart_cases (cur : List Name) {part : Name} (hp : '/' ∉ part) :
    ((part = [] ∨ part = ['.']) ∧ applyPart cur part = cur) ∨ (part = dotdot ∧ applyPart cur part = cur.dropLast) ∨
      (Normal part ∧ applyPart cur part = cur ++ [part]) := by
  rcases comp_cases hp with h | h | h
  · exact .inl ⟨h, if_pos h⟩
  · exact .inr (.inl ⟨h, by rw [h]; rfl⟩)
  · exact .inr (.inr ⟨h, by rw [applyPart, if_neg h.not_noop, if_neg h.2.2.1]⟩)

theorem applyPart_normal (cur : List Name) (part : Name) (hc : AllNormal cur) (hp : '/' ∉ part) :
    AllNormal (applyPart cur part) := by
  rcases applyPart_cases cur hp with ⟨_, e⟩ | ⟨_, e⟩ | ⟨hn, e⟩ <;> rw [e]
  · exact hc
  · exact hc.dropLast
  · exact hc.snoc hn

section Loop
variable {fs : FS} {klim : Nat} {cwd : List Name} {root : PathStr}

theorem sjStep_go {nx cur' : List Name}
    (h : sjStep fs klim cwd root nx = .go cur') :
    cur' = nx ∧ (nx = [] ∨ Kept (resolve fs klim cwd false (fullPath root nx))) := by
  unfold sjStep at h
  split at h
  · next h0 => cases h; exact ⟨h0.symm, .inl h0⟩
  · split at h
    · next hr => cases h; exact ⟨rfl, .inr (by rw [hr]; trivial)⟩
    · next hr => cases h; exact ⟨rfl, .inr (by rw [hr]; trivial)⟩
    · cases h
    · cases h
    · next l e b' hne hr =>
      cases h
      refine ⟨rfl, .inr ?_⟩
      rw [hr]
      cases e with
      | link t => exact hne t rfl
      | _ => trivial

/-- What happens from `linksWalked++` on, with `b` expansions left. -/
def onLinkOf (fs : FS) (klim : Nat) (cwd : List Name) (root : PathStr) : Nat → List Name → List Name → List Name → SJ
  | 0 => fun _ _ _ => .err .loop
  | b + 1 => fun cur nx rest =>
      match readlink fs klim cwd (fullPath root nx) with
      | .err e => .err e
      | .ok dest => sj fs klim cwd root b (if isAbs dest then [] else cur) (splitSlash dest ++ rest)

theorem sj_eq (b : Nat) :
    sj fs klim cwd root b = sjList fs klim cwd root (onLinkOf fs klim cwd root b) := by
  cases b <;> rfl

/-- Invariants of the loop: symlink expansions restart from `currentPath` or from "", so `h0` and `hstep` are enough. -/
theorem sj_inv (I : List Name → Prop) (h0 : I [])
    (hstep : ∀ cur part, I cur → '/' ∉ part →
      (applyPart cur part = [] ∨ Kept (resolve fs klim cwd false (fullPath root (applyPart cur part)))) →
      I (applyPart cur part)) :
    ∀ (b : Nat) (rem cur fin : List Name), I cur → (∀ p ∈ rem, '/' ∉ p) →
      sj fs klim cwd root b cur rem = .ok fin → I fin := by
  -- one pass of the loop at budget `b`, given the statement for what a symbolic link hands over to
  suffices step : ∀ b, (∀ cur nx rest fin, I cur → (∀ p ∈ rest, '/' ∉ p) →
        onLinkOf fs klim cwd root b cur nx rest = .ok fin → I fin) →
      ∀ rem cur fin, I cur → (∀ p ∈ rem, '/' ∉ p) → sj fs klim cwd root b cur rem = .ok fin → I fin by
    intro b
    induction b with
    | zero => exact step 0 fun _ _ _ _ _ _ h => nomatch h
    | succ b ih =>
      refine step (b + 1) fun cur nx rest fin hI hrest h => ?_
      simp only [onLinkOf] at h
      split at h
      · cases h
      · next dest _ =>
        refine ih _ _ fin (by split; exact h0; exact hI) (fun p hp => ?_) h
        exact (List.mem_append.mp hp).elim (splitSlash_no_slash dest p) (hrest p)
  intro b hlink rem
  rw [sj_eq]
  induction rem with
  | nil => intro cur fin hI _ h; cases h; exact hI
  | cons part rest ih =>
    intro cur fin hI hrem h
    obtain ⟨hpart, hrest⟩ := List.forall_mem_cons.mp hrem
    unfold sjList at h
    split at h
    · cases h; exact hI
    · split at h
      · cases h
      · next cur' hs =>
        obtain ⟨rfl, hl⟩ := sjStep_go hs
        exact ih _ fin (hstep cur part hI hpart hl) hrest h
      · refine hlink cur _ _ fin hI ?_ h
        split
        · intro p hp; rw [List.mem_singleton.mp hp]; exact List.not_mem_nil
        · exact hrest

/-- A symbolic link whose target is the link's own name: every expansion is back at the same link, so
    the join ends in ELOOP at every limit. -/
theorem sj_self_link {cur L : List Name} (part : Name)
    (dest : PathStr) (hs : sjStep fs klim cwd root (applyPart cur part) = .symlink)
    (hr : readlink fs klim cwd (fullPath root (applyPart cur part)) = .ok dest)
    (ha : isAbs dest = false) (hd : splitSlash dest = [part]) (hL : L.head? = some part) (ht : L.tail ≠ []) :
    ∀ b, sj fs klim cwd root b cur L = .err .loop := by
  obtain ⟨rest, rfl⟩ : ∃ rest, L = part :: rest := by
    cases L with
    | nil => cases hL
    | cons c rest => cases hL; exact ⟨rest, rfl⟩
  have ht : rest ≠ [] := ht
  intro b
  induction b with
  | zero => rw [sj_eq, sjList, if_neg (fun h => ht h.2), hs]; rfl
  | succ b ih =>
    rw [sj_eq, sjList, if_neg (fun h => ht h.2), hs]
    simpa only [onLinkOf, hr, ha, hd, if_neg ht, Bool.false_eq_true, if_false, List.singleton_append] using ih

theorem sj_normal {b : Nat} {rem fin : List Name}
    (hrem : ∀ p ∈ rem, '/' ∉ p) (h : sj fs klim cwd root b [] rem = .ok fin) : AllNormal fin :=
  sj_inv AllNormal AllNormal.nil (fun cur part hI hp _ => applyPart_normal cur part hI hp) b rem [] fin AllNormal.nil hrem h

theorem renderAbs_ne_nil (l : List Name) : renderAbs l ≠ [] := by
  unfold renderAbs
  split
  · simp
  · next h =>
    cases l with
    | nil => exact absurd rfl h
    | cons c cs => simp

theorem splitSlash_renderAbs (nx : List Name) (hn : ∀ c ∈ nx, '/' ∉ c) (h0 : nx ≠ []) :
    splitSlash (renderAbs nx) = [] :: nx := by
  unfold renderAbs
  rw [if_neg h0]
  have := splitSlash_append_flatMap [] nx hn
  simpa [splitSlash] using this

theorem contWalk_noop (fs : FS) (f : Bool) (X : List Name) (r : Res) :
    contWalk fs f ([] :: X) r = contWalk fs f X r := by
  cases r with
  | err e => rfl
  | ok R e b =>
    cases e with
    | dir => exact walk_noop fs f b R [] X (.inl rfl)
    | _ => rfl

/-- SecureJoin's Lstat(root + "/" + nextPath): the root as the kernel resolves it, then nextPath. -/
theorem resolve_fullPath (nx : List Name) (f : Bool)
    (hroot : root ≠ []) (hn : AllNormal nx) (h0 : nx ≠ []) :
    resolve fs klim cwd f (fullPath root nx) =
      if fs.reject (fullPath root nx) then .err .fault else contWalk fs f nx (denote fs klim cwd root) := by
  rw [resolve, if_neg (by simp [fullPath, hroot])]
  congr 1
  rw [fullPath, denote, isAbs_append root _ hroot, splitSlash_append_slash, splitSlash_renderAbs nx hn.noslash h0,
    walk_append fs f ([] :: nx) (List.cons_ne_nil _ _), contWalk_noop]

/-- The invariant that gives confinement. -/
theorem sj_nolink (hroot : root ≠ [])
    {R : List Name} {bR : Nat} (hR : denote fs klim cwd root = .ok R .dir bR)
    {b : Nat} {rem fin : List Name} (hrem : ∀ p ∈ rem, '/' ∉ p)
    (h : sj fs klim cwd root b [] rem = .ok fin) : AllNormal fin ∧ NoLink fs R fin := by
  refine sj_inv (fun cur => AllNormal cur ∧ NoLink fs R cur) ⟨AllNormal.nil, trivial⟩ ?_
    b rem [] fin ⟨AllNormal.nil, trivial⟩ hrem h
  intro cur part ⟨hn, hl⟩ hp hk
  have hnx := applyPart_normal cur part hn hp
  refine ⟨hnx, ?_⟩
  rcases applyPart_cases cur hp with ⟨_, e⟩ | ⟨_, e⟩ | ⟨hpn, e⟩ <;> rw [e] at hk hnx ⊢
  · exact hl
  · exact hl.dropLast
  · refine NoLink.snoc fs bR part hpn cur R hn hl ?_
    rw [or_iff_right (by simp), resolve_fullPath _ false hroot hnx (by simp), hR] at hk
    split at hk
    · exact hk.elim
    · exact hk

end Loop

theorem cleanStep_skip (r : Bool) (st : List Name) {c : Name} (h : c = [] ∨ c = ['.']) : cleanStep r st c = st := by
  rw [cleanStep.eq_def, if_pos h]

theorem cleanStep_normal (r : Bool) (st : List Name) (c : Name) (hc : Normal c) : cleanStep r st c = c :: st := by
  unfold cleanStep
  rw [if_neg hc.not_noop, if_neg hc.2.2.1]

theorem cleanStep_dotdot_dotdot (r : Bool) (ts : List Name) :
    cleanStep r (dotdot :: ts) dotdot = dotdot :: dotdot :: ts := by
  simp [cleanStep, dotdot]

theorem cleanStep_dotdot_cons (r : Bool) {t : Name} (ht : t ≠ dotdot) (ts : List Name) :
    cleanStep r (t :: ts) dotdot = ts := by
  have : ¬ t = ['.', '.'] := ht
  simp [cleanStep, dotdot, this]

theorem foldl_cleanStep_normal (r : Bool) (comps : List Name) (h : AllNormal comps) :
    ∀ st, comps.foldl (cleanStep r) st = comps.reverse ++ st := by
  induction comps with
  | nil => intro st; rfl
  | cons c cs ih =>
    intro st
    obtain ⟨hc, hcs⟩ := List.forall_mem_cons.mp h
    simp only [List.foldl_cons, cleanStep_normal r st c hc, ih hcs, List.reverse_cons, List.append_assoc,
      List.singleton_append]

theorem cleanStack_append_slash (a y : PathStr) (ha : a ≠ []) :
    cleanStack (a ++ '/' :: y) = ((splitSlash y).foldl (cleanStep (isAbs a)) (cleanStack a).reverse).reverse := by
  unfold cleanStack
  rw [isAbs_append a _ ha, splitSlash_append_slash, List.foldl_append, List.reverse_reverse]

theorem foldl_cleanStep_renderAbs (r : Bool) (fin : List Name) (hn : AllNormal fin) (st : List Name) :
    (splitSlash (renderAbs fin)).foldl (cleanStep r) st = fin.reverse ++ st := by
  by_cases h0 : fin = []
  · subst h0; rfl
  · rw [splitSlash_renderAbs fin hn.noslash h0, List.foldl_cons, cleanStep_skip r st (.inl rfl),
      foldl_cleanStep_normal r fin hn]

theorem cleanStack_nil : cleanStack [] = [] := rfl

theorem cleanStack_renderAbs (fin : List Name) (hn : AllNormal fin) : cleanStack (renderAbs fin) = fin := by
  unfold cleanStack
  rw [foldl_cleanStep_renderAbs _ fin hn, List.append_nil, List.reverse_reverse]

theorem isAbs_renderAbs (fin : List Name) : isAbs (renderAbs fin) = true := by
  unfold renderAbs
  split
  · rfl
  · next h =>
    cases fin with
    | nil => exact absurd rfl h
    | cons c cs => rfl

theorem clean_of_ne (p : PathStr) (h : p ≠ []) : clean p = renderClean (isAbs p) (cleanStack p) :=
  if_neg h

/-- Join drops an empty root and `renderAbs fin` is rooted: "" counts as "/". -/
theorem goJoin_renderAbs (root : PathStr) (fin : List Name) (hn : AllNormal fin) :
    goJoin root (renderAbs fin) = renderClean (isAbs root || root == []) (cleanStack root ++ fin) := by
  unfold goJoin
  by_cases hroot : root = []
  · subst hroot
    rw [if_pos rfl, clean_of_ne _ (renderAbs_ne_nil fin), isAbs_renderAbs, cleanStack_renderAbs fin hn]
    rfl
  · rw [if_neg hroot, clean_of_ne _ (by simp [hroot]), isAbs_append root _ hroot, cleanStack_append_slash root _ hroot,
      foldl_cleanStep_renderAbs _ fin hn, List.reverse_append, List.reverse_reverse, List.reverse_reverse,
      (by simp [hroot] : (root == []) = false), Bool.or_false]

theorem clean_ne_nil_of_fixed (root : PathStr) (h : clean root = root) : root ≠ [] := by
  intro h0
  rw [h0] at h
  cases h

theorem goJoin_clean_root {root : PathStr} (hclean : clean root = root) (fin : List Name) (hn : AllNormal fin) :
    goJoin root (renderAbs fin) = renderClean (isAbs root) (cleanStack root ++ fin) := by
  rw [goJoin_renderAbs root fin hn, (by simp [clean_ne_nil_of_fixed root hclean] : (root == []) = false), Bool.or_false]

theorem goJoin_root (root : PathStr) (hclean : clean root = root) : goJoin root (renderAbs []) = root := by
  rw [goJoin_clean_root hclean [] AllNormal.nil, List.append_nil, ← clean_of_ne root (clean_ne_nil_of_fixed root hclean),
    hclean]

/-- go: `filepath.Join(root, finalPath)` for the non-empty finalPath is `goJoin`. -/
theorem goJoin_eq_joinElems (a b : PathStr) (hb : b ≠ []) : goJoin a b = joinElems [a, b] := by
  unfold goJoin joinElems
  by_cases ha : a = []
  · subst ha; simp [List.dropWhile, hb]
  · simp [List.dropWhile, ha]

theorem renderRel_rel (st : List Name) (h : ∀ c ∈ st, c ≠ [] ∧ '/' ∉ c) :
    isAbs (renderRel st) = false ∧ renderRel st ≠ [] := by
  cases st with
  | nil => exact ⟨rfl, by decide⟩
  | cons c cs =>
    obtain ⟨hc, hs⟩ := h c List.mem_cons_self
    cases c with
    | nil => exact absurd rfl hc
    | cons x xs =>
      have hx : x ≠ '/' := fun e => hs (by simp [e])
      simp [renderRel, isAbs, hx]

theorem splitSlash_renderRel (c : Name) (cs : List Name) (h : ∀ x ∈ c :: cs, '/' ∉ x) :
    splitSlash (renderRel (c :: cs)) = c :: cs := by
  obtain ⟨hc, hcs⟩ := List.forall_mem_cons.mp h
  rw [renderRel, splitSlash_append_flatMap c cs hcs, splitSlash_noslash c hc]
  rfl

theorem renderClean_clean_root {root : PathStr} (hclean : clean root = root) (h1 : root ≠ ['/']) (h2 : root ≠ ['.'])
    (comps : List Name) :
    renderClean (isAbs root) (cleanStack root ++ comps) = root ++ comps.flatMap ('/' :: ·) := by
  have hform := hclean.symm.trans (clean_of_ne root (clean_ne_nil_of_fixed root hclean))
  generalize cleanStack root = S at hform ⊢
  generalize isAbs root = r at hform ⊢
  cases r with
  | true =>
    cases S with
    | nil => exact absurd hform h1
    | cons s ss => rw [hform]; simp [renderClean, renderAbs]
  | false =>
    cases S with
    | nil => exact absurd hform h2
    | cons s ss => rw [hform]; simp [renderClean, renderRel]

section Denote
variable {fs : FS} {klim lim : Nat} {cwd : List Name} {root p out : PathStr}

theorem denote_goJoin (fs : FS) (klim : Nat) (cwd : List Name) (hclean : clean root = root)
    {fin : List Name} (hn : AllNormal fin) (h0 : fin ≠ []) :
    denote fs klim cwd (goJoin root (renderAbs fin)) = contWalk fs true fin (denote fs klim cwd root) := by
  -- the text starts where the root starts, and the kernel walks it like the root's components followed by `fin`
  suffices h : isAbs (goJoin root (renderAbs fin)) = isAbs root ∧ ∀ cur,
      walk fs true klim cur (splitSlash (goJoin root (renderAbs fin))) = walk fs true klim cur (splitSlash root ++ fin) by
    unfold denote
    rw [h.1, h.2, walk_append fs true fin h0]
  have hroot := clean_ne_nil_of_fixed root hclean
  rw [goJoin_clean_root hclean fin hn]
  obtain ⟨c, cs, rfl⟩ := List.exists_cons_of_ne_nil h0
  have hns := hn.noslash
  by_cases h1 : root = ['/']
  · -- "/" ++ "/c/…" would start with an empty component too many: the text is "/c/…"
    subst h1
    refine ⟨rfl, fun cur => ?_⟩
    rw [show renderClean (isAbs ['/']) (cleanStack ['/'] ++ c :: cs) = renderAbs (c :: cs) from rfl,
      splitSlash_renderAbs _ hns (List.cons_ne_nil c cs)]
    exact (walk_noop fs true klim cur [] _ (.inl rfl)).symm
  by_cases h2 : root = ['.']
  · -- "." extended by components is "c/…"
    subst h2
    refine ⟨(renderRel_rel _ hn.rel).1, fun cur => ?_⟩
    rw [show renderClean (isAbs ['.']) (cleanStack ['.'] ++ c :: cs) = renderRel (c :: cs) from rfl,
      splitSlash_renderRel c cs hns]
    exact (walk_noop fs true klim cur ['.'] _ (.inr rfl)).symm
  · rw [renderClean_clean_root hclean h1 h2]
    exact ⟨isAbs_append root _ hroot, fun cur => by rw [splitSlash_append_flatMap root _ hns]⟩

theorem secureJoin_ok (h : secureJoin fs klim lim cwd root p = .ok out) :
    ∃ fin, sj fs klim cwd root lim [] (splitSlash p) = .ok fin ∧ out = goJoin root (renderAbs fin) := by
  unfold secureJoin at h
  split at h
  · next fin hs => cases h; exact ⟨fin, hs, rfl⟩
  · cases h

theorem contWalk_ok {fs : FS} {f : Bool} {X : List Name} {r : Res} {loc : List Name} {e : Entry} {l : Nat}
    (h : contWalk fs f X r = .ok loc e l) : ∃ R b, r = .ok R .dir b ∧ walk fs f b R X = .ok loc e l := by
  unfold contWalk at h
  split at h
  · exact ⟨_, _, rfl, h⟩
  all_goals cases h

/-- Every prefix of the joined components denotes — if anything — something below what the root denotes:
    it is walked from the directory the root denotes, where the components meet no symbolic link. -/
theorem secureJoin_walk_invariant (hclean : clean root = root) (hj : secureJoin fs klim lim cwd root p = .ok out) :
    ∃ fin, AllNormal fin ∧ out = goJoin root (renderAbs fin) ∧
      ∀ pre, pre <+: fin → ∀ loc e l, denote fs klim cwd (goJoin root (renderAbs pre)) = .ok loc e l →
        ∃ R eR lR, denote fs klim cwd root = .ok R eR lR ∧ R <+: loc := by
  obtain ⟨fin, hs, hout⟩ := secureJoin_ok hj
  have hrem := splitSlash_no_slash p
  have hn := sj_normal hrem hs
  refine ⟨fin, hn, hout, ?_⟩
  rintro pre ⟨t, rfl⟩ loc e l hd
  have hpre : AllNormal pre := fun c hc => hn c (List.mem_append_left _ hc)
  by_cases h0 : pre = []
  · subst h0
    rw [goJoin_root root hclean] at hd
    exact ⟨loc, e, l, hd, List.prefix_refl _⟩
  · rw [denote_goJoin fs klim cwd hclean hpre h0] at hd
    obtain ⟨R, lR, hR, hw⟩ := contWalk_ok hd
    have hnl := NoLink.prefix fs pre t R (sj_nolink (clean_ne_nil_of_fixed root hclean) hR hrem hs).2
    exact ⟨R, .dir, lR, hR, walk_nolink fs true lR pre R hpre hnl loc e l hw⟩

end Denote

/-- "Lexically inside root": the cleaned root ("" counting as "/") extended by normal components. -/
def LexInside (root out : PathStr) : Prop :=
  ∃ comps, AllNormal comps ∧ out = renderClean (isAbs root || root == []) (cleanStack root ++ comps)

theorem secureJoin_lexInside {fs : FS} {klim lim : Nat} {cwd : List Name} {root p out : PathStr}
    (hj : secureJoin fs klim lim cwd root p = .ok out) : LexInside root out := by
  obtain ⟨fin, hs, hout⟩ := secureJoin_ok hj
  have hn := sj_normal (splitSlash_no_slash p) hs
  exact ⟨fin, hn, by rw [hout, goJoin_renderAbs root fin hn]⟩

theorem LexInside.clean_root {root out : PathStr} (h : LexInside root out) (hclean : clean root = root)
    (h1 : root ≠ ['/']) (h2 : root ≠ ['.']) :
    ∃ comps, AllNormal comps ∧ out = root ++ comps.flatMap ('/' :: ·) := by
  obtain ⟨comps, hn, hout⟩ := h
  have hroot := clean_ne_nil_of_fixed root hclean
  rw [(by simp [hroot] : (root == []) = false), Bool.or_false, renderClean_clean_root hclean h1 h2] at hout
  exact ⟨comps, hn, hout⟩

theorem walk_congr (fs₁ fs₂ : FS) (h : ∀ l, fs₂.look l = fs₁.look l) (f : Bool) :
    ∀ (b : Nat) (L cur : List Name), walk fs₂ f b cur L = walk fs₁ f b cur L := by
  suffices step : ∀ b, nextOf fs₂ f b = nextOf fs₁ f b → ∀ L cur, walk fs₂ f b cur L = walk fs₁ f b cur L by
    intro b
    induction b with
    | zero => exact step 0 rfl
    | succ b ih => exact step (b + 1) (funext fun cur => funext fun L => ih L cur)
  intro b hn L
  rw [walk_eq, walk_eq, hn]
  induction L with
  | nil => intro cur; rfl
  | cons c rest ih => intro cur; simp only [walkList, ih, h]

theorem denote_congr (fs₁ fs₂ : FS) (h : ∀ l, fs₂.look l = fs₁.look l) (klim : Nat) (cwd : List Name) (p : PathStr) :
    denote fs₂ klim cwd p = denote fs₁ klim cwd p :=
  walk_congr fs₁ fs₂ h true klim _ _

theorem resolve_ok {fs : FS} {klim : Nat} {cwd : List Name} {f : Bool} {p : PathStr} {loc : List Name} {e : Entry} {l : Nat}
    (h : resolve fs klim cwd f p = .ok loc e l) :
    walk fs f klim (if isAbs p then [] else cwd) (splitSlash p) = .ok loc e l := by
  unfold resolve at h
  by_cases h1 : p = []
  · rw [if_pos h1] at h; cases h
  by_cases h2 : fs.reject p = true
  · rw [if_neg h1, if_pos h2] at h; cases h
  · rwa [if_neg h1, if_neg h2] at h

theorem readFile_data {fs : FS} {klim : Nat} {cwd : List Name} {p : PathStr} {loc : List Name} {i : Nat}
    (h : readFile fs klim cwd p = .data loc i) : ∃ l, resolve fs klim cwd true p = .ok loc (.file i) l := by
  unfold readFile at h
  split at h
  · next hr => cases h; exact ⟨_, hr⟩
  all_goals cases h

theorem walk_file_look (fs : FS) (f : Bool) :
    ∀ (b : Nat) (L cur loc : List Name) (i l : Nat), walk fs f b cur L = .ok loc (.file i) l →
      fs.look loc = .ent (.file i) := by
  suffices step : ∀ b, (∀ L cur loc i l, nextOf fs f b cur L = .ok loc (.file i) l → fs.look loc = .ent (.file i)) →
      ∀ L cur loc i l, walk fs f b cur L = .ok loc (.file i) l → fs.look loc = .ent (.file i) by
    intro b
    induction b with
    | zero => exact step 0 fun _ _ _ _ _ h => nomatch h
    | succ b ih => exact step (b + 1) ih
  intro b hn L cur
  rw [walk_eq]
  fun_induction walkList fs f b (nextOf fs f b) cur L with
  | case7 cur c _ _ j hl => -- a regular file as the last component
    intro loc i l h; cases h; exact hl
  | case10 => exact hn _ _ -- a symbolic link that is followed
  | case2 _ _ _ _ ih => exact ih
  | case3 _ _ _ ih => exact ih
  | case6 _ _ _ _ _ _ ih => exact ih
  | _ => nofun

theorem splitSlash_curText (cur : List Name) (hn : AllNormal cur) :
    splitSlash (curText cur) = [] :: cur := by
  unfold curText
  by_cases h0 : cur = []
  · subst h0; rfl
  · rw [if_neg h0]; exact splitSlash_renderAbs cur hn.noslash h0

theorem cleanStep_last (cur : List Name) (hn : AllNormal cur) {part : Name} (hp : '/' ∉ part) :
    (cleanStep true cur.reverse part).reverse = applyPart cur part := by
  rcases applyPart_cases cur hp with ⟨h, e⟩ | ⟨rfl, e⟩ | ⟨h, e⟩ <;> rw [e]
  · rw [cleanStep_skip true _ h, List.reverse_reverse]
  · rcases List.eq_nil_or_concat cur with rfl | ⟨ts, t, rfl⟩
    · rfl
    · rw [List.concat_eq_append] at hn ⊢
      rw [List.reverse_append, List.reverse_singleton, List.singleton_append,
        cleanStep_dotdot_cons true (hn t (by simp)).2.2.1, List.reverse_reverse, List.dropLast_concat]
  · rw [cleanStep_normal true _ part h, List.reverse_cons, List.reverse_reverse]

/-- "/" + "/" + currentPath is what `filepath.Join("/", currentPath, …)` starts with. -/
theorem cleanStack_slash_curText (cur : List Name) (hn : AllNormal cur) : cleanStack ('/' :: '/' :: curText cur) = cur := by
  rw [show '/' :: '/' :: curText cur = ['/'] ++ '/' :: curText cur from rfl,
    cleanStack_append_slash _ _ (List.cons_ne_nil _ _), splitSlash_curText cur hn, List.foldl_cons,
    cleanStep_skip _ _ (.inl rfl), foldl_cleanStep_normal _ cur hn, show cleanStack ['/'] = [] from rfl,
    List.reverse_nil, List.append_nil, List.reverse_reverse]

/-- go: `nextPath := filepath.Join("/", currentPath, part)` is `applyPart` on the components. -/
theorem join_nextPath (cur : List Name) (hn : AllNormal cur) (part : Name) (hp : '/' ∉ part) :
    joinElems [['/'], curText cur, part] = renderAbs (applyPart cur part) := by
  have hj : joinElems [['/'], curText cur, part] = clean (('/' :: '/' :: curText cur) ++ '/' :: part) := by
    simp [joinElems, List.dropWhile]
  rw [hj, clean_of_ne _ (by simp), cleanStack_append_slash _ _ (List.cons_ne_nil _ _), cleanStack_slash_curText cur hn,
    splitSlash_noslash part hp]
  exact congrArg renderAbs (cleanStep_last cur hn hp)

/-- go: `finalPath := filepath.Join("/", currentPath)` is the text of the components. -/
theorem join_finalPath (cur : List Name) (hn : AllNormal cur) :
    joinElems [['/'], curText cur] = renderAbs cur := by
  have hj : joinElems [['/'], curText cur] = clean ('/' :: '/' :: curText cur) := by simp [joinElems, List.dropWhile]
  rw [hj, clean_of_ne _ (List.cons_ne_nil _ _), cleanStack_slash_curText cur hn]
  rfl

end GceTcb.SecureJoin
