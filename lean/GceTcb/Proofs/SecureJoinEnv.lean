import GceTcb.Model.SecureJoinEnv
import GceTcb.Proofs.SecureJoin
import GceTcb.Proofs.Extract
/-
Lemmas for C16 (confinement clause): what the instantiated `Extract.Env` says about the models of
SecureJoin and os.ReadFile, ReadVariable and its historic variants as functions of the decoded texts
(`Lifts`, `readVia`), and the example file systems as tables of character lists. Core-only.
-/
namespace GceTcb.SecureJoin
open GceTcb GceTcb.Extract

variable {f1 f2 : FS} {klim lim : Nat} {cwd : List Name} {content : Nat → Bytes} {get : Url → Option Bytes}

theorem envOf_secureJoin {root u p : String}
    (h : (envOf f1 f2 klim lim cwd content get).secureJoin root u = some p) :
    secureJoin f1 klim lim cwd root.toList u.toList = .ok p.toList := by
  simp only [envOf] at h
  split at h
  · next q hq => cases h; rw [hq, String.toList_ofList]
  · cases h

theorem envOf_readFile {p : String} {c : Bytes}
    (h : (envOf f1 f2 klim lim cwd content get).readFile p = some c) :
    ∃ loc i, readFile f2 klim cwd p.toList = .data loc i ∧ c = content i := by
  simp only [envOf] at h
  split at h
  · next loc i hr => cases h; exact ⟨loc, i, hr, rfl⟩
  · cases h

/-- `drop 4`: the variable's file starts with a 4-byte attribute header. -/
theorem readVariable_ok {env : Env} {root : String} {g n : Bytes} {out : Bytes}
    (h : (readVariable env root g n).out = .ok out) :
    ∃ p c, varBasename env root g n = .ok p ∧ env.readFile p = some c ∧ out = c.drop 4 := by
  unfold readVariable at h
  split at h
  · next p hp =>
    split at h
    · cases h
    · next c hc =>
      split at h
      · cases h
      · cases h; exact ⟨p, c, hp, hc, rfl⟩
  · cases h
  · cases h

/-! ## The String-level contract `Inside` (Model/Extract.lean) that Props/C16.lean assumes of `secureJoin` -/

theorem joinUnder_toList (root : String) (comps : List Name) :
    (joinUnder root (comps.map String.ofList)).toList = root.toList ++ comps.flatMap ('/' :: ·) := by
  unfold joinUnder
  rw [String.toList_append, String.toList_join]
  congr 1
  induction comps with
  | nil => rfl
  | cons c cs ih =>
    simp only [List.map_cons, List.flatMap_cons, String.toList_append, String.toList_ofList]
    rw [ih]
    rfl

theorem inside_of_lex (root p : String) (comps : List Name) (hn : AllNormal comps)
    (h : p.toList = root.toList ++ comps.flatMap ('/' :: ·)) : Inside root p := by
  refine ⟨comps.map String.ofList, ?_, ?_⟩
  · apply String.toList_inj.mp
    rw [h, joinUnder_toList]
  · intro c hc
    rw [List.mem_map] at hc
    obtain ⟨l, hl, rfl⟩ := hc
    obtain ⟨h1, h2, h3, h4⟩ := hn l hl
    exact ⟨fun e => h1 (String.ofList_injective e), fun e => h2 (String.ofList_injective e),
      fun e => h3 (String.ofList_injective e), by rwa [String.toList_ofList]⟩

/-- `vb`, a variant of varBasename on name bytes, computes over the instantiated world what `vp` computes on
    the decoded texts. -/
def Lifts (vb : Env → String → Bytes → Bytes → Outcome String)
    (vp : FS → Nat → Nat → List Name → PathStr → PathStr → PathStr → Joined) : Prop :=
  ∀ f1 f2 klim lim cwd content get (root : String) (guid name : Bytes) (b : String), ucs2toUTF8 name = .ok b →
    vb (envOf f1 f2 klim lim cwd content get) root guid name =
      match vp f1 klim lim cwd root.toList b.toList (uuidString guid).toList with
      | .ok p => .ok (String.ofList p)
      | .err _ => .err "illegalpath"

theorem dash_toList : "-".toList = ['-'] := String.toList_ofList

theorem lifts_varBasename : Lifts varBasename varPath := by
  intro f1 f2 klim lim cwd content get root guid name b hb
  simp only [varBasename, hb, envOf, varPath, String.toList_append, dash_toList, List.append_assoc, List.singleton_append]
  cases secureJoin f1 klim lim cwd root.toList (b.toList ++ '-' :: (uuidString guid).toList) <;> rfl

theorem lifts_suffixAfterJoin : Lifts varBasenameSuffixAfterJoin varPathSuffixAfterJoin := by
  intro f1 f2 klim lim cwd content get root guid name b hb
  simp only [varBasenameSuffixAfterJoin, hb, envOf, varPathSuffixAfterJoin]
  cases secureJoin f1 klim lim cwd root.toList b.toList with
  | err e => rfl
  | ok p =>
    simp only [Outcome.ok.injEq]
    apply String.toList_inj.mp
    simp only [String.toList_append, String.toList_ofList, dash_toList, List.append_assoc, List.singleton_append]

theorem lifts_noJoin : Lifts varBasenameNoJoin varPathNoJoin := by
  intro f1 f2 klim lim cwd content get root guid name b hb
  simp only [varBasenameNoJoin, hb, envOf, varPathNoJoin, String.toList_append, dash_toList, List.append_assoc,
    List.singleton_append]
  split
  · cases secureJoin f1 klim lim cwd root.toList (b.toList ++ '-' :: (uuidString guid).toList) <;> rfl
  · rfl

/-- ReadVariable on the decoded texts: the path by `vp`, then os.ReadFile and the attribute header. -/
def readVia (vp : FS → Nat → Nat → List Name → PathStr → PathStr → PathStr → Joined) (f1 f2 : FS) (klim lim : Nat)
    (cwd : List Name) (content : Nat → Bytes) (root nm g : PathStr) : Outcome Bytes :=
  match vp f1 klim lim cwd root nm g with
  | .ok p =>
    match readFile f2 klim cwd p with
    | .data _ i => if (content i).length < 4 then .err "illformed" else .ok ((content i).drop 4)
    | _ => .err "read"
  | .err _ => .err "illegalpath"

theorem Lifts.out {vb vp} (h : Lifts vb vp) {root : String} {guid name : Bytes} {b : String}
    (hb : ucs2toUTF8 name = .ok b) :
    (readVariableVia vb (envOf f1 f2 klim lim cwd content get) root guid name).out =
      readVia vp f1 f2 klim lim cwd content root.toList b.toList (uuidString guid).toList := by
  unfold readVariableVia readVia
  rw [h f1 f2 klim lim cwd content get root guid name b hb]
  cases vp f1 klim lim cwd root.toList b.toList (uuidString guid).toList with
  | err e => rfl
  | ok p =>
    simp only [envOf, String.toList_ofList]
    cases readFile f2 klim cwd p with
    | data loc i => simp only []; split <;> rfl
    | isdir => rfl
    | err e => rfl

theorem readVariable_out {root : String} {guid name : Bytes} {b : String} (hb : ucs2toUTF8 name = .ok b) :
    (readVariable (envOf f1 f2 klim lim cwd content get) root guid name).out =
      readVia varPath f1 f2 klim lim cwd content root.toList b.toList (uuidString guid).toList :=
  lifts_varBasename.out hb

theorem ucs2_nameVar : ucs2toUTF8 nameVar = .ok "Var" := by decide +kernel

/-! ## The example file systems with their names as character lists

The tables of Model/SecureJoinEnv.lean are written with string literals. The kernel evaluates
`String.toList` of a literal by running the UTF-8 decoder over its bytes (well-founded recursion,
quadratic in the length), which is most of the work in evaluating a statement about these file systems.
A literal unifies with `String.ofList` of its characters, so `String.toList_ofList` gives the same table
with nothing left to decode. -/

def guidTL : { l : PathStr // guidT = l } := ⟨_, String.toList_ofList⟩

def fsSiblingT : { t : Table // fsSibling = t.toFS } :=
  ⟨_, by unfold fsSibling tableOf; simp only [List.map]; (repeat rewrite [String.toList_ofList]); exact rfl⟩

def fsFinalLinkT : { t : Table // fsFinalLink = t.toFS } :=
  ⟨_, by unfold fsFinalLink tableOf; simp only [List.map]; (repeat rewrite [String.toList_ofList]); exact rfl⟩

def fsBeforeT : { t : Table // fsBefore = t.toFS } :=
  ⟨_, by unfold fsBefore tableOf; simp only [List.map]; (repeat rewrite [String.toList_ofList]); exact rfl⟩

def fsUncleanRootT : { t : Table // fsUncleanRoot = t.toFS } :=
  ⟨_, by unfold fsUncleanRoot tableOf; simp only [List.map]; (repeat rewrite [String.toList_ofList]); exact rfl⟩

def fsLinksT : { t : Table // fsLinks = t.toFS } :=
  ⟨_, by unfold fsLinks tableOf; simp only [List.map]; (repeat rewrite [String.toList_ofList]); exact rfl⟩

theorem uuidString_guidB : uuidString guidB = String.ofList guidTL.1 := by
  apply String.toList_inj.mp
  simp only [uuidString, String.toList_append, hexEncode_toList, dash_toList, String.toList_ofList]
  decide +kernel

end GceTcb.SecureJoin
