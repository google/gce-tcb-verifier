import GceTcb.Model.Extract
/-
Helper lemmas for C16: the lexical secure join (filepath-securejoin on a root without symbolic
links) meets the contract "the result is lexically inside root". Core-only.
-/
namespace GceTcb.Extract
open GceTcb

theorem splitSlash_no_slash (l : List Char) : ∀ p ∈ splitSlash l, '/' ∉ p := by
  induction l with
  | nil => exact List.forall_mem_cons.mpr ⟨List.not_mem_nil, nofun⟩
  | cons c cs ih =>
    unfold splitSlash
    by_cases hc : c = '/'
    · rw [if_pos hc]
      exact List.forall_mem_cons.mpr ⟨List.not_mem_nil, ih⟩
    · rw [if_neg hc]
      cases hs : splitSlash cs with
      | nil => exact List.forall_mem_cons.mpr ⟨fun hm => hc (List.mem_singleton.mp hm).symm, nofun⟩
      | cons q qs =>
        rw [hs, List.forall_mem_cons] at ih
        exact List.forall_mem_cons.mpr ⟨fun hm => (List.mem_cons.mp hm).elim (fun h => hc h.symm) ih.1, ih.2⟩

/-- What `Inside` asks of each component; the invariant of the component list that `sjFold` builds. -/
def GoodComp (c : String) : Prop := c ≠ "" ∧ c ≠ "." ∧ c ≠ ".." ∧ '/' ∉ c.toList

theorem sjStep_good (cur : List String) (part : String) (cur' : List String)
    (hpart : '/' ∉ part.toList) (hcur : ∀ c ∈ cur, GoodComp c) (h : sjStep cur part = some cur') :
    ∀ c ∈ cur', GoodComp c := by
  unfold sjStep at h
  by_cases h1 : part = "" ∨ part = "."
  · rw [if_pos h1] at h; cases h; exact hcur
  rw [if_neg h1] at h
  by_cases h2 : part = ".."
  · rw [if_pos h2] at h; cases h; exact fun c hc => hcur c (List.dropLast_subset _ hc)
  rw [if_neg h2] at h
  split at h
  · cases h
  · cases h
    intro c hc
    rcases List.mem_append.mp hc with h' | h'
    · exact hcur c h'
    · rw [List.mem_singleton.mp h']
      exact ⟨fun e => h1 (Or.inl e), fun e => h1 (Or.inr e), h2, hpart⟩

theorem sjFold_good (parts : List String) (cur res : List String)
    (hparts : ∀ p ∈ parts, '/' ∉ p.toList) (hcur : ∀ c ∈ cur, GoodComp c) (h : sjFold cur parts = some res) :
    ∀ c ∈ res, GoodComp c := by
  induction parts generalizing cur with
  | nil => simp only [sjFold, Option.some.injEq] at h; rw [← h]; exact hcur
  | cons p ps ih =>
    unfold sjFold at h
    split at h
    · simp at h
    · next cur' hs =>
      exact ih cur' (fun q hq => hparts q (List.mem_cons_of_mem _ hq))
        (sjStep_good cur p cur' (hparts p List.mem_cons_self) hcur hs) h

/-- The lexical secure join satisfies the contract of the `secureJoin` parameter, for every root and
    every unsafe path. -/
theorem secureJoinLex_inside (root u p : String) (h : secureJoinLex root u = some p) : Inside root p := by
  obtain ⟨comps, hf, rfl⟩ := Option.map_eq_some_iff.mp h
  refine ⟨comps, rfl, sjFold_good _ [] comps (fun q hq => ?_) nofun hf⟩
  obtain ⟨l, hl, rfl⟩ := List.mem_map.mp hq
  rw [String.toList_ofList]
  exact splitSlash_no_slash _ l hl

end GceTcb.Extract
