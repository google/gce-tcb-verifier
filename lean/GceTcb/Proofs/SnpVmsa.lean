import GceTcb.Model.SevLd
import GceTcb.Spec.SnpLaunch
/-
C04 — the VMSA page: the interpreter of the PutVmsa statement table writes the bytes the APM layout
prescribes.

Method: the stores of the table are executed once symbolically (every byte of the page is
`some (field, k)` = byte k of a named field, or `none` = zero); the symbolic page of the statement
table equals the page obtained by placing the APM fields at their offsets (`symPage_spec`, by
evaluation), and executing the stores on real bytes is the image of the symbolic execution under
`evalDesc` (`applyG_map`, parametricity of `write`), for every register state.
-/
namespace GceTcb.Proofs.SnpVmsa
open GceTcb GceTcb.Codec GceTcb.Codecs GceTcb.SevLd
open GceTcb.Spec.SnpLaunch (Desc evalDesc)

def renderSym (w : Write) : List Desc :=
  (List.range w.2.1).map fun k => w.2.2.map fun n => (n, k)

def symPage (L : List Entry) (n : Nat) : List Desc :=
  applyG ((L.flatMap expand).map fun w => (w.1, renderSym w)) (List.replicate n none)

def Contig {β : Type} : Nat → List (Nat × List β) → Bool
  | _, [] => true
  | o, w :: ws => w.1 == o && Contig (o + w.2.length) ws

theorem applyG_contig {β : Type} (ws : List (Nat × List β)) (pre buf : List β) (hc : Contig pre.length ws = true) :
    applyG ws (pre ++ buf) = pre ++ ws.flatMap (·.2) ++ buf.drop (ws.flatMap (·.2)).length := by
  induction ws generalizing pre buf with
  | nil => simp [applyG]
  | cons w ws ih =>
    obtain ⟨o, bs⟩ := w
    simp only [Contig, Bool.and_eq_true, beq_iff_eq] at hc
    obtain ⟨rfl, hc⟩ := hc
    have hw : write (pre ++ buf) pre.length bs = (pre ++ bs) ++ buf.drop bs.length := by
      simp [write, List.drop_append]
    rw [applyG, List.foldl_cons, hw, ← applyG, ih (pre ++ bs) _ (by simpa using hc)]
    simp [List.drop_drop]

theorem applyG_append {β : Type} (a b : List (Nat × List β)) (buf : List β) :
    applyG (a ++ b) buf = applyG b (applyG a buf) := List.foldl_append

/-- All stores of the table but the last (the zero fill from 0x3F0, which goes back over two reserved fields)
    are contiguous from offset 0: the page before the last store is their concatenation followed by untouched
    zeros.  The last store and the comparison are evaluated, in two halves (the kernel's recursion on a
    4096-element list is too deep in one). -/
theorem symPage_spec : symPage Spec.SnpLaunch.vmsaLayout 4096 = Spec.SnpLaunch.symVmsa := by
  unfold symPage
  generalize hws : ((Spec.SnpLaunch.vmsaLayout.flatMap expand).map fun w => (w.1, renderSym w)) = ws
  have h := applyG_contig (ws.take (ws.length - 1)) [] (List.replicate 4096 none) (by subst hws; decide +kernel)
  rw [← List.take_append_drop (ws.length - 1) ws, applyG_append, ← List.nil_append (List.replicate 4096 none), h,
    ← List.take_append_drop 0x670 Spec.SnpLaunch.symVmsa]
  subst hws
  refine (List.take_append_drop 0x670 _).symm.trans (congr (congrArg _ ?_) ?_) <;> decide +kernel

theorem write_map {α β : Type} (f : α → β) (buf : List α) (off : Nat) (bs : List α) :
    (write buf off bs).map f = write (buf.map f) off (bs.map f) := by
  simp [write, List.map_take, List.map_drop]

theorem applyG_map {α β : Type} (f : α → β) (ws : List (Nat × List α)) (buf : List α) :
    (applyG ws buf).map f = applyG (ws.map fun w => (w.1, w.2.map f)) (buf.map f) := by
  induction ws generalizing buf with
  | nil => rfl
  | cons w ws ih =>
    simp only [applyG, List.foldl_cons, List.map_cons] at ih ⊢
    rw [ih, write_map]

theorem leBytes_eq_map (w x : Nat) :
    leBytes w x = (List.range w).map fun k => UInt8.ofNat (x / 256 ^ k % 256) := by
  induction w generalizing x with
  | zero => rfl
  | succ w ih =>
    rw [List.range_succ_eq_map, List.map_cons, List.map_map, leBytes, ih]
    congr 1
    · simp
    · apply List.map_congr_left
      intro k _
      simp only [Function.comp]
      rw [Nat.pow_succ, Nat.mul_comm, Nat.div_div_eq_div_mul]

theorem render_eq (v : Vmsa) (w : Write) : render v w = (renderSym w).map (evalDesc v.f) := by
  obtain ⟨off, wd, src⟩ := w
  simp only [render, renderSym, List.map_map]
  rw [leBytes_eq_map]
  apply List.map_congr_left
  intro k _
  cases src <;> simp [evalDesc]

theorem zeros_eq_map (f : String → Nat) (n : Nat) : zeros n = (List.replicate n (none : Desc)).map (evalDesc f) := by
  simp [zeros, evalDesc]

theorem applyWrites_zeros (L : List Entry) (v : Vmsa) (n : Nat) :
    applyWrites (L.flatMap expand) v (zeros n) = (symPage L n).map (evalDesc v.f) := by
  unfold applyWrites symPage
  rw [applyG_map, zeros_eq_map v.f, List.map_map]
  congr 1
  apply List.map_congr_left
  intro w _
  simp [render_eq]

def writesInBounds (n : Nat) (ws : List Write) : Prop := ∀ w ∈ ws, w.2.1 = 0 ∨ w.1 + w.2.1 ≤ n

theorem applyWrites_length (ws : List Write) (v : Vmsa) (buf : Bytes) (h : writesInBounds buf.length ws) :
    (applyWrites ws v buf).length = buf.length := by
  unfold applyWrites applyG
  induction ws generalizing buf with
  | nil => rfl
  | cons w ws ih =>
    have hw : (write buf w.1 (render v w)).length = buf.length := by
      have := h w List.mem_cons_self
      simp [write, render]
      omega
    simp only [List.map_cons, List.foldl_cons]
    rw [ih, hw]
    rw [hw]
    exact fun w' hw' => h w' (List.mem_cons_of_mem _ hw')

theorem applyWrites_append (a b : List Write) (v : Vmsa) (buf : Bytes) :
    applyWrites (a ++ b) v buf = applyWrites b v (applyWrites a v buf) := by
  simp only [applyWrites, List.map_append, applyG_append]

theorem ite_ok_iff {α : Type} (c : Prop) [Decidable c] (x y : Outcome α) (a : α) :
    (if c then x else y) = .ok a ↔ (c ∧ x = .ok a) ∨ (¬ c ∧ y = .ok a) := by
  split <;> simp [*]

/-- the must-be-zero check of a reserved byte field, as the condition under which it passes -/
theorem mbz_iff (l w : Nat) (b : Bool) : ¬ (l ≠ 0 ∧ (l ≠ w ∨ (!b) = true)) ↔ l = 0 ∨ (l = w ∧ b = true) := by
  cases b <;> simp <;> omega

/-- A passed check, kind by kind: the `if` chain of `entryCheck` read once (`ite_ok_iff` turns it into nested
    alternatives "this kind and its conditions, or not this kind and …"; the guards are dropped). -/
theorem entryCheck_ok {v : Vmsa} {n : Nat} {kind : String} {lo hi : Nat} {name : String}
    (h : entryCheck v n (kind, lo, hi, name) = .ok ()) :
    kind = "seg" ∧ (lo ≤ hi ∧ hi ≤ n) ∧ 16 ≤ hi - lo ∧ v.f (name ++ ".Selector") < 2 ^ 16 ∧ v.f (name ++ ".Attrib") < 2 ^ 16 ∨
    kind = "resv" ∧ ((v.r name).length = 0 ∨ ((v.r name).length = hi - lo ∧ allZero (v.r name) = true)) ∧ hi ≤ n ∨
    kind = "byte8" ∧ v.f name < 2 ^ 8 ∧ lo < n ∧ hi = lo + 1 ∨
    kind = "le" ∧ lo ≤ hi ∧ hi ≤ n ∨
    kind = "resv64" ∧ (hi - lo = 8 ∧ lo ≤ hi) ∧ v.f name = 0 ∧ hi ≤ n ∨
    kind = "zero" ∧ hi ≤ n ∨
    kind = "mbz" ∧ ((v.r name).length = 0 ∨ ((v.r name).length = hi - lo ∧ allZero (v.r name) = true)) := by
  simp only [entryCheck, ite_ok_iff, reduceCtorEq, and_false, false_or, or_false, and_true, mbz_iff, not_or,
    Decidable.not_not, Nat.not_lt, ge_iff_le, Nat.not_le] at h
  exact h.imp_right fun h => h.2.imp_right fun h => h.2.imp_right fun h => h.2.imp_right fun h => h.2.imp_right fun h =>
    h.2.imp_right fun h => h.2

theorem entryCheck_inBounds (v : Vmsa) (n : Nat) (e : Entry) (h : entryCheck v n e = .ok ()) :
    writesInBounds n (expand e) := by
  obtain ⟨kind, lo, hi, name⟩ := e
  rcases entryCheck_ok h with ⟨rfl, hc⟩ | ⟨rfl, hc⟩ | ⟨rfl, hc⟩ | ⟨rfl, hc⟩ | ⟨rfl, hc⟩ | ⟨rfl, hc⟩ | ⟨rfl, hc⟩ <;>
    simp [writesInBounds, expand] <;> omega

def entriesOk (v : Vmsa) (n : Nat) (L : List Entry) : Prop := ∀ e ∈ L, entryCheck v n e = .ok ()

/-- the stores of a passed statement keep the buffer's length, so every check is made at `buf.length` -/
theorem putEntries_ok_iff (v : Vmsa) (L : List Entry) (buf out : Bytes) :
    putEntries v L buf = .ok out ↔ entriesOk v buf.length L ∧ out = applyWrites (L.flatMap expand) v buf := by
  induction L generalizing buf with
  | nil => simp [putEntries, entriesOk, applyWrites, applyG, eq_comm]
  | cons e es ih =>
    rw [putEntries, putEntry, entriesOk, List.forall_mem_cons]
    cases hc : entryCheck v buf.length e with
    | ok u =>
      simp only [ih, applyWrites_length _ v buf (entryCheck_inBounds v _ e hc), List.flatMap_cons, applyWrites_append,
        true_and]
      rfl
    | err c => simp
    | panic p => simp

/-- what a passed check says about the value, kind by kind -/
def EntryStrict (v : Vmsa) (e : Entry) : Prop :=
  (e.1 = "seg" → v.f (e.2.2.2 ++ ".Selector") < 2 ^ 16 ∧ v.f (e.2.2.2 ++ ".Attrib") < 2 ^ 16) ∧
  (e.1 = "byte8" → v.f e.2.2.2 < 2 ^ 8) ∧
  (e.1 = "resv64" → v.f e.2.2.2 = 0) ∧
  (e.1 = "resv" ∨ e.1 = "mbz" →
    (v.r e.2.2.2).length = 0 ∨ ((v.r e.2.2.2).length = e.2.2.1 - e.2.1 ∧ allZero (v.r e.2.2.2) = true))

theorem entryCheck_strict (v : Vmsa) (n : Nat) (e : Entry) (h : entryCheck v n e = .ok ()) : EntryStrict v e := by
  obtain ⟨kind, lo, hi, name⟩ := e
  rcases entryCheck_ok h with ⟨rfl, hc⟩ | ⟨rfl, hc⟩ | ⟨rfl, hc⟩ | ⟨rfl, hc⟩ | ⟨rfl, hc⟩ | ⟨rfl, hc⟩ | ⟨rfl, hc⟩ <;>
    simp only [EntryStrict, String.reduceEq, false_imp_iff, forall_const, and_true, or_false, or_true, hc]

/-- go: PutVmsa on a fresh 4 KiB page accepts a value exactly when every statement's check passes, and then
    writes the APM-layout bytes -/
theorem putVmsa_spec_iff (v : Vmsa) (page : Bytes) :
    putVmsa Spec.SnpLaunch.vmsaLayout Spec.SnpLaunch.sizeofVmsa v (zeros 4096) = .ok page ↔
      entriesOk v 4096 Spec.SnpLaunch.vmsaLayout ∧ page = Spec.SnpLaunch.vmsaBytes v.f := by
  have hl : (zeros 4096).length = 4096 := List.length_replicate
  unfold putVmsa
  rw [if_neg (by rw [hl]; decide), putEntries_ok_iff, hl, applyWrites_zeros, symPage_spec]
  rfl

theorem putVmsa_spec_layout (v : Vmsa) (h : entriesOk v 4096 Spec.SnpLaunch.vmsaLayout) :
    putVmsa Spec.SnpLaunch.vmsaLayout Spec.SnpLaunch.sizeofVmsa v (zeros 4096) = .ok (Spec.SnpLaunch.vmsaBytes v.f) :=
  (putVmsa_spec_iff v _).mpr ⟨h, rfl⟩

/-! ### the VMSAs sev.prepareVmsas builds: the boot processor's and the application processors' -/

def bspVmsa : Vmsa := Vmsa.ofList Spec.SnpLaunch.gceResetState
def apVmsa (rb : ResetBlock) : Vmsa :=
  (bspVmsa.set "Cs.Base" (SevMeta.ripAndCsBase rb).2).set "Rip" (SevMeta.ripAndCsBase rb).1

theorem bsp_ok : entriesOk bspVmsa 4096 Spec.SnpLaunch.vmsaLayout := by
  unfold entriesOk; decide +kernel

theorem set_f_ne (v : Vmsa) (name : String) (x : Nat) (n : String) (h : n ≠ name) : (v.set name x).f n = v.f n := by
  simp [Vmsa.set, h]

/-- A statement's checks read only `<name>.Selector`, `<name>.Attrib` (seg) or `<name>` (byte8, resv64): setting a
    scalar field that no statement of the table reads changes no check. -/
theorem entriesOk_set (v : Vmsa) (name : String) (x n : Nat) (L : List Entry)
    (hn : ∀ e ∈ L, (e.1 = "seg" → e.2.2.2 ++ ".Selector" ≠ name ∧ e.2.2.2 ++ ".Attrib" ≠ name) ∧
      (e.1 = "byte8" ∨ e.1 = "resv64" → e.2.2.2 ≠ name))
    (h : entriesOk v n L) : entriesOk (v.set name x) n L := by
  intro e he
  obtain ⟨h1, h3⟩ := hn e he
  rw [← h e he]
  obtain ⟨kind, lo, hi, nm⟩ := e
  simp only at h1 h3
  unfold entryCheck
  simp only
  by_cases hseg : kind = "seg"
  · simp only [hseg, if_true, set_f_ne _ _ _ _ (h1 hseg).1, set_f_ne _ _ _ _ (h1 hseg).2]
  · simp only [hseg, if_false]
    by_cases hresv : kind = "resv"
    · simp only [hresv, if_true]; rfl
    · simp only [hresv, if_false]
      by_cases hb : kind = "byte8"
      · simp only [hb, if_true, set_f_ne _ _ _ _ (h3 (Or.inl hb))]
      · simp only [hb, if_false]
        by_cases hle : kind = "le"
        · simp only [hle, if_true]
        · simp only [hle, if_false]
          by_cases h64 : kind = "resv64"
          · simp only [h64, if_true, set_f_ne _ _ _ _ (h3 (Or.inr h64))]
          · simp only [h64, if_false]
            rfl

theorem ap_ok (rb : ResetBlock) : entriesOk (apVmsa rb) 4096 Spec.SnpLaunch.vmsaLayout :=
  entriesOk_set _ _ _ _ _ (by decide +kernel) (entriesOk_set _ _ _ _ _ (by decide +kernel) bsp_ok)

theorem putVmsa_bsp (L : List Entry) (n : Nat) (hL : L = Spec.SnpLaunch.vmsaLayout) (hn : n = Spec.SnpLaunch.sizeofVmsa) :
    putVmsa L n bspVmsa zeroPage = .ok (Spec.SnpLaunch.vmsaBytes Spec.SnpLaunch.bspState) := by
  rw [hL, hn, zeroPage_eq]
  exact putVmsa_spec_layout _ bsp_ok

theorem putVmsa_ap (L : List Entry) (n : Nat) (hL : L = Spec.SnpLaunch.vmsaLayout) (hn : n = Spec.SnpLaunch.sizeofVmsa)
    (rb : ResetBlock) :
    putVmsa L n (apVmsa rb) zeroPage = .ok (Spec.SnpLaunch.vmsaBytes (Spec.SnpLaunch.apState rb.addr)) := by
  rw [hL, hn, zeroPage_eq]
  exact putVmsa_spec_layout _ (ap_ok rb)

end GceTcb.Proofs.SnpVmsa
