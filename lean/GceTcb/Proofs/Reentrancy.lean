import GceTcb.Model.Reentrancy
import GceTcb.Proofs.Verify
/-
Helper lemmas for C09 (core-only): with empty write lists a step never changes the shared options and
its effect on the thread-local state does not depend on the shared options or the thread id; hence under
any schedule each thread's local state is the state of the same number of steps taken alone.
-/
namespace GceTcb.Reentrancy
open GceTcb GceTcb.Verify

variable {Cert Roots Time : Type}

/-- `iter f k a = f (f (… a))`, k times, unfolding at the outside. -/
def iter {α : Type} (f : α → α) : Nat → α → α
  | 0, a => a
  | k + 1, a => f (iter f k a)

/-- The thread-local effect of a step taken against the initial shared options. -/
def stepL (cfg : Cfg Cert Roots Time) (call : Call) (l : Local) : Local :=
  (step cfg 0 call (initShared cfg) l).2

theorem stepL_done (cfg : Cfg Cert Roots Time) (call : Call) (l : Local) (r : Res)
    (h : l.phase = .done r) : stepL cfg call l = l := by
  simp [stepL, step, h]

/-- A finished thread stays where it is. -/
theorem iter_done (cfg : Cfg Cert Roots Time) (call : Call) (l : Local) (k : Nat) (r : Res)
    (h : (iter (stepL cfg call) k l).phase = .done r) (d : Nat) :
    iter (stepL cfg call) (k + d) l = iter (stepL cfg call) k l := by
  induction d with
  | zero => rfl
  | succ d ih =>
    show stepL cfg call (iter (stepL cfg call) (k + d) l) = _
    rw [ih]
    exact stepL_done cfg call _ r h

theorem result_some (l : Local) (r : Res) (h : l.result = some r) : l.phase = .done r := by
  cases hp : l.phase <;> simp [Local.result, hp] at h
  rw [h]

theorem closureCallOpts_verifySigned (P : Prims Cert Roots Time) (e : Endorsement) (o : Options Roots Time)
    (m : Bytes) : verifySigned P e (closureCallOpts o m) = verifySigned P e o := rfl

section NoWrites
variable (cfg : Cfg Cert Roots Time) (hc : cfg.constructorWrites = []) (hw : cfg.closureWrites = [])
include hc hw

/-- With empty write lists a step leaves the shared options alone and acts on the thread-local state as `stepL`. -/
theorem step_noWrites (tid : Nat) (call : Call) (sh : Shared) (l : Local) :
    step cfg tid call sh l = (sh, stepL cfg call l) := by
  unfold stepL step
  cases hp : l.phase with
  | construct k => simp [hc]
  | start =>
    simp only []
    cases call.att with
    | none => simp [finish]
    | some a =>
      simp only []
      split <;> simp [finish]
  | fetch =>
    simp only []
    cases closureSerialized cfg.P cfg.familyID cfg.opts l.m call.serialized with
    | error c => simp [finish]
    | ok s => simp
  | store k => simp [hw]
  | verify =>
    simp only []
    split
    · simp [finish]
    · split <;> simp [finish]
  | compare => simp [finish, snpRead, hw]
  | done r => simp

/-- With empty write lists, after any schedule the shared options are the initial ones and thread `i` has taken
    `σ.count i` steps of its own (induction from the back of the schedule, where `iter` unfolds). -/
theorem runSched_spec {n : Nat} (calls : Fin n → Call) (σ : List (Fin n)) :
    (runSched cfg calls σ).shared = initShared cfg ∧
    ∀ i, (runSched cfg calls σ).locals i = iter (stepL cfg (calls i)) (σ.count i) initLocal := by
  rw [← List.reverse_reverse σ]
  induction σ.reverse with
  | nil => exact ⟨rfl, fun _ => rfl⟩
  | cons j τ ih =>
    have hrun : runSched cfg calls (j :: τ).reverse = stepThread cfg calls (runSched cfg calls τ.reverse) j := by
      simp [runSched, List.foldl_append]
    rw [hrun, List.reverse_cons]
    simp only [stepThread, step_noWrites cfg hc hw]
    refine ⟨ih.1, fun i => ?_⟩
    rw [List.count_append, List.count_singleton]
    by_cases hij : i = j
    · subst hij
      rw [if_pos rfl, ih.2, if_pos (beq_self_eq_true i)]
      rfl
    · rw [if_neg hij, ih.2, if_neg (by simpa using Ne.symm hij)]
      rfl

/-- Six steps alone (construct, start, fetch, store, verify, compare: one each when the write lists are empty) compute
    exactly the closure of the C01 model; `h1`–`h4` are the first four. -/
theorem iter_six_is_closure (call : Call) :
    (iter (stepL cfg call) 6 initLocal).result =
      some (snpClosure cfg.P cfg.familyID cfg.opts call.att call.serialized) := by
  simp only [iter, snpClosure]
  have h1 : stepL cfg call initLocal = { initLocal with phase := .start } := by
    simp [stepL, step, initLocal, hc]
  rw [h1]
  cases hatt : call.att with
  | none =>
    simp [stepL, step, initLocal, hatt, finish, Local.result]
  | some a =>
    by_cases hsz : a.measurement.length != measurementSize
    · simp [stepL, step, initLocal, hatt, finish, Local.result, hsz]
    · have h2 : stepL cfg call { initLocal with phase := .start } =
          { initLocal with phase := .fetch, m := a.measurement } := by
        simp [stepL, step, initLocal, hatt, hsz]
      rw [h2]
      simp only [hsz]
      cases hser : closureSerialized cfg.P cfg.familyID cfg.opts a.measurement call.serialized with
      | error c =>
        simp [stepL, step, initLocal, hser, finish, Local.result]
      | ok s =>
        have h3 : stepL cfg call { initLocal with phase := .fetch, m := a.measurement } =
            { initLocal with phase := .store 0, m := a.measurement, ser := s } := by
          simp [stepL, step, initLocal, hser]
        rw [h3]
        have h4 : stepL cfg call { initLocal with phase := .store 0, m := a.measurement, ser := s } =
            { initLocal with phase := .verify, m := a.measurement, ser := s } := by
          simp [stepL, step, initLocal, hw]
        rw [h4]
        simp only [closureCallOpts_endorsement]
        cases hoe : cfg.opts.endorsement with
        | some e =>
          simp only [endorsementProto, closureCallOpts_verifySigned]
          cases hv : verifySigned cfg.P e cfg.opts with
          | panic x => simp [stepL, step, initLocal, hoe, hv, finish, Local.result]
          | err x => simp [stepL, step, initLocal, hoe, hv, finish, Local.result]
          | ok g =>
            simp [stepL, step, hoe, hv, finish, Local.result, snpRead, hw]
            -- the two option records agree on the fields `afterSignature` reads
            rfl
        | none =>
          simp only [endorsement]
          cases hu : cfg.P.unmarshalEndorsement (s.getD []) with
          | none => simp [stepL, step, initLocal, hoe, hu, finish, Local.result]
          | some e =>
            simp only [endorsementProto, closureCallOpts_verifySigned]
            cases hv : verifySigned cfg.P e cfg.opts with
            | panic x => simp [stepL, step, initLocal, hoe, hu, hv, finish, Local.result]
            | err x => simp [stepL, step, initLocal, hoe, hu, hv, finish, Local.result]
            | ok g =>
              simp [stepL, step, hoe, hu, hv, finish, Local.result, snpRead, hw]
              rfl

/-- After six steps alone the invocation is done, and further steps change nothing. -/
theorem iter_stable (call : Call) (k : Nat) (hk : 6 ≤ k) :
    iter (stepL cfg call) k initLocal = iter (stepL cfg call) 6 initLocal := by
  obtain ⟨d, rfl⟩ : ∃ d, k = 6 + d := ⟨k - 6, by omega⟩
  exact iter_done cfg call initLocal 6 _ (result_some _ _ (iter_six_is_closure cfg hc hw call)) d

theorem runAlone_eq (call : Call) :
    runAlone cfg call = (iter (stepL cfg call) 6 initLocal).result := by
  have hcount : (List.replicate (fuel cfg) (0 : Fin 1)).count 0 = 7 := by simp [fuel, hc, hw]
  rw [runAlone, (runSched_spec cfg hc hw (fun _ => call) _).2 0, hcount, iter_stable cfg hc hw call 7 (by omega)]

end NoWrites

/-- The endorsement an invocation with report `a` is checked against: the pre-supplied one, else the
    serialized argument, else the blob fetched for the report's measurement. -/
def usedEndorsement (cfg : Cfg Cert Roots Time) (call : Call) (a : Attestation) : Option Endorsement :=
  match cfg.opts.endorsement with
  | some e => some e
  | none =>
    match closureSerialized cfg.P cfg.familyID cfg.opts a.measurement call.serialized with
    | .ok s => cfg.P.unmarshalEndorsement (s.getD [])
    | .error _ => none

/-- Acceptance by the closure means the report's own measurement passed `verify.SNP` against the golden
    measurement of the endorsement used, for the configured VMSA count. -/
theorem snpClosure_accept_listed (cfg : Cfg Cert Roots Time) (call : Call) (a : Attestation)
    (hatt : call.att = some a)
    (h : snpClosure cfg.P cfg.familyID cfg.opts call.att call.serialized = accept) :
    ∃ e g, usedEndorsement cfg call a = some e ∧ cfg.P.unmarshalGolden e.payload = some g ∧
      snp g ⟨some a.measurement, (cfg.opts.snp.getD ⟨none, 0⟩).expectedLaunchVMSAs⟩ = none := by
  obtain ⟨a', e, ha', hacc, hsel⟩ := snpClosure_accept cfg.P cfg.familyID cfg.opts call.att call.serialized h
  cases hatt.symm.trans ha'
  obtain ⟨g, hg, hafter⟩ := endorsementProto_ok cfg.P e _ hacc
  refine ⟨e, g, ?_, (verifySigned_ok cfg.P e _ g hg).1, ?_⟩
  · rcases hsel with he | ⟨he, s, hs, hu⟩
    · simp [usedEndorsement, he]
    · simp [usedEndorsement, he, hs, hu]
  · simp only [afterSignature] at hafter
    split at hafter
    · cases hafter
    · simp only [closureCallOpts] at hafter
      split at hafter
      · cases hafter
      · next hnone => exact hnone

/-! ### A concrete world for the non-vacuity examples and witnesses of the Props module -/

namespace Example
def endorsedMeasurement : Bytes := List.replicate 48 7
def otherMeasurement : Bytes := List.replicate 48 8

def golden : Golden :=
  { timestamp := some ⟨1725148800, 0⟩, clSpec := 1234, commit := [], cert := [0xC0], digest := [],
    sevSnp := some ⟨[], [(1, endorsedMeasurement)]⟩, tdx := none, other := [] }

def P : Prims Nat String Nat :=
  { unmarshalEndorsement := fun b => if b == [0xE0] then some ⟨[0xA0], [0x5A]⟩ else none
    unmarshalGolden := fun b => if b == [0xA0] then some golden else none
    timeFromNil := none
    parseCert := fun b => if b == [0xC0] then some 1 else none
    verifyChain := fun c r t => c == 1 && r == "roots" && t == 150
    checkSigPss256 := fun c m s => c == 1 && m == [0xA0] && s == [0x5A]
    objectURL := fun f _ => f
    loadRootPool := fun _ => none
    sevPolicyOptions := fun _ _ _ _ => none
    snpBaseChecks := fun _ _ => false
    tdxPolicyOptions := fun _ _ _ _ => none
    tdxQuoteChecks := fun _ _ => false
    tdxExtractEndorsement := fun _ => none }

def opts : Options String Nat :=
  { snp := none, roots := some "roots", expectedUefiSha384 := [], now := 150, endorsement := none, getter := none }

/-- the source before the fix: the constructor allocates opts.SNP, the closure stores the measurement there -/
def oldCfg : Cfg Nat String Nat := ⟨P, gceUefiFamilyID, opts, [snpAlloc], [measurementStore]⟩
/-- the source after the fix -/
def newCfg : Cfg Nat String Nat := ⟨P, gceUefiFamilyID, opts, [], []⟩

/-- thread 0 validates an UNENDORSED report, thread 1 an endorsed one, with the same genuine endorsement -/
def calls : Fin 2 → Call := fun i =>
  if i = 0 then ⟨some ⟨1, otherMeasurement, []⟩, some [0xE0]⟩ else ⟨some ⟨2, endorsedMeasurement, []⟩, some [0xE0]⟩

/-- thread 0 stores its (bad) measurement, thread 1 then stores its (good) one, thread 0 verifies and
    compares — against thread 1's measurement; both then run to completion -/
def badSchedule : List (Fin 2) :=
  [0, 0, 0, 0, 0, 1, 1, 1, 1, 1, 0, 0, 0, 0] ++ List.replicate 9 0 ++ List.replicate 9 1
end Example

end GceTcb.Reentrancy
