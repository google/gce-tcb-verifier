import GceTcb.Model.ProtoWire
/-
Go maps as sorted association lists: `mapSet` keeps the list strictly sorted by key, so `normMap` yields the one
strictly sorted list with the entries that survive — the identity on sorted lists, idempotent, and the same for
every order in which the entries of a duplicate-free list are presented.  `canonSevSnp` and `canonGolden`, which
apply it to the measurement map, are therefore idempotent.  Core-only.
-/
namespace GceTcb.ProtoWire
open GceTcb

/-- strictly ascending keys: the canonical representative of a Go map -/
def SortedKeys (l : List (Nat × Bytes)) : Prop := l.Pairwise (fun a b => a.1 < b.1)

theorem sortedKeys_nodup (l : List (Nat × Bytes)) (h : SortedKeys l) : (l.map (·.1)).Nodup :=
  List.pairwise_map.mpr (h.imp Nat.ne_of_lt)

theorem sorted_ext (a b : List (Nat × Bytes)) (ha : SortedKeys a) (hb : SortedKeys b) (h : ∀ q, q ∈ a ↔ q ∈ b) :
    a = b :=
  have nodup : ∀ {l : List (Nat × Bytes)}, SortedKeys l → l.Nodup := fun hl =>
    List.Pairwise.imp (S := (· ≠ ·)) (fun hlt e => Nat.lt_irrefl _ (e ▸ hlt)) hl
  List.Perm.eq_of_pairwise (fun _ _ _ _ h1 h2 => absurd h1 (Nat.lt_asymm h2)) ha hb
    ((List.perm_ext_iff_of_nodup (nodup ha) (nodup hb)).mpr h)

theorem mem_mapSet (l : List (Nat × Bytes)) (k : Nat) (v : Bytes) :
    ∀ p ∈ mapSet l k v, p = (k, v) ∨ p ∈ l := by
  induction l with
  | nil => intro p hp; exact Or.inl (List.mem_singleton.mp hp)
  | cons a t ih =>
    intro p hp
    unfold mapSet at hp
    split at hp
    · exact List.mem_cons.mp hp
    · split at hp
      · exact (List.mem_cons.mp hp).imp_right (List.mem_cons_of_mem _)
      · rcases List.mem_cons.mp hp with rfl | h
        · exact Or.inr List.mem_cons_self
        · exact (ih p h).imp_right (List.mem_cons_of_mem _)

theorem mem_mapSet_of (l : List (Nat × Bytes)) (k : Nat) (v : Bytes) (q : Nat × Bytes)
    (h : q = (k, v) ∨ (q ∈ l ∧ q.1 ≠ k)) : q ∈ mapSet l k v := by
  induction l with
  | nil =>
    rcases h with rfl | ⟨hq, _⟩
    · exact List.mem_singleton.mpr rfl
    · cases hq
  | cons a t ih =>
    unfold mapSet
    split
    · exact List.mem_cons.mpr (h.imp_right (·.1))
    · split
      · next heq =>
        rcases h with rfl | ⟨hq, hne⟩
        · exact List.mem_cons_self
        · rcases List.mem_cons.mp hq with rfl | hq'
          · exact absurd heq.symm hne
          · exact List.mem_cons_of_mem _ hq'
      · rcases h with rfl | ⟨hq, hne⟩
        · exact List.mem_cons_of_mem _ (ih (Or.inl rfl))
        · rcases List.mem_cons.mp hq with rfl | hq'
          · exact List.mem_cons_self
          · exact List.mem_cons_of_mem _ (ih (Or.inr ⟨hq', hne⟩))

theorem mapSet_sorted (l : List (Nat × Bytes)) (k : Nat) (v : Bytes) (h : SortedKeys l) :
    SortedKeys (mapSet l k v) := by
  induction l with
  | nil => exact List.pairwise_singleton _ _
  | cons a t ih =>
    obtain ⟨h1, h2⟩ := List.pairwise_cons.mp h
    unfold mapSet
    split
    · next hlt =>
      refine List.pairwise_cons.mpr ⟨fun p hp => ?_, h⟩
      rcases List.mem_cons.mp hp with rfl | hp'
      · exact hlt
      · exact Nat.lt_trans hlt (h1 p hp')
    · split
      · next heq => exact List.pairwise_cons.mpr ⟨fun p hp => heq ▸ h1 p hp, h2⟩
      · next hlt hne =>
        refine List.pairwise_cons.mpr ⟨fun p hp => ?_, ih h2⟩
        rcases mem_mapSet t k v p hp with rfl | hp'
        · exact Nat.lt_of_le_of_ne (Nat.le_of_not_lt hlt) (Ne.symm hne)
        · exact h1 p hp'

theorem foldl_mapSet_inv (l : List (Nat × Bytes)) : ∀ (acc : List (Nat × Bytes)), SortedKeys acc →
    SortedKeys (l.foldl (fun a p => mapSet a p.1 p.2) acc) ∧
    ∀ p ∈ l.foldl (fun a p => mapSet a p.1 p.2) acc, p ∈ acc ∨ p ∈ l := by
  induction l with
  | nil => intro acc h; exact ⟨h, fun p hp => Or.inl hp⟩
  | cons x xs ih =>
    intro acc h
    obtain ⟨h1, h2⟩ := ih (mapSet acc x.1 x.2) (mapSet_sorted acc x.1 x.2 h)
    refine ⟨h1, fun p hp => ?_⟩
    rcases h2 p hp with h3 | h3
    · rcases mem_mapSet acc x.1 x.2 p h3 with rfl | h4
      · exact Or.inr List.mem_cons_self
      · exact Or.inl h4
    · exact Or.inr (List.mem_cons_of_mem _ h3)

theorem normMap_sortedKeys (l : List (Nat × Bytes)) : SortedKeys (normMap l) :=
  (foldl_mapSet_inv l [] List.Pairwise.nil).1

theorem mem_normMap (l : List (Nat × Bytes)) : ∀ p ∈ normMap l, p ∈ l :=
  fun p hp => ((foldl_mapSet_inv l [] List.Pairwise.nil).2 p hp).resolve_left List.not_mem_nil

theorem mem_foldl_mapSet (l : List (Nat × Bytes)) : ∀ (acc : List (Nat × Bytes)) (q : Nat × Bytes),
    (l.map (·.1)).Nodup → (q ∈ l ∨ (q ∈ acc ∧ q.1 ∉ l.map (·.1))) →
    q ∈ l.foldl (fun a p => mapSet a p.1 p.2) acc := by
  induction l with
  | nil => intro acc q _ h; exact h.elim (fun h => nomatch h) (·.1)
  | cons x xs ih =>
    intro acc q hn h
    obtain ⟨hx, hn'⟩ := List.nodup_cons.mp hn
    refine ih _ q hn' ?_
    rcases h with h | ⟨hq, hk⟩
    · rcases List.mem_cons.mp h with rfl | h'
      · exact Or.inr ⟨mem_mapSet_of acc _ _ _ (Or.inl rfl), hx⟩
      · exact Or.inl h'
    · obtain ⟨hk1, hk2⟩ := not_or.mp (mt List.mem_cons.mpr hk)
      exact Or.inr ⟨mem_mapSet_of acc x.1 x.2 q (Or.inr ⟨hq, hk1⟩), hk2⟩

/-- without duplicate keys nothing is overwritten: the canonical form has exactly the entries given -/
theorem mem_normMap_iff (l : List (Nat × Bytes)) (hn : (l.map (·.1)).Nodup) (q : Nat × Bytes) :
    q ∈ normMap l ↔ q ∈ l :=
  ⟨mem_normMap l q, fun h => mem_foldl_mapSet l [] q hn (Or.inl h)⟩

theorem normMap_eq_self_of_sorted (l : List (Nat × Bytes)) (h : SortedKeys l) : normMap l = l :=
  sorted_ext _ _ (normMap_sortedKeys l) h (mem_normMap_iff l (sortedKeys_nodup l h))

/-- Go's map iteration order is irrelevant: every permutation of a duplicate-free entry list denotes
    the same map. -/
theorem normMap_perm (l l' : List (Nat × Bytes)) (hn : (l.map (·.1)).Nodup) (hp : l'.Perm l) :
    normMap l' = normMap l := by
  refine sorted_ext _ _ (normMap_sortedKeys l') (normMap_sortedKeys l) fun q => ?_
  rw [mem_normMap_iff l' ((hp.map (·.1)).nodup_iff.mpr hn), mem_normMap_iff l hn]
  exact hp.mem_iff

theorem normMap_idem (l : List (Nat × Bytes)) : normMap (normMap l) = normMap l :=
  normMap_eq_self_of_sorted _ (normMap_sortedKeys l)

theorem canonSevSnp_idem (s : WSevSnp) : canonSevSnp (canonSevSnp s) = canonSevSnp s := by
  simp [canonSevSnp, normMap_idem]

theorem canonGolden_idem (g : WGolden) : canonGolden (canonGolden g) = canonGolden g := by
  cases g with
  | mk ts cl co ce di cab sev tdx unk =>
    cases sev with
    | none => rfl
    | some s => simp [canonGolden, canonSevSnp_idem]

end GceTcb.ProtoWire
