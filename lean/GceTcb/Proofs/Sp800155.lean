import GceTcb.Model.Sp800155
/-
Helper lemmas for C16: every reader of the SP800-155 Event3 decoder inverts the corresponding
writer, so a marshalled event parses back to itself. Core-only.
-/
namespace GceTcb.Sp800155
open GceTcb GceTcb.Codec GceTcb.Extract

theorem efiSwap_length (g : Bytes) : (efiSwap g).length = g.length := by
  unfold efiSwap
  split <;> rfl

theorem efiSwap_involutive (g : Bytes) : efiSwap (efiSwap g) = g := by
  fun_cases efiSwap g
  · rfl
  · next h => exact efiSwap.eq_2 g h

theorem rimUUID_length (r : Bytes) : (rimUUID r).length = r.length := by
  unfold rimUUID
  split
  · simp only [List.length_cons]
  · rfl

theorem readU32_leBytes (v : Nat) (rest : Bytes) (h : v < 2 ^ 32) :
    readU32 (leBytes 4 v ++ rest) = some (v, rest) := by
  unfold readU32
  have hl : ¬ (leBytes 4 v ++ rest).length < 4 := by simp
  rw [if_neg hl, List.take_left' (by simp), List.drop_left' (by simp), leVal_leBytes_of_lt 4 v (by simpa using h)]

theorem readGuid_swap (g rest : Bytes) (h : g.length = 16) :
    readGuid (efiSwap g ++ rest) = some (g, rest) := by
  unfold readGuid
  have hl := (efiSwap_length g).trans h
  have : ¬ (efiSwap g ++ rest).length < 16 := by simp [hl]
  rw [if_neg this, List.take_left' hl, List.drop_left' hl, efiSwap_involutive g]

theorem readN_exact (d rest : Bytes) : readN d.length (d ++ rest) = some (d, rest) := by
  unfold readN
  cases d with
  | nil => simp
  | cons x xs =>
    rw [if_neg (by simp), if_neg (by simp), List.take_left' rfl, List.drop_left' rfl]

theorem readCStr_cstr (d s rest : Bytes) (h : cstrBytes d = some s) : readCStr (s ++ rest) = some (d, rest) := by
  unfold cstrBytes at h
  split at h
  · simp at h
  · next hl =>
    simp only [Option.some.injEq] at h
    subst h
    have hsz : (UInt8.ofNat (d.length + 1)).toNat = (d ++ [0]).length := by
      simp only [List.length_append, List.length_cons, List.length_nil, UInt8.toNat_ofNat']
      omega
    simp only [readCStr, List.cons_append, hsz, readN_exact]
    simp

theorem readArr_arr (d rest : Bytes) (h : d.length < 2 ^ 32) : readArr (arrBytes d ++ rest) = some (d, rest) := by
  unfold readArr arrBytes
  rw [List.append_assoc, readU32_leBytes _ _ h]
  exact readN_exact d rest

theorem arrBytes_length (d : Bytes) : (arrBytes d).length = 4 + d.length := by
  simp [arrBytes]

/-- An event whose numeric fields fit 32 bits and whose GUID has 16 bytes parses back from its
    marshalled form (signature stripped by `parseEventData`) to exactly itself. -/
theorem parse_marshal (e : Event3) (bs : Bytes) (hm : marshalEvent3 e = some bs)
    (hg : e.guid.length = 16) (h1 : e.platformManufacturerID < 2 ^ 32) (h2 : e.firmwareManufacturerID < 2 ^ 32)
    (h3 : e.rimLocatorType < 2 ^ 32) (h4 : e.platformCertLocatorType < 2 ^ 32) :
    parseEventData bs = some e := by
  unfold marshalEvent3 at hm
  split at hm
  · next s1 s2 s3 s4 s5 c1 c2 c3 c4 c5 =>
    split at hm
    · simp at hm
    · next hlen =>
      simp only [Option.some.injEq] at hm
      have hsig : Gen.Names.event3Signature.length = 16 := rfl
      -- only "the HOB data limit fits 32 bits" is used, whatever its regenerated value
      have hmax : Gen.Names.maxGUIDHOBDataSize < 2 ^ 32 := by decide
      have hloc : e.rimLocator.length < 2 ^ 32 := by
        simp only [List.length_append, arrBytes_length] at hlen
        omega
      have hcl : e.platformCertLocator.length < 2 ^ 32 := by
        simp only [List.length_append, arrBytes_length] at hlen
        omega
      subst hm
      unfold parseEventData
      rw [List.take_left' hsig, if_pos rfl, List.drop_left' hsig]
      unfold unmarshalEvent3
      simp only [readU32_leBytes _ _ h1, readGuid_swap _ _ hg, readCStr_cstr _ _ _ c1, readCStr_cstr _ _ _ c2,
        readCStr_cstr _ _ _ c3, readCStr_cstr _ _ _ c4, readU32_leBytes _ _ h2, readCStr_cstr _ _ _ c5,
        readU32_leBytes _ _ h3, readArr_arr _ _ hloc, readU32_leBytes _ _ h4]
      have : arrBytes e.platformCertLocator = arrBytes e.platformCertLocator ++ [] := by simp
      rw [this, readArr_arr _ _ hcl]
      simp
  · simp at hm

end GceTcb.Sp800155
