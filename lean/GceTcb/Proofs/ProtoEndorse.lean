import GceTcb.Proofs.ProtoWireMsg
import GceTcb.Proofs.ProtoMap
import GceTcb.Proofs.Endorse
import GceTcb.Model.ProtoEndorse
/-
What the wire codec needs to know of the document the signer builds (`Model/Endorse.lean`): SignDoc changes only
certificate, CA bundle and timestamp; the measurement map of a measured document has the requested VMSA counts
as keys, in ascending order; TDX rows carry uint32 RAM sizes.  `reorderGolden` re-lists the measurement map the
way Go's map iteration may, and `canonGolden` undoes it; both keep `WfGolden`.  Core-only.
-/
namespace GceTcb.ProtoEndorse
open GceTcb GceTcb.ProtoWire GceTcb.Endorse

theorem signDoc_inv (keys : Option Keys) (ts : Int × Nat) (doc d : Golden) (sig : Bytes)
    (h : signDoc keys ts doc = .ok (d, sig)) :
    ∃ cert bundle, d = { doc with cert := cert, caBundle := bundle, timestamp := some ts } := by
  -- every exit of SignDoc but the last is an error
  unfold signDoc signDocEff at h
  split at h
  · cases h
  split at h
  · cases h
  split at h
  · cases h
  split at h
  · cases h
  · cases h
  split at h
  · cases h
  · cases h
  split at h
  · cases h
  · cases h
  dsimp only at h
  split at h
  · cases h
  · cases h
  · cases h
    exact ⟨_, _, rfl⟩

theorem vmsaCounts_sorted (T : Tables) (r : SnpRequest) (hT : T.vmsaCounts.Pairwise (· < ·)) :
    (vmsaCounts T r).Pairwise (· < ·) := by
  unfold vmsaCounts
  split
  · exact hT
  · simp

/-- the measurement map of a measured document has exactly the requested counts as keys, in order -/
theorem snp_keys (P : Prims) (T : Tables) (c : Ctx) (hT : T.vmsaCounts.Pairwise (· < ·)) (o : Option SnpDoc)
    (h : snpPart P T c = .ok o) (s : SnpDoc) (hs : o = some s) :
    ∃ r, c.snp = some r ∧ s.measurements.map (·.1) = vmsaCounts T r ∧ s.svn = r.svn ∧ s.policy = T.policy := by
  cases hc : c.snp with
  | none => unfold snpPart at h; rw [hc] at h; cases h; cases hs
  | some r =>
    obtain ⟨fam, iid, lds, _, _, hl, ho⟩ := snpPart_some P T c r hc o h
    rw [hs] at ho
    simp only [Option.some.injEq] at ho
    subst ho
    have := (generateLDs_ok P c.image r.product (vmsaCounts T r) [] lds
      ((vmsaCounts_sorted T r hT).imp Nat.ne_of_lt) (by simp) hl).1
    exact ⟨r, rfl, by simpa using this, rfl, rfl⟩

/-- TDX rows carry a uint32 RAM size: 0 for the default configuration, a shape's size mod 2^32 otherwise -/
theorem generateMRTDs_ram (P : Prims) (T : Tables) (img : Bytes) (early : Bool) (ss : List String)
    (rows : List TdxRow) (h : generateMRTDs P T img early ss [] = .ok rows) : ∀ r ∈ rows, r.ramGib < 4294967296 := by
  obtain ⟨tail, rfl, hp⟩ := generateMRTDs_ok P T img early ss [] rows h
  clear h
  generalize Spec.tdxConfigs ss early = cfgs at hp
  induction hp with
  | nil => intro r hr; cases hr
  | cons hab _ ih =>
    intro r hr
    rcases List.mem_cons.mp hr with rfl | hr'
    · have hl := hab.1
      unfold Spec.LabelsFor at hl
      split at hl
      · rw [hl.1]; decide
      · obtain ⟨⟨sz, _, e⟩, _⟩ := hl; rw [e]; exact Nat.mod_lt _ (by decide)
      · obtain ⟨⟨sz, _, e⟩, _⟩ := hl; rw [e]; exact Nat.mod_lt _ (by decide)
    · exact ih r hr'

/-- every value of a request fits its Go type (uint32 / uint64 / int64 / int32 fields) -/
structure GoTyped (T : Tables) (c : Ctx) (ts : Int × Nat) : Prop where
  clSpec : c.clSpec < 18446744073709551616
  snp : ∀ r, c.snp = some r → r.svn < 4294967296 ∧ r.launchVmsas < 4294967296
  tdx : ∀ t, c.tdx = some t → t.svn < 4294967296
  policy : T.policy < 18446744073709551616
  counts : ∀ k ∈ T.vmsaCounts, k < 4294967296
  seconds : -9223372036854775808 ≤ ts.1 ∧ ts.1 < 9223372036854775808
  nanos : ts.2 < 2147483648

theorem wf_canonSevSnp (s : WSevSnp) (h : WfSevSnp s) : WfSevSnp (canonSevSnp s) :=
  ⟨h.svn, h.policy, fun p hp => h.keys p (mem_normMap _ p hp), h.no_unknown⟩

theorem wf_canonGolden (g : WGolden) (h : WfGolden g) : WfGolden (canonGolden g) := by
  refine ⟨h.clSpec, h.timestamp, ?_, h.tdx, h.no_unknown⟩
  intro s hs
  simp only [canonGolden, Option.map_eq_some_iff] at hs
  obtain ⟨s0, h0, rfl⟩ := hs
  exact wf_canonSevSnp s0 (h.sevSnp s0 h0)

/-- the document with its measurement map re-listed by `σ` (Go's map iteration order) -/
def reorderGolden (σ : List (Nat × Bytes) → List (Nat × Bytes)) (w : WGolden) : WGolden :=
  { w with sevSnp := w.sevSnp.map (fun s => { s with measurements := σ s.measurements }) }

theorem wf_reorderGolden (σ : List (Nat × Bytes) → List (Nat × Bytes)) (hσ : ∀ l, (σ l).Perm l) (w : WGolden)
    (h : WfGolden w) : WfGolden (reorderGolden σ w) := by
  refine ⟨h.clSpec, h.timestamp, ?_, h.tdx, h.no_unknown⟩
  intro s hs
  simp only [reorderGolden, Option.map_eq_some_iff] at hs
  obtain ⟨s0, h0, rfl⟩ := hs
  have h1 := h.sevSnp s0 h0
  exact ⟨h1.svn, h1.policy, fun p hp => h1.keys p ((hσ _).mem_iff.mp hp), h1.no_unknown⟩

theorem canon_reorderGolden (σ : List (Nat × Bytes) → List (Nat × Bytes)) (hσ : ∀ l, (σ l).Perm l) (w : WGolden)
    (hc : canonGolden w = w) : canonGolden (reorderGolden σ w) = w := by
  cases w with
  | mk ts cl co ce di cab sev tdx unk =>
    cases sev with
    | none => rfl
    | some s =>
      have hm : normMap s.measurements = s.measurements :=
        congrArg (fun w : WGolden => (w.sevSnp.map WSevSnp.measurements).getD []) hc
      have := normMap_perm s.measurements (σ s.measurements) (sortedKeys_nodup _ (hm ▸ normMap_sortedKeys _)) (hσ _)
      simp only [canonGolden, reorderGolden, Option.map_some, canonSevSnp, this, hm]

end GceTcb.ProtoEndorse
