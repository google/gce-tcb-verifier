import GceTcb.Proofs.SnpDigest
/-
C08 (SEV half) — sev.LaunchDigest / sev.UnsignedSnp never panic, for every hash function, every launch
option (any vCPU count, any product value) and every byte string; explicit bounds on the loop iterations.
The pages the image's metadata declares are bounded by an absolute constant: descriptors carry 32-bit addresses
and lengths; validateSections accepts only non-empty whole-page lengths and pairwise disjoint ranges (ends in
64 bits).  Hence the ranges lie side by side inside [0, 2^33 − 4097) and declare at most 2^21 − 2 pages.
-/
namespace GceTcb.Proofs.SnpBounds
open GceTcb GceTcb.Codec GceTcb.GuidTable GceTcb.SevMeta GceTcb.SevLd
open GceTcb.Codecs (ResetBlock zeros)
open GceTcb.Proofs.SnpSections (Sec validateSections_no_panic)
open GceTcb.Proofs.SnpChain
open GceTcb.Proofs.SnpDigest (CfgIsSpec)
open GceTcb.Proofs.SnpVmsa (bspVmsa apVmsa putVmsa_bsp putVmsa_ap)

theorem updatePages_no_panic (H : Bytes → Bytes) (pt gpa : Nat) (data : Bytes) (k off : Nat) (d : Bytes)
    (hfit : off + 4096 * k ≤ data.length) (p : String) : updatePages H pt gpa data k off d ≠ .panic p := by
  induction k generalizing off d with
  | zero => simp [updatePages]
  | succ k ih =>
    rw [updatePages, slice_page _ data off k hfit]
    exact ih (off + 4096) _ (by omega)

/-- go: SnpMeasurement.Update; the alignment check makes the page loop fit the data -/
theorem update_no_panic (H : Bytes → Bytes) (high : Nat) (d : Bytes) (gpa : Nat) (data : Bytes) (pt : Nat) (p : String) :
    update H high d gpa data pt ≠ .panic p := by
  unfold update
  cases hc : checkAlign high gpa (data.length % 2 ^ 32) with
  | some c => simp
  | none =>
    simp only
    have := ((checkAlign_none_iff _ _ _).mp hc).2.1
    exact updatePages_no_panic H pt gpa data _ 0 d (by omega) p

theorem measureVmsa_no_panic (H : Bytes → Bytes) (c : Cfg) (high : Nat) (vs : List Vmsa)
    (hv : ∀ v ∈ vs, ∃ page, putVmsa c.layout c.sizeofVmsa v zeroPage = .ok page) (d : Bytes) (p : String) :
    measureVmsa H c high vs d ≠ .panic p := by
  induction vs generalizing d with
  | nil => simp [measureVmsa]
  | cons v rest ih =>
    obtain ⟨page, hp⟩ := hv v List.mem_cons_self
    rw [measureVmsa, measureOneVmsa, hp]
    rcases Outcome.ok_or_err (update_no_panic H high d high page pageTypeVmsa) with ⟨e, hu⟩ | ⟨d', hu⟩ <;> simp only [hu]
    · simp
    · exact ih (fun x hx => hv x (List.mem_cons_of_mem _ hx)) d'

theorem vmsas_ok (c : Cfg) (hc : CfgIsSpec c) (rb : ResetBlock) (n : Nat) :
    ∀ v ∈ bspVmsa :: List.replicate n (apVmsa rb), ∃ page, putVmsa c.layout c.sizeofVmsa v zeroPage = .ok page := by
  intro v hv
  rcases List.mem_cons.mp hv with rfl | hv
  · exact ⟨_, putVmsa_bsp _ _ hc.layout hc.size⟩
  · rw [List.eq_of_mem_replicate hv]
    exact ⟨_, putVmsa_ap _ _ hc.layout hc.size rb⟩

theorem launchDigestBody_no_panic (H : Bytes → Bytes) (c : Cfg) (hc : CfgIsSpec c) (o : Opts) (hv : ¬ o.vcpus < 1)
    (fw : Bytes) (p : String) : launchDigestBody H c o fw ≠ .panic p := by
  unfold launchDigestBody
  rcases SnpTotal.extractFromFirmware_tt fw with ⟨e, he⟩ | ⟨rb, secs, hp, _⟩
  · rw [he]; simp
  simp only [hp, measureUefi, measureZeroContentUefiPages, Option.getD_some]
  rcases Outcome.ok_or_err (update_no_panic H (productHigh (c.width o.product)) zeros48 (romBase fw.length) fw pageTypeNormal)
    with ⟨e, hu⟩ | ⟨d0, hu⟩ <;> simp only [hu]
  · simp
  rcases Outcome.ok_or_err (validateSections_no_panic secs) with ⟨e, hvs⟩ | ⟨u, hvs⟩ <;> simp only [hvs]
  · simp
  rcases (SnpAnyProduct.measureSections_total H (productHigh (c.width o.product)) secs d0).cases
    with ⟨e, hms⟩ | ⟨d1, hms, _⟩ <;> simp only [hms]
  · simp
  rw [SnpDigest.prepareVmsas_eq c.template hc.template o.vcpus (by omega) rb]
  exact measureVmsa_no_panic H c _ _ (vmsas_ok c hc rb _) d1 p

theorem launchDigest_no_panic (H : Bytes → Bytes) (c : Cfg) (hc : CfgIsSpec c) (o : Opts) (fw : Bytes) (p : String) :
    launchDigest H c o fw ≠ .panic p := by
  unfold launchDigest
  split
  · simp
  · rename_i hv
    split
    · simp
    · exact launchDigestBody_no_panic H c hc o hv fw p

theorem launchDigestOld_no_panic (H : Bytes → Bytes) (c : Cfg) (hc : CfgIsSpec c) (o : Opts) (fw : Bytes) (p : String) :
    launchDigestOld H c o fw ≠ .panic p := by
  unfold launchDigestOld
  split
  · simp
  · rename_i hv
    exact launchDigestBody_no_panic H c hc o hv fw p

/-- go: sev.generateAllPossibleLDs -/
theorem generateLDs_total (H : Bytes → Bytes) (c : Cfg) (hc : CfgIsSpec c) (product : Nat) (fw : Bytes) (counts : List Nat) :
    (generateLDs H c product fw counts).Total fun ds =>
      ds.map (·.1) = counts ∧ ∀ p ∈ ds, launchDigest H c ⟨(p.1 : Nat), product⟩ fw = .ok p.2 := by
  induction counts with
  | nil => exact ⟨rfl, fun _ h => nomatch h⟩
  | cons n rest ih =>
    rw [generateLDs]
    cases hl : launchDigest H c ⟨n, product⟩ fw with
    | panic q => exact absurd hl (launchDigest_no_panic H c hc _ fw q)
    | err e => trivial
    | ok d =>
      rcases ih.cases with ⟨e, hr⟩ | ⟨ds, hr, h1, h2⟩ <;> simp only [hr]
      · trivial
      · exact ⟨by simp [h1], List.forall_mem_cons.mpr ⟨hl, h2⟩⟩

theorem unsignedSnp_no_panic (H : Bytes → Bytes) (c : Cfg) (hc : CfgIsSpec c) (all : List Nat) (familyOk imageOk : Bool)
    (launchVmsas product : Nat) (fw : Bytes) (p : String) :
    unsignedSnp H c all familyOk imageOk launchVmsas product fw ≠ .panic p := by
  unfold unsignedSnp
  split
  · simp
  · split
    · simp
    · exact (generateLDs_total H c hc product fw _).no_panic p

/-- pages a descriptor list declares (one more per descriptor than `length/4096`, for the ceiling) -/
def declaredPages (secs : List Sec) : Nat := (secs.map fun s => s.length / 4096 + 1).sum

theorem measureSectionsTicks_le (high : Nat) (secs : List Sec) (g : Sec → Nat)
    (hg : ∀ s ∈ secs, tripCount s.address ((s.address + s.length) % 2 ^ 64) ≤ g s) :
    measureSectionsTicks high secs ≤ secs.length + (secs.map g).sum := by
  induction secs with
  | nil => simp [measureSectionsTicks]
  | cons s rest ih =>
    have hs := hg s List.mem_cons_self
    have ih' := ih (fun x hx => hg x (List.mem_cons_of_mem _ hx))
    unfold measureSectionsTicks
    simp only [List.map_cons, List.sum_cons, List.length_cons]
    split
    · omega
    · split <;> omega

def declaredPagesOf (fw : Bytes) : Nat :=
  match extractFromFirmware true true fw with
  | .ok (_, some secs) => declaredPages secs
  | _ => 0

/-- `P` bounds the pages the section loop hashes; the loop is reached only once the image has parsed and
    validateSections has accepted its metadata. -/
theorem launchDigestTicks_le_of (c : Cfg) (o : Opts) (fw : Bytes) (P : Nat)
    (hP : ∀ rb secs, extractFromFirmware true true fw = .ok (some rb, some secs) → validateSections secs = .ok () →
      measureSectionsTicks (productHigh (c.width o.product)) secs ≤ secs.length + P) :
    launchDigestTicks c o fw ≤ fw.length / 2 + 4 + 2 * o.vcpus.toNat + P := by
  unfold launchDigestTicks
  split
  · omega
  split
  · omega
  unfold launchDigestBodyTicks
  have h1 := SnpTotal.extractFromFirmwareTicks_le true true fw
  rcases SnpTotal.extractFromFirmware_tt fw with ⟨e, he⟩ | ⟨rb, secs, hp, hl, _⟩
  · rw [he]; simp only; omega
  · have hP := hP rb secs hp
    rw [hp]
    simp only [Option.getD_some]
    -- the path on which every stage succeeds is the dearest; the arithmetic is done once, for it
    have hb : ∀ m, m ≤ secs.length + P →
        extractFromFirmwareTicks true true fw + ((fw.length + 4095) / 4096 + validateSectionsTicks secs +
          (m + (o.vcpus.toNat - 1 + o.vcpus.toNat))) ≤ fw.length / 2 + 4 + 2 * o.vcpus.toNat + P := by
      intro m hm; unfold validateSectionsTicks; omega
    clear h1 hl
    generalize extractFromFirmwareTicks true true fw = a at hb ⊢
    generalize (fw.length + 4095) / 4096 + validateSectionsTicks secs = r at hb ⊢
    generalize fw.length / 2 + 4 + 2 * o.vcpus.toNat + P = R at hb ⊢
    have hb0 := hb 0 (Nat.zero_le _)
    split
    · split
      · have hm := hb _ (hP ‹_›)
        split
        · exact hm
        · rw [Nat.add_zero]; omega
      · omega
    · omega

theorem launchDigestTicks_le (c : Cfg) (o : Opts) (fw : Bytes) :
    launchDigestTicks c o fw ≤ fw.length / 2 + 4 + 2 * o.vcpus.toNat + declaredPagesOf fw := by
  refine launchDigestTicks_le_of c o fw _ fun rb secs hp _ => ?_
  unfold declaredPagesOf
  rw [hp]
  refine measureSectionsTicks_le _ secs _ fun s hs => ?_
  have := (SnpTotal.parsed_inRange hp).2 s hs
  unfold Codecs.SevMetadataSection.InRange at this
  unfold tripCount
  omega

theorem unsignedSnpTicks_le (c : Cfg) (all : List Nat) (launchVmsas product : Nat) (fw : Bytes) (B : Nat)
    (h : ∀ o : Opts, launchDigestTicks c o fw ≤ B + 2 * o.vcpus.toNat) :
    unsignedSnpTicks c all launchVmsas product fw ≤
      (vmsaCounts all launchVmsas).length * B + 2 * (vmsaCounts all launchVmsas).sum := by
  unfold unsignedSnpTicks
  generalize vmsaCounts all launchVmsas = cs
  induction cs with
  | nil => simp
  | cons n rest ih =>
    have := h ⟨n, product⟩
    simp only [List.map_cons, List.sum_cons, List.length_cons, Int.toNat_natCast] at ih this ⊢
    rw [Nat.add_mul, Nat.one_mul]
    omega

end GceTcb.Proofs.SnpBounds

namespace GceTcb.Proofs.SnpConst
open GceTcb GceTcb.Codec GceTcb.GuidTable GceTcb.SevMeta GceTcb.SevLd
open GceTcb.Codecs (ResetBlock)
open GceTcb.Proofs.SnpSections (Sec SectionsValid LenOK validateSections_ok_iff)
open GceTcb.Proofs.SnpBounds

def totalLength (secs : List Sec) : Nat := (secs.map (·.length)).sum

def totalPages (secs : List Sec) : Nat := (secs.map fun s => s.length / 4096).sum

/-- `overlapSorted … = false`: each range ends at or before the start of the next, which is what the overlap loop
    of validateSections checks on the sorted list. -/
theorem totalLength_chain (a : Sec) (t : List Sec) (E : Nat) (hov : overlapSorted (a :: t) = false)
    (hE : ∀ s ∈ a :: t, s.address + s.length ≤ E) : a.address + totalLength (a :: t) ≤ E := by
  induction t generalizing a with
  | nil => simpa [totalLength] using hE a List.mem_cons_self
  | cons b r ih =>
    simp only [overlapSorted, Bool.or_eq_false_iff, decide_eq_false_iff_not, Nat.not_lt] at hov
    have := ih b hov.2 (fun s hs => hE s (List.mem_cons_of_mem _ hs))
    simp only [totalLength, List.map_cons, List.sum_cons] at this ⊢
    omega

theorem totalLength_perm {l₁ l₂ : List Sec} (h : l₁.Perm l₂) : totalLength l₁ = totalLength l₂ :=
  (h.map _).sum_nat

theorem totalLength_pages (secs : List Sec) (hl : ∀ s ∈ secs, LenOK s) :
    totalLength secs = 4096 * totalPages secs ∧ secs.length ≤ totalPages secs := by
  induction secs with
  | nil => exact ⟨rfl, Nat.le_refl _⟩
  | cons s rest ih =>
    have h1 := hl s List.mem_cons_self
    have h2 := ih (fun x hx => hl x (List.mem_cons_of_mem _ hx))
    unfold LenOK at h1
    simp only [totalLength, totalPages, List.map_cons, List.sum_cons, List.length_cons] at h2 ⊢
    omega

/-- **The constant.** Valid metadata whose fields are 32-bit declares at most 2^21 − 2 pages (8 GiB − 8 KiB)
    in at most that many descriptors. -/
theorem totalPages_le (secs : List Sec) (hv : SectionsValid secs)
    (hr : ∀ s ∈ secs, s.InRange) :
    totalPages secs ≤ 2 ^ 21 - 2 ∧ secs.length ≤ 2 ^ 21 - 2 := by
  have hov := (SnpSections.overlap_mergeSort secs fun s hs => Nat.pos_of_ne_zero (hv.lengths s hs).2).mpr hv.disjoint
  have hperm := List.mergeSort_perm secs startLe
  have hE : ∀ s ∈ secs.mergeSort startLe, s.address + s.length ≤ 2 ^ 33 - 4097 := by
    intro s hs
    have hs' := hperm.mem_iff.mp hs
    have := (hv.lengths s hs').1
    have := hr s hs'
    unfold Codecs.SevMetadataSection.InRange at this
    omega
  have htot : totalLength secs ≤ 2 ^ 33 - 4097 := by
    rw [← totalLength_perm hperm]
    cases hm : secs.mergeSort startLe with
    | nil => simp [totalLength]
    | cons a rest =>
      have := totalLength_chain a rest _ (hm ▸ hov) (hm ▸ hE)
      omega
  have := totalLength_pages secs hv.lengths
  constructor <;> omega

theorem declaredPages_eq (secs : List Sec) : declaredPages secs = totalPages secs + secs.length := by
  induction secs with
  | nil => rfl
  | cons s rest ih =>
    simp only [declaredPages, totalPages, List.map_cons, List.sum_cons, List.length_cons] at ih ⊢
    omega

/-- sev.LaunchDigest: loop iterations bounded by the image length, the vCPU count and a CONSTANT — the
    declared pages are hashed only after validateSections has accepted the metadata. -/
theorem launchDigestTicks_le_const (c : Cfg) (o : Opts) (fw : Bytes) :
    launchDigestTicks c o fw ≤ fw.length / 2 + 4 + 2 * o.vcpus.toNat + (2 ^ 21 - 2) := by
  refine launchDigestTicks_le_of c o fw _ fun rb secs hp hv => ?_
  have hvalid := (validateSections_ok_iff secs).mp hv
  have hr := (SnpTotal.parsed_inRange hp).2
  have hc := (totalPages_le secs hvalid hr).1
  refine Nat.le_trans (measureSectionsTicks_le _ secs (fun s => s.length / 4096) fun s hs => ?_) (Nat.add_le_add_left hc _)
  have := (hvalid.lengths s hs).1
  have := hr s hs
  unfold Codecs.SevMetadataSection.InRange at this
  unfold tripCount
  omega

/-- the bound is attained: a secrets page, a CPUID page and two unmeasured ranges that fill
    [0x2000, 2^33 − 8192) are valid, page-aligned metadata declaring 2^21 − 2 pages -/
def maxSecs : List Sec :=
  [⟨0, 0x1000, kindSecret⟩, ⟨0x1000, 0x1000, kindCpuid⟩, ⟨0x2000, 0xFFFFD000, kindUnmeasured⟩,
   ⟨0xFFFFF000, 0xFFFFF000, kindUnmeasured⟩]

theorem maxSecs_valid : SectionsValid maxSecs := by decide

end GceTcb.Proofs.SnpConst
