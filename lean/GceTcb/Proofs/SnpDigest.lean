import GceTcb.Proofs.SnpChain
import GceTcb.Proofs.SnpTotal
/-
C04 — the main theorem about sev.LaunchDigest.  `SevLd.launchDigestOld` is sev.LaunchDigest without the product
check, characterised for ANY product value (`launchDigestOld_any`): `bitWidth[product]` reads 0 for a product that
is not a key of the map; `ProductHighAddress` is then 0 and the range check `gpa > high + 0x1000 − len` is evaluated
in wrapping uint64 arithmetic.  One corollary spells the checks out for width 0, the other for a width in range
(Milan, Genoa), where they say "whole pages below 4 GiB"; with the product check that is `launchDigest_total`.
-/
namespace GceTcb.Proofs.SnpDigest
open GceTcb GceTcb.Codec GceTcb.GuidTable GceTcb.SevMeta GceTcb.SevLd
open GceTcb.Codecs (ResetBlock zeros)
open GceTcb.Proofs.SnpSections (Sec SectionsValid)
open GceTcb.Proofs.SnpChain
open GceTcb.Proofs.SnpVmsa (bspVmsa apVmsa)
open GceTcb.Spec.SnpLaunch (Page launchUpdate vmsaPage)

/- `H` stands for SHA-384 (`sha512.Sum384`), with the 48-byte output of its Go type. -/
variable (H : Bytes → Bytes) (hH : ∀ x, (H x).length = 48)

/-- the regenerated tables the model is run with are the specification's -/
structure CfgIsSpec (c : Cfg) : Prop where
  layout : c.layout = Spec.SnpLaunch.vmsaLayout
  size : c.sizeofVmsa = Spec.SnpLaunch.sizeofVmsa
  template : c.template = Spec.SnpLaunch.gceResetState
  widths : c.widths = Spec.SnpLaunch.productWidths

theorem symVmsa_length : Spec.SnpLaunch.symVmsa.length = 4096 := by decide +kernel

theorem vmsaBytes_length (f : String → Nat) : (Spec.SnpLaunch.vmsaBytes f).length = 4096 :=
  (List.length_map _).trans symVmsa_length

include hH in
theorem measureVmsa_cons (c : Cfg) (high : Nat) (h4 : high % 4096 = 0) (hlt : high < 2 ^ 64) (v : Vmsa) (f : String → Nat)
    (hv : putVmsa c.layout c.sizeofVmsa v zeroPage = .ok (Spec.SnpLaunch.vmsaBytes f))
    (rest : List Vmsa) (d : Bytes) (hd : d.length = 48) :
    measureVmsa H c high (v :: rest) d = measureVmsa H c high rest (launchUpdate H d (vmsaPage high f)) := by
  have hl := vmsaBytes_length f
  have hc : checkAlign high high ((Spec.SnpLaunch.vmsaBytes f).length % 2 ^ 32) = none := by
    rw [hl, checkAlign_none_iff]; omega
  -- the page loop of Update runs once, on the whole page
  have hp : dataPages pageTypeVmsa high (Spec.SnpLaunch.vmsaBytes f) 0 ((Spec.SnpLaunch.vmsaBytes f).length / 4096)
      = [vmsaPage high f] := by
    rw [hl, dataPages_succ, Nat.add_zero, Nat.mod_eq_of_lt hlt, List.drop_zero, List.take_of_length_le (by omega)]
    rfl
  rw [measureVmsa, measureOneVmsa, hv]
  simp only [update_ok H hH high d hd high _ pageTypeVmsa (by decide) hc, hp, List.foldl_cons, List.foldl_nil]

include hH in
theorem measureVmsa_replicate (c : Cfg) (high : Nat) (h4 : high % 4096 = 0) (hlt : high < 2 ^ 64) (v : Vmsa) (f : String → Nat)
    (hv : putVmsa c.layout c.sizeofVmsa v zeroPage = .ok (Spec.SnpLaunch.vmsaBytes f))
    (n : Nat) (d : Bytes) (hd : d.length = 48) :
    measureVmsa H c high (List.replicate n v) d
      = .ok ((List.replicate n (vmsaPage high f)).foldl (launchUpdate H) d) := by
  induction n generalizing d with
  | zero => rfl
  | succ n ih =>
    rw [List.replicate_succ, measureVmsa_cons H hH c high h4 hlt v f hv _ d hd,
      ih _ (launchUpdate_length H hH _ _), List.replicate_succ, List.foldl_cons]

theorem prepareVmsas_eq (T : List (String × Nat)) (hT : T = Spec.SnpLaunch.gceResetState) (vcpus : Int)
    (hv : 1 ≤ vcpus) (rb : ResetBlock) :
    prepareVmsas T vcpus (some rb) = .ok (bspVmsa :: List.replicate (vcpus.toNat - 1) (apVmsa rb)) := by
  subst hT
  unfold prepareVmsas
  by_cases h1 : vcpus = 1
  · subst h1; simp [bspVmsa]
  · simp only [h1, if_false]
    have : (vcpus - 1).toNat = vcpus.toNat - 1 := by omega
    rw [this]
    rfl

/-- What sev.LaunchDigest requires of the launch options and the image (`rb`, `secs`: what
    ExtractFromFirmware parsed from it). -/
structure Accepts (o : Opts) (fw : Bytes) (rb : ResetBlock) (secs : List Sec) : Prop where
  vcpus : 1 ≤ o.vcpus
  parsed : extractFromFirmware true true fw = .ok (some rb, some secs)
  romAligned : fw.length % 4096 = 0
  romFits : fw.length ≤ 2 ^ 32
  valid : SectionsValid secs
  measurable : ∀ s ∈ secs, KindKnown s ∧ s.address % 4096 = 0

theorem launchDigest_supported (c : Cfg) (o : Opts) (fw : Bytes) (h : c.supported o.product = true) :
    launchDigest H c o fw = launchDigestOld H c o fw := by
  unfold launchDigest launchDigestOld
  simp [h]

theorem launchDigest_unsupported (c : Cfg) (o : Opts) (fw : Bytes) (hv : 1 ≤ o.vcpus)
    (h : c.supported o.product = false) : launchDigest H c o fw = .err "product" := by
  unfold launchDigest
  rw [if_neg (by omega)]
  simp [h]

/-- Milan is 1, Genoa 2; a missing key of `bitWidth` reads as width 0. -/
theorem product_cases (c : Cfg) (hc : CfgIsSpec c) (p : Nat) :
    (p = 1 ∨ p = 2) ∧ c.supported p = true ∧ WidthOK (c.width p) ∨
    (p ≠ 1 ∧ p ≠ 2) ∧ c.supported p = false ∧ c.width p = 0 := by
  unfold Cfg.supported Cfg.width
  rw [hc.widths]
  by_cases h1 : p = 1
  · subst h1; exact .inl ⟨.inl rfl, rfl, by decide, by decide⟩
  by_cases h2 : p = 2
  · subst h2; exact .inl ⟨.inr rfl, rfl, by decide, by decide⟩
  have e1 : ((1 : Nat) == p) = false := by simp; omega
  have e2 : ((2 : Nat) == p) = false := by simp; omega
  exact .inr ⟨⟨h1, h2⟩, by simp [Spec.SnpLaunch.productWidths, List.find?, e1, e2]⟩

theorem supported_of (c : Cfg) (hc : CfgIsSpec c) (p : Nat) (h : p = 1 ∨ p = 2) : c.supported p = true ∧ WidthOK (c.width p) :=
  ((product_cases c hc p).resolve_right fun h' => by omega).2

theorem unsupported_of (c : Cfg) (hc : CfgIsSpec c) (p : Nat) (h : p ≠ 1 ∧ p ≠ 2) : c.supported p = false ∧ c.width p = 0 :=
  ((product_cases c hc p).resolve_left fun h' => by omega).2

end GceTcb.Proofs.SnpDigest

namespace GceTcb.Proofs.SnpAnyProduct
open GceTcb GceTcb.Codec GceTcb.GuidTable GceTcb.SevMeta GceTcb.SevLd
open GceTcb.Codecs (ResetBlock zeros)
open GceTcb.Proofs.SnpSections (Sec SectionsValid validateSections_ok_iff)
open GceTcb.Proofs.SnpChain
open GceTcb.Proofs.SnpDigest (CfgIsSpec Accepts measureVmsa_cons measureVmsa_replicate prepareVmsas_eq)
open GceTcb.Proofs.SnpVmsa (bspVmsa apVmsa putVmsa_bsp putVmsa_ap)
open GceTcb.Spec.SnpLaunch (Page launchUpdate vmsaPage)

/-- the digest chain with the VMSA pages at guest-physical address `high`
    (`Spec.SnpLaunch.snpSpec` is this chain at `Spec.SnpLaunch.productHigh width`) -/
def chainAt (H : Bytes → Bytes) (fw : Bytes) (secs : List Spec.SnpLaunch.Section) (resetAddr vcpus high : Nat) : Bytes :=
  (Spec.SnpLaunch.romPages fw ++ secs.flatMap Spec.SnpLaunch.sectionPages ++
    Spec.SnpLaunch.vmsaPages resetAddr vcpus high).foldl (launchUpdate H) (Spec.SnpLaunch.zeros 48)

theorem snpSpec_eq_chainAt (H : Bytes → Bytes) (fw : Bytes) (secs : List Spec.SnpLaunch.Section) (resetAddr vcpus w : Nat) :
    Spec.SnpLaunch.snpSpec H fw secs resetAddr vcpus w = chainAt H fw secs resetAddr vcpus (Spec.SnpLaunch.productHigh w) := rfl

variable (H : Bytes → Bytes) (hH : ∀ x, (H x).length = 48)

theorem productHigh_facts (w : Nat) : productHigh w % 4096 = 0 ∧ productHigh w < 2 ^ 64 := by
  unfold productHigh
  generalize 2 ^ w % 2 ^ 64 = P
  simp only
  omega

def romDigest (fw : Bytes) : Bytes :=
  (Spec.SnpLaunch.romPages fw).foldl (launchUpdate H) (Spec.SnpLaunch.zeros 48)

include hH in
theorem romDigest_length (fw : Bytes) : (romDigest H fw).length = 48 :=
  foldl_launchUpdate_length H hH _ _ List.length_replicate

include hH in
theorem update_rom_any (high : Nat) (fw : Bytes) (hb : fw.length ≤ 2 ^ 32)
    (hc : checkAlign high (romBase fw.length) (fw.length % 2 ^ 32) = none) :
    update H high zeros48 (romBase fw.length) fw pageTypeNormal
      = .ok (romDigest H fw) := by
  rw [update_ok H hH high zeros48 List.length_replicate _ fw _ (by decide) hc, romPages_eq fw hb]
  rfl

include hH in
theorem zeroContentUpdate_any (high : Nat) (s : Sec) (hk : KindKnown s) (hr : s.InRange) (d : Bytes) (hd : d.length = 48)
    (hc : checkAlign high s.address s.length = none) :
    zeroContentUpdate H high d s.address s.length (Spec.SnpLaunch.kindPageType s.kind)
      = .ok ((Spec.SnpLaunch.sectionPages (toSpec s)).foldl (launchUpdate H) d) := by
  obtain ⟨_, hlt, hn2, hn1, hin⟩ := sectionPageType_some s.kind hk
  obtain ⟨_, h5, _⟩ := (checkAlign_none_iff _ _ _).mp hc
  obtain ⟨ha, hl, _⟩ := hr
  unfold zeroContentUpdate
  rw [if_neg hn2, if_neg hn1, if_neg (fun hn => hn hin), hc]
  simp only
  have ht : tripCount s.address ((s.address + s.length) % 2 ^ 64) = s.length / 4096 := by
    unfold tripCount; omega
  rw [ht, zeroPages_eq H hH _ hlt _ _ d hd (by omega)]
  rfl

def SecPasses (high : Nat) (s : Sec) : Prop := KindKnown s ∧ checkAlign high s.address s.length = none

include hH in
theorem measureSections_append (high : Nat) (pre rest : List Sec) (hpre : ∀ s ∈ pre, s.InRange ∧ SecPasses high s)
    (d : Bytes) (hd : d.length = 48) :
    measureSections H high (pre ++ rest) d =
      measureSections H high rest (((pre.map toSpec).flatMap Spec.SnpLaunch.sectionPages).foldl (launchUpdate H) d) := by
  induction pre generalizing d with
  | nil => rfl
  | cons s pre ih =>
    obtain ⟨hr, hk, hc⟩ := hpre s List.mem_cons_self
    rw [List.cons_append, measureSections, (sectionPageType_some s.kind hk).1]
    simp only [zeroContentUpdate_any H hH high s hk hr d hd hc, List.map_cons, List.flatMap_cons, List.foldl_append]
    exact ih (fun x hx => hpre x (List.mem_cons_of_mem _ hx)) _ (foldl_launchUpdate_length H hH _ d hd)

theorem zeroContentUpdate_total (high : Nat) (d : Bytes) (gpa size pt : Nat) :
    (zeroContentUpdate H high d gpa size pt).Total fun _ => checkAlign high gpa size = none := by
  unfold zeroContentUpdate
  split; · trivial
  split; · trivial
  split; · trivial
  split
  · trivial
  · assumption

theorem measureSections_total (high : Nat) (secs : List Sec) (d : Bytes) :
    (measureSections H high secs d).Total fun _ => ∀ s ∈ secs, SecPasses high s := by
  induction secs generalizing d with
  | nil => exact fun _ h => nomatch h
  | cons s rest ih =>
    unfold measureSections
    by_cases hk : KindKnown s
    · rw [(sectionPageType_some s.kind hk).1]
      rcases (zeroContentUpdate_total H high d s.address s.length (Spec.SnpLaunch.kindPageType s.kind)).cases with ⟨e, hz⟩ | ⟨d1, hz, hc⟩ <;> simp only [hz]
      · trivial
      · rcases (ih d1).cases with ⟨e, hm⟩ | ⟨d', hm, hp⟩ <;> rw [hm]
        · trivial
        · exact List.forall_mem_cons.mpr ⟨⟨hk, hc⟩, hp⟩
    · rw [sectionPageType_none s.kind hk]
      trivial

/-- what sev.LaunchDigest requires for the address `high` it computes from the product -/
structure AcceptsAt (high : Nat) (o : Opts) (fw : Bytes) (rb : ResetBlock) (secs : List Sec) : Prop where
  vcpus : 1 ≤ o.vcpus
  parsed : extractFromFirmware true true fw = .ok (some rb, some secs)
  rom : checkAlign high (romBase fw.length) (fw.length % 2 ^ 32) = none
  valid : SectionsValid secs
  measurable : ∀ s ∈ secs, SecPasses high s

include hH in
/-- The measurement on an image that parses runs the ROM check, validateSections and the section loop, in this
    order; an error of any of them surfaces unchanged. -/
theorem launchDigestOld_err (c : Cfg) (o : Opts) (hv : 1 ≤ o.vcpus) (fw : Bytes) (rb : ResetBlock) (secs : List Sec)
    (hp : extractFromFirmware true true fw = .ok (some rb, some secs)) (hfw : fw.length ≤ 2 ^ 32) (e : String)
    (he : checkAlign (productHigh (c.width o.product)) (romBase fw.length) (fw.length % 2 ^ 32) = some e ∨
      checkAlign (productHigh (c.width o.product)) (romBase fw.length) (fw.length % 2 ^ 32) = none ∧
        (validateSections secs = .err e ∨ validateSections secs = .ok () ∧
          measureSections H (productHigh (c.width o.product)) secs (romDigest H fw) = .err e)) :
    launchDigestOld H c o fw = .err e := by
  simp only [launchDigestOld, launchDigestBody, measureUefi, measureZeroContentUefiPages, if_neg (Int.not_lt.mpr hv), hp,
    Option.getD_some]
  rcases he with hrom | ⟨hrom, he | ⟨hok, he⟩⟩
  · simp only [update, hrom]
  · simp only [update_rom_any H hH _ fw hfw hrom, he]
  · simp only [update_rom_any H hH _ fw hfw hrom, hok, he]

include hH in
/-- **sev.LaunchDigest without the product check, for every product value** (images up to 4 GiB): the ROM range and
    every section range must pass the three checks of checkUpdateDataGuestMemoryAlignment evaluated at
    `high = ProductHighAddress(product)` in uint64 arithmetic, and the digest is the chain with all VMSA pages at `high`. -/
theorem launchDigestOld_any (c : Cfg) (hc : CfgIsSpec c) (o : Opts) (fw : Bytes) (hfw : fw.length ≤ 2 ^ 32) (d : Bytes) :
    launchDigestOld H c o fw = .ok d ↔
      ∃ rb secs, AcceptsAt (productHigh (c.width o.product)) o fw rb secs ∧
        d = chainAt H fw (secs.map toSpec) rb.addr o.vcpus.toNat (productHigh (c.width o.product)) := by
  obtain ⟨h4, hlt⟩ := productHigh_facts (c.width o.product)
  have hd0 := romDigest_length H hH fw
  -- when every check passes, every stage succeeds with the chain so far
  have hok : ∀ rb secs, AcceptsAt (productHigh (c.width o.product)) o fw rb secs →
      launchDigestOld H c o fw = .ok (chainAt H fw (secs.map toSpec) rb.addr o.vcpus.toNat (productHigh (c.width o.product))) := by
    intro rb secs ⟨hv, hp, hrom, hvalid, hm⟩
    have hr := (SnpTotal.parsed_inRange hp).2
    have hms := measureSections_append H hH _ secs [] (fun s hs => ⟨hr s hs, hm s hs⟩) _ hd0
    rw [List.append_nil, measureSections] at hms
    simp only [launchDigestOld, launchDigestBody, measureUefi, measureZeroContentUefiPages, if_neg (Int.not_lt.mpr hv), hp,
      update_rom_any H hH _ fw hfw hrom, Option.getD_some, (validateSections_ok_iff secs).mpr hvalid, hms,
      prepareVmsas_eq c.template hc.template o.vcpus hv rb,
      measureVmsa_cons H hH c _ h4 hlt bspVmsa _ (putVmsa_bsp _ _ hc.layout hc.size) _ _
        (foldl_launchUpdate_length H hH _ _ hd0),
      measureVmsa_replicate H hH c _ h4 hlt (apVmsa rb) _ (putVmsa_ap _ _ hc.layout hc.size rb) _ _
        (launchUpdate_length H hH _ _)]
    simp only [chainAt, romDigest, Spec.SnpLaunch.vmsaPages, List.foldl_append, List.foldl_cons]
  refine ⟨fun h => ?_, fun ⟨rb, secs, ha, hd⟩ => hd ▸ hok rb secs ha⟩
  -- a digest was returned: no stage failed (a failure would have surfaced), so every check passed
  have hacc : ∃ rb secs, AcceptsAt (productHigh (c.width o.product)) o fw rb secs := by
    have hv : 1 ≤ o.vcpus := Decidable.byContradiction fun hv => by
      unfold launchDigestOld at h; rw [if_pos (by omega)] at h; cases h
    rcases SnpTotal.extractFromFirmware_tt fw with ⟨e, he⟩ | ⟨rb, secs, hp, _⟩
    · unfold launchDigestOld launchDigestBody at h; rw [if_neg (by omega), he] at h; cases h
    have herr := fun e he => (launchDigestOld_err H hH c o hv fw rb secs hp hfw e he).symm.trans h
    cases hrom : checkAlign (productHigh (c.width o.product)) (romBase fw.length) (fw.length % 2 ^ 32) with
    | some e => exact nomatch herr e (.inl hrom)
    | none =>
      rcases Outcome.ok_or_err (SnpSections.validateSections_no_panic secs) with ⟨e, hvs⟩ | ⟨u, hvs⟩
      · exact nomatch herr e (.inr ⟨hrom, .inl hvs⟩)
      rcases (measureSections_total H (productHigh (c.width o.product)) secs (romDigest H fw)).cases
        with ⟨e, hms⟩ | ⟨d1, hms, hm⟩
      · exact nomatch herr e (.inr ⟨hrom, .inr ⟨hvs, hms⟩⟩)
      · exact ⟨rb, secs, hv, hp, hrom, (validateSections_ok_iff secs).mp hvs, hm⟩
  obtain ⟨rb, secs, ha⟩ := hacc
  rw [hok rb secs ha] at h
  injection h with h
  exact ⟨rb, secs, ha, h.symm⟩

/-- When the three checks at `high` come to page alignment and side conditions `R` (ROM) and `S` (a metadata
    range of whole pages), what LaunchDigest requires is `Accepts` and these conditions. -/
theorem acceptsAt_iff {high : Nat} {o : Opts} {fw : Bytes} {rb : ResetBlock} {secs : List Sec} (hfw : fw.length ≤ 2 ^ 32)
    {R : Prop} {S : Sec → Prop}
    (hrom : checkAlign high (romBase fw.length) (fw.length % 2 ^ 32) = none ↔ fw.length % 4096 = 0 ∧ R)
    (hsec : ∀ s : Sec, s.InRange → SnpSections.LenOK s →
      (checkAlign high s.address s.length = none ↔ s.address % 4096 = 0 ∧ S s)) :
    AcceptsAt high o fw rb secs ↔ Accepts o fw rb secs ∧ R ∧ ∀ s ∈ secs, S s := by
  constructor
  · rintro ⟨hv, hp, hr, hval, hm⟩
    have hs := fun s hs => (hsec s ((SnpTotal.parsed_inRange hp).2 s hs) (hval.lengths s hs)).mp (hm s hs).2
    exact ⟨⟨hv, hp, (hrom.mp hr).1, hfw, hval, fun s h => ⟨(hm s h).1, (hs s h).1⟩⟩, (hrom.mp hr).2, fun s h => (hs s h).2⟩
  · rintro ⟨⟨hv, hp, hal, _, hval, hm⟩, hR, hS⟩
    exact ⟨hv, hp, hrom.mpr ⟨hal, hR⟩, hval, fun s h => ⟨(hm s h).1,
      (hsec s ((SnpTotal.parsed_inRange hp).2 s h) (hval.lengths s h)).mpr ⟨(hm s h).2, hS s h⟩⟩⟩

theorem productHigh_zero : productHigh 0 = 0 := by decide

/-- the ROM check at `high = 0`: whole pages, and at least TWO of them (for one page `0 + 0x1000 − 0x1000 = 0`
    and the ROM's address is above 0; from two pages on the right-hand side wraps around 2^64) -/
theorem checkAlign_rom_zero (len : Nat) (hlen : len ≤ 2 ^ 32) :
    checkAlign 0 (romBase len) (len % 2 ^ 32) = none ↔ len % 4096 = 0 ∧ 0x2000 ≤ len := by
  rw [checkAlign_none_iff]
  unfold romBase
  rw [Nat.mod_eq_of_lt (by omega : len < 2 ^ 64)]
  omega

theorem checkAlign_sec_zero (s : Sec) (hr : s.InRange) (hl : SnpSections.LenOK s) :
    checkAlign 0 s.address s.length = none ↔ s.address % 4096 = 0 ∧ (0x2000 ≤ s.length ∨ s.address = 0) := by
  obtain ⟨ha, hl', _⟩ := hr
  unfold SnpSections.LenOK at hl
  rw [checkAlign_none_iff]
  omega

include hH in
/-- **An unsupported product** (`bitWidth[product]` reads 0), images up to 4 GiB: without the product check
    sev.LaunchDigest does not refuse the product.  It returns a digest for the accepted images whose ROM has at least
    two pages and whose every metadata range has at least two pages or starts at address 0 — the chain with all
    VMSA pages at guest-physical address 0, which is the launch digest of no AMD product.  One-page ranges above
    address 0 are refused with "address range is larger than the product can represent". -/
theorem launchDigestOld_width_zero (c : Cfg) (hc : CfgIsSpec c) (o : Opts) (hw0 : c.width o.product = 0) (fw : Bytes)
    (hfw : fw.length ≤ 2 ^ 32) (d : Bytes) :
    launchDigestOld H c o fw = .ok d ↔
      ∃ rb secs, Accepts o fw rb secs ∧ 0x2000 ≤ fw.length ∧ (∀ s ∈ secs, 0x2000 ≤ s.length ∨ s.address = 0) ∧
        d = Spec.SnpLaunch.snpSpec H fw (secs.map toSpec) rb.addr o.vcpus.toNat 0 := by
  have hsp : Spec.SnpLaunch.productHigh 0 = 0 := by decide
  simp only [launchDigestOld_any H hH c hc o fw hfw d, hw0, productHigh_zero, snpSpec_eq_chainAt, hsp, and_assoc,
    acceptsAt_iff hfw (checkAlign_rom_zero _ hfw) checkAlign_sec_zero]

theorem launchDigestOld_ok_rom (c : Cfg) (o : Opts) (fw d : Bytes) (h : launchDigestOld H c o fw = .ok d) :
    checkAlign (productHigh (c.width o.product)) (romBase fw.length) (fw.length % 2 ^ 32) = none := by
  cases hc : checkAlign (productHigh (c.width o.product)) (romBase fw.length) (fw.length % 2 ^ 32) with
  | none => rfl
  | some e =>
    unfold launchDigestOld launchDigestBody measureUefi update at h
    simp only [hc] at h
    split at h
    · cases h
    · split at h <;> cases h

end GceTcb.Proofs.SnpAnyProduct

namespace GceTcb.Proofs.SnpDigest
open GceTcb GceTcb.Codec GceTcb.GuidTable GceTcb.SevMeta GceTcb.SevLd
open GceTcb.Proofs.SnpChain GceTcb.Proofs.SnpAnyProduct

variable (H : Bytes → Bytes) (hH : ∀ x, (H x).length = 48)

include hH in
/-- for an address width in range the three checks at `ProductHighAddress` say that ROM and ranges are whole pages
    below 4 GiB -/
theorem launchDigestOld_iff (c : Cfg) (hc : CfgIsSpec c) (o : Opts) (hw : WidthOK (c.width o.product)) (fw : Bytes)
    (hfw : fw.length < 2 ^ 63) (d : Bytes) :
    launchDigestOld H c o fw = .ok d ↔
      ∃ rb secs, Accepts o fw rb secs ∧
        d = Spec.SnpLaunch.snpSpec H fw (secs.map toSpec) rb.addr o.vcpus.toNat (c.width o.product) := by
  have hrom := checkAlign_rom _ hw fw.length hfw
  by_cases hle : fw.length ≤ 2 ^ 32
  · simp only [launchDigestOld_any H hH c hc o fw hle d, snpSpec_eq_chainAt, specProductHigh_eq _ hw, ← productHigh_eq _ hw,
      acceptsAt_iff hle hrom (S := fun _ => True) fun s hr hl => by
        rw [checkAlign_sec _ hw _ _ hr.1 hr.2.1]; exact ⟨fun h => ⟨h.1, trivial⟩, fun h => ⟨h.1, hl.1⟩⟩,
      hle, implies_true, and_true]
  · constructor
    · intro h; exact absurd (hrom.mp (launchDigestOld_ok_rom H c o fw d h)).2 hle
    · rintro ⟨rb, secs, ha, _⟩; exact absurd ha.romFits hle

include hH in
/-- **sev.LaunchDigest, total over product values**: a digest is returned exactly when the product is Milan or
    Genoa, the image is accepted, and the digest is the specification's chain. -/
theorem launchDigest_total (c : Cfg) (hc : CfgIsSpec c) (o : Opts) (fw : Bytes) (hfw : fw.length < 2 ^ 63) (d : Bytes) :
    launchDigest H c o fw = .ok d ↔
      (o.product = 1 ∨ o.product = 2) ∧ ∃ rb secs, Accepts o fw rb secs ∧
        d = Spec.SnpLaunch.snpSpec H fw (secs.map toSpec) rb.addr o.vcpus.toNat (c.width o.product) := by
  rcases product_cases c hc o.product with ⟨hp, hs, hw⟩ | ⟨hp, hs, _⟩
  · rw [launchDigest_supported H c o fw hs, launchDigestOld_iff H hH c hc o hw fw hfw d]
    exact ⟨fun h => ⟨hp, h⟩, fun h => h.2⟩
  · constructor
    · intro h
      by_cases hv : 1 ≤ o.vcpus
      · rw [launchDigest_unsupported H c o fw hv hs] at h; cases h
      · unfold launchDigest at h; rw [if_pos (by omega)] at h; cases h
    · rintro ⟨h, _⟩; omega

end GceTcb.Proofs.SnpDigest
