import GceTcb.Proofs.ProtoWireRead
import GceTcb.Proofs.ProtoMap
/-
Whatever the decoders accept is well-typed and canonical: every scalar of a decoded message fits the Go
type of its field and every decoded map is in canonical form (strictly ascending keys) — for ALL input
bytes, not only for encodings.  Core-only.
-/
namespace GceTcb.ProtoWire
open GceTcb

/-- an invariant of the step function holds of whatever is unmarshalled into a message that has it -/
theorem decodeInto_inv {M : Type} {Inv : M → Prop} {step : M → Field → Option M}
    (hstep : ∀ m f m', Inv m → step m f = some m' → Inv m') {init m' : M} {b : Bytes}
    (h : decodeInto step init b = some m') (hi : Inv init) : Inv m' := by
  obtain ⟨fs, -, hf⟩ := decodeInto_parses step init m' b h
  clear h
  induction fs generalizing init with
  | nil => cases hf; exact hi
  | cons f fs ih =>
    rw [foldFields] at hf
    split at hf
    · cases hf
    · next m1 hs => exact ih (hstep _ f m1 hi hs) hf

def TypedTimestamp (t : WTimestamp) : Prop :=
  -9223372036854775808 ≤ t.seconds ∧ t.seconds < 9223372036854775808 ∧ -2147483648 ≤ t.nanos ∧ t.nanos < 2147483648

theorem toInt64_range (v : Nat) : -9223372036854775808 ≤ toInt64 v ∧ toInt64 v < 9223372036854775808 := by
  unfold toInt64; split <;> omega

theorem toInt32_range (v : Nat) : -2147483648 ≤ toInt32 v ∧ toInt32 v < 2147483648 := by
  unfold toInt32; split <;> omega

theorem stepTimestamp_inv (m : WTimestamp) (f : Field) (m' : WTimestamp) (hi : TypedTimestamp m)
    (h : stepTimestamp m f = some m') : TypedTimestamp m' := by
  unfold stepTimestamp at h
  split at h <;> cases h
  · exact ⟨(toInt64_range _).1, (toInt64_range _).2, hi.2.2⟩
  · exact ⟨hi.1, hi.2.1, toInt32_range _⟩
  · exact hi

def TypedRow (r : WRow) : Prop := r.ramGib < 4294967296

theorem stepRow_inv (m : WRow) (f : Field) (m' : WRow) (hi : TypedRow m) (h : stepRow m f = some m') :
    TypedRow m' := by
  unfold stepRow at h
  split at h <;> cases h
  · exact Nat.mod_lt _ (by decide)
  · exact hi
  · exact hi
  · exact hi

def TypedTdx (d : WTdx) : Prop := d.svn < 4294967296 ∧ ∀ r ∈ d.measurements, TypedRow r

theorem stepTdx_inv (m : WTdx) (f : Field) (m' : WTdx) (hi : TypedTdx m) (h : stepTdx m f = some m') :
    TypedTdx m' := by
  unfold stepTdx at h
  split at h
  · cases h
    exact ⟨Nat.mod_lt _ (by decide), hi.2⟩
  · split at h
    · cases h
    · next r hd =>
      cases h
      refine ⟨hi.1, fun x hx => ?_⟩
      rcases List.mem_append.mp hx with h1 | h1
      · exact hi.2 x h1
      · exact List.mem_singleton.mp h1 ▸ decodeInto_inv stepRow_inv hd (Nat.zero_lt_succ _)
  · cases h; exact hi

def TypedEntry (e : Nat × Bytes) : Prop := e.1 < 4294967296

theorem stepEntry_inv (m : Nat × Bytes) (f : Field) (m' : Nat × Bytes) (hi : TypedEntry m)
    (h : stepEntry m f = some m') : TypedEntry m' := by
  unfold stepEntry at h
  split at h <;> cases h
  · exact Nat.mod_lt _ (by decide)
  · exact hi
  · exact hi

def TypedSevSnp (s : WSevSnp) : Prop :=
  s.svn < 4294967296 ∧ s.policy < 18446744073709551616 ∧ SortedKeys s.measurements ∧
  ∀ p ∈ s.measurements, p.1 < 4294967296

theorem stepSevSnp_inv (m : WSevSnp) (f : Field) (m' : WSevSnp) (hi : TypedSevSnp m)
    (h : stepSevSnp m f = some m') : TypedSevSnp m' := by
  unfold stepSevSnp at h
  split at h
  · cases h
    exact ⟨Nat.mod_lt _ (by decide), hi.2⟩
  · split at h
    · cases h
    · next k v hd =>
      cases h
      refine ⟨hi.1, hi.2.1, mapSet_sorted _ k v hi.2.2.1, fun q hq => ?_⟩
      rcases mem_mapSet _ k v q hq with rfl | h1
      · exact decodeInto_inv (Inv := TypedEntry) stepEntry_inv hd (Nat.zero_lt_succ _)
      · exact hi.2.2.2 q h1
  · cases h; exact hi
  · cases h; exact hi
  · cases h
    exact ⟨hi.1, Nat.mod_lt _ (by decide), hi.2.2⟩
  · cases h; exact hi
  · cases h; exact hi
  · cases h; exact hi

def TypedGolden (g : WGolden) : Prop :=
  g.clSpec < 18446744073709551616 ∧ (∀ t, g.timestamp = some t → TypedTimestamp t) ∧
  (∀ s, g.sevSnp = some s → TypedSevSnp s) ∧ (∀ d, g.tdx = some d → TypedTdx d)

theorem typed_zero_ts : TypedTimestamp .zero := by simp [TypedTimestamp, WTimestamp.zero]
theorem typed_zero_snp : TypedSevSnp .zero :=
  ⟨Nat.zero_lt_succ _, Nat.zero_lt_succ _, List.Pairwise.nil, fun _ hp => nomatch hp⟩
theorem typed_zero_tdx : TypedTdx .zero := ⟨Nat.zero_lt_succ _, fun _ hr => nomatch hr⟩

/-- Unmarshal into an embedded message that is absent (zero value) or typed yields a typed one -/
theorem decodeInto_inv_getD {M : Type} {Inv : M → Prop} {step : M → Field → Option M}
    (hstep : ∀ m f m', Inv m → step m f = some m' → Inv m') {zero : M} (hz : Inv zero) {o : Option M}
    (ho : ∀ x, o = some x → Inv x) {p : Bytes} {m' : M} (h : decodeInto step (o.getD zero) p = some m') : Inv m' := by
  refine decodeInto_inv hstep h ?_
  cases o with
  | none => exact hz
  | some x => exact ho x rfl

theorem stepGolden_inv (m : WGolden) (f : Field) (m' : WGolden) (hi : TypedGolden m)
    (h : stepGolden m f = some m') : TypedGolden m' := by
  unfold stepGolden at h
  split at h
  · split at h
    · cases h
    · next t hd =>
      cases h
      exact ⟨hi.1, fun _ ht => Option.some.inj ht ▸ decodeInto_inv_getD stepTimestamp_inv typed_zero_ts hi.2.1 hd,
        hi.2.2⟩
  · cases h; exact ⟨Nat.mod_lt _ (by decide), hi.2⟩
  · cases h; exact hi
  · cases h; exact hi
  · cases h; exact hi
  · cases h; exact hi
  · split at h
    · cases h
    · next s hd =>
      cases h
      exact ⟨hi.1, hi.2.1, fun _ hs => Option.some.inj hs ▸
        decodeInto_inv_getD stepSevSnp_inv typed_zero_snp hi.2.2.1 hd, hi.2.2.2⟩
  · split at h
    · cases h
    · next d hd =>
      cases h
      exact ⟨hi.1, hi.2.1, hi.2.2.1, fun _ hd' => Option.some.inj hd' ▸
        decodeInto_inv_getD stepTdx_inv typed_zero_tdx hi.2.2.2 hd⟩
  · cases h; exact hi

/-- every accepted VMGoldenMeasurement is well-typed, its measurement map canonical -/
theorem decodeGolden_typed (b : Bytes) (g : WGolden) (h : decodeGolden b = some g) : TypedGolden g :=
  decodeInto_inv stepGolden_inv h
    ⟨Nat.zero_lt_succ _, fun _ ht => (nomatch ht), fun _ hs => (nomatch hs), fun _ hd => (nomatch hd)⟩

theorem decodeGolden_canon (b : Bytes) (g : WGolden) (h : decodeGolden b = some g) : canonGolden g = g := by
  have ht := decodeGolden_typed b g h
  cases g with
  | mk ts cl co ce di cab sev tdx unk =>
    cases sev with
    | none => rfl
    | some s =>
      have := (ht.2.2.1 s rfl).2.2.1
      simp only [canonGolden, Option.map_some, canonSevSnp, normMap_eq_self_of_sorted _ this]

end GceTcb.ProtoWire
