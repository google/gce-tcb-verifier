import GceTcb.Model.EventLog
import GceTcb.Proofs.Codecs
/-
Helper lemmas for C18 (event-log codecs).  For each reader of Model/EventLog.lean: `enc…`, the bytes its writer produces
for an in-range value (`write…_eq`); `read…_enc`, reading an encoding followed by anything gives the value and what
follows; `read…_canon`, what the repaired reader (`cfg.strict = true`) accepts is an encoding.  From TCGEventData up the
encodings carry a parameter `k` (`…Pad k`): the zero bytes UnmarshalFromBytes tolerates after the fields of an SP800-155
Event3, which the writer never produces (`k = 0`).  Core-only.
-/
namespace GceTcb.EventLog
open GceTcb GceTcb.Codec GceTcb.Codecs

@[simp] theorem andThen_ok {α β : Type} (a : α) (r : Bytes) (f : α → Bytes → Res β) : (Res.ok a r).andThen f = f a r := rfl
@[simp] theorem andThen_eof {α β : Type} (f : α → Bytes → Res β) : (Res.eof : Res α).andThen f = .eof := rfl
@[simp] theorem andThen_fail {α β : Type} (f : α → Bytes → Res β) : (Res.fail : Res α).andThen f = .fail := rfl

theorem andThen_ok_inv {α β : Type} {r : Res α} {f : α → Bytes → Res β} {v : β} {rest : Bytes}
    (h : r.andThen f = .ok v rest) : ∃ a b, r = .ok a b ∧ f a b = .ok v rest := by
  cases r with
  | ok a b => exact ⟨a, b, rfl, h⟩
  | eof => cases h
  | fail => cases h

theorem map_ok_inv {α β : Type} {r : Res α} {f : α → β} {v : β} {rest : Bytes}
    (h : r.map f = .ok v rest) : ∃ a, r = .ok a rest ∧ f a = v := by
  cases r with
  | ok a b => cases h; exact ⟨a, rfl, rfl⟩
  | eof => cases h
  | fail => cases h

theorem noEof_ok_inv {α : Type} {r : Res α} {v : α} {rest : Bytes} (h : r.noEof = .ok v rest) : r = .ok v rest := by
  cases r with
  | ok a b => exact h
  | eof => cases h
  | fail => cases h

theorem Res.map_map {α β γ : Type} (r : Res α) (f : α → β) (g : β → γ) : (r.map f).map g = r.map (g ∘ f) := by
  cases r <;> rfl

theorem Res.map_nil_append {α : Type} (r : Res (List α)) : r.map ([] ++ ·) = r := by cases r <;> rfl

theorem readFull_long {n : Nat} {b : Bytes} (h : n ≤ b.length) : readFull n b = .ok (b.take n) (b.drop n) := if_pos h

theorem readFull_short {n : Nat} {b : Bytes} (h : b.length < n) : (readFull n b).isOk = false := by
  simp only [readFull]
  rw [if_neg (Nat.not_le.2 h)]
  split <;> rfl

theorem readFull_append (x t : Bytes) (n : Nat) (h : x.length = n) : readFull n (x ++ t) = .ok x t := by
  rw [readFull_long (by simp; omega), List.take_left' h, List.drop_left' h]

theorem readFull_ok_inv {n : Nat} {b x rest : Bytes} (h : readFull n b = .ok x rest) :
    b = x ++ rest ∧ x.length = n := by
  by_cases hn : n ≤ b.length
  · rw [readFull_long hn] at h
    cases h
    exact ⟨(List.take_append_drop n b).symm, by rw [List.length_take]; exact Nat.min_eq_left hn⟩
  · have := readFull_short (Nat.lt_of_not_le hn)
    rw [h] at this; cases this

theorem readLE_append (n v : Nat) (t : Bytes) (h : v < 256 ^ n) : readLE n (leBytes n v ++ t) = .ok v t := by
  simp only [readLE, readFull_append _ t n (leBytes_length n v), Res.map, leVal_leBytes_of_lt n v h]

theorem readLE_ok_inv {n v : Nat} {b rest : Bytes} (h : readLE n b = .ok v rest) :
    b = leBytes n v ++ rest ∧ v < 256 ^ n := by
  obtain ⟨x, hx, hv⟩ := map_ok_inv h
  obtain ⟨hb, hl⟩ := readFull_ok_inv hx
  subst hv
  refine ⟨?_, ?_⟩
  · rw [← hl, leBytes_leVal]; exact hb
  · have := leVal_lt x; rwa [hl] at this

theorem readLE_ok_val {n v : Nat} {b rest : Bytes} (h : readLE n b = .ok v rest) :
    leVal (b.take n) = v ∧ b.length = n + rest.length := by
  obtain ⟨rfl, hv⟩ := readLE_ok_inv h
  rw [List.take_left' (leBytes_length n v), leVal_leBytes_of_lt n v hv]
  simp

theorem readLE_long {n : Nat} {b : Bytes} (h : n ≤ b.length) : readLE n b = .ok (leVal (b.take n)) (b.drop n) := by
  rw [readLE, readFull_long h]; rfl

theorem readLE_eof_or_fail {n : Nat} {b : Bytes} (h : ¬ n ≤ b.length) : readLE n b = .eof ∨ readLE n b = .fail := by
  rw [readLE, readFull, if_neg h]
  split
  · exact .inl rfl
  · exact .inr rfl

theorem readLE_short {n : Nat} {b : Bytes} (h : b.length < n) : (readLE n b).isOk = false := by
  rcases readLE_eof_or_fail (Nat.not_le.2 h) with e | e
  · rw [e]; rfl
  · rw [e]; rfl

/-- The reader is not asked for a zero-length read at end of input (or answers it with nil). -/
def NoEmptyEofRead (cfg : Cfg) (d t : Bytes) : Prop :=
  cfg.strict = true ∨ cfg.kind = .buffer ∨ d ++ t ≠ []

/-- the repaired readers issue no Read for size 0 -/
theorem readBody_strict {cfg : Cfg} (hs : cfg.strict = true) (zf : Bool) (size : Nat) (rest : Bytes) :
    readBody cfg zf size rest = readFull size rest := by
  simp only [readBody, hs, if_true]
  split
  · next h0 => subst h0; rfl
  · rfl

theorem readBody_long {cfg : Cfg} {size : Nat} {rest : Bytes} (zf : Bool) (hl : size ≤ rest.length) :
    readBody cfg zf size rest =
      if cfg.strict = false ∧ rawReadEof cfg.kind size rest = true then .eof else readFull size rest := by
  by_cases hs : cfg.strict = true
  · rw [readBody_strict hs, if_neg (by simp [hs])]
  · by_cases he : rawReadEof cfg.kind size rest = true
    · simp [readBody, hs, he]
    · cases zf <;> simp [readBody, hs, he, readFull_long hl, Nat.not_lt.2 hl, Nat.sub_eq_zero_of_le hl, zeros]

/-- the right-hand case: the original readSizedArray ignores the byte count and leaves the zeros of `make` after a
    short read -/
theorem readBody_ok_cases {cfg : Cfg} {zf : Bool} {size : Nat} {rest d r : Bytes}
    (h : readBody cfg zf size rest = .ok d r) :
    (rest = d ++ r ∧ d.length = size) ∨ (cfg.strict = false ∧ zf = true ∧ rest.length < size) := by
  by_cases hl : size ≤ rest.length
  · rw [readBody_long zf hl] at h
    split at h
    · cases h
    · exact Or.inl (readFull_ok_inv h)
  · by_cases hs : cfg.strict = true
    · have := readFull_short (Nat.lt_of_not_le hl)
      rw [← readBody_strict hs zf, h] at this; cases this
    · cases zf with
      | true => exact Or.inr ⟨by simpa using hs, rfl, Nat.lt_of_not_le hl⟩
      | false =>
        simp only [readBody, hs, Nat.lt_of_not_le hl, Bool.false_eq_true, if_false, if_true] at h
        split at h <;> cases h

theorem readBody_append (cfg : Cfg) (zf : Bool) (d t : Bytes) (h : NoEmptyEofRead cfg d t) :
    readBody cfg zf d.length (d ++ t) = .ok d t := by
  rw [readBody_long zf (by simp), readFull_append d t _ rfl, if_neg]
  intro ⟨hs, he⟩
  rcases h with h | h | h
  · rw [hs] at h; cases h
  · simp [rawReadEof, h] at he
    exact he.2 he.1.1
  · simp [rawReadEof, h] at he

/-- `hc`: the count is checked (strict readers, or TCGEventData's original read) -/
theorem readBody_ok_inv {cfg : Cfg} {zf : Bool} {size : Nat} {rest d r : Bytes}
    (hc : cfg.strict = true ∨ zf = false) (h : readBody cfg zf size rest = .ok d r) :
    rest = d ++ r ∧ d.length = size :=
  (readBody_ok_cases h).resolve_right fun ⟨hs, hz, _⟩ =>
    hc.elim (fun h => by rw [hs] at h; cases h) (fun h => by rw [hz] at h; cases h)

def encSized (w : Nat) (d : Bytes) : Bytes := leBytes w d.length ++ d

theorem writeSizedArray_eq (w : Nat) (d : Bytes) (h : d.length < 256 ^ w) : writeSizedArray w d = some (encSized w d) := by
  simp [writeSizedArray, h, encSized]

theorem readSizedArray_enc (cfg : Cfg) (w : Nat) (d t : Bytes) (h : d.length < 256 ^ w) (he : NoEmptyEofRead cfg d t) :
    readSizedArray cfg w (encSized w d ++ t) = .ok d t := by
  simp only [readSizedArray, encSized, List.append_assoc]
  rw [readLE_append w d.length _ h, andThen_ok, readBody_append cfg true d t he]

theorem readSizedArray_ok_cases {cfg : Cfg} {w : Nat} {b d rest : Bytes} (h : readSizedArray cfg w b = .ok d rest) :
    (b = encSized w d ++ rest ∧ d.length < 256 ^ w) ∨ (cfg.strict = false ∧ b.length - w < leVal (b.take w)) := by
  obtain ⟨size, r1, h1, h2⟩ := andThen_ok_inv h
  obtain ⟨hb, hlt⟩ := readLE_ok_inv h1
  rcases readBody_ok_cases h2 with ⟨hr, hl⟩ | ⟨hs, _, hl⟩
  · subst hl
    exact Or.inl ⟨by rw [hb, hr, encSized, List.append_assoc], hlt⟩
  · obtain ⟨hv, hn⟩ := readLE_ok_val h1
    exact Or.inr ⟨hs, by rw [hv, hn, Nat.add_sub_cancel_left]; exact hl⟩

theorem readSizedArray_canon {cfg : Cfg} {w : Nat} {b d rest : Bytes} (hs : cfg.strict = true)
    (h : readSizedArray cfg w b = .ok d rest) : b = encSized w d ++ rest ∧ d.length < 256 ^ w :=
  (readSizedArray_ok_cases h).resolve_right fun h' => by rw [hs] at h'; cases h'.1

def encCStr (s : Bytes) : Bytes := leBytes 1 (s.length + 1) ++ (s ++ [0])

theorem writeCStr_eq (s : Bytes) (h : s.length ≤ 254) : writeCStr s = some (encCStr s) := by
  simp only [writeCStr, encCStr]; rw [if_neg (Nat.not_lt.2 (Nat.succ_le_succ h))]

theorem encCStr_eq (s : Bytes) : encCStr s = encSized 1 (s ++ [0]) := by simp [encCStr, encSized]

theorem readCStr_enc (cfg : Cfg) (s t : Bytes) (h : s.length ≤ 254) : readCStr cfg (encCStr s ++ t) = .ok s t := by
  rw [readCStr, encCStr_eq, readSizedArray_enc cfg 1 (s ++ [0]) t (by simp; omega) (Or.inr (Or.inr (by simp))),
    andThen_ok, if_neg (by simp), List.dropLast_concat]

theorem readCStr_canon {cfg : Cfg} {b s rest : Bytes} (hs : cfg.strict = true) (h : readCStr cfg b = .ok s rest) :
    b = encCStr s ++ rest ∧ s.length ≤ 254 := by
  obtain ⟨data, r1, h1, h2⟩ := andThen_ok_inv h
  obtain ⟨hb, hlt⟩ := readSizedArray_canon hs h1
  split at h2
  · cases h2
  · next hc =>
    cases h2
    simp only [Bool.or_eq_true, not_or, Bool.not_eq_true, bne_eq_false_iff_eq] at hc
    obtain ⟨ys, rfl⟩ := List.getLast?_eq_some_iff.mp hc.2
    rw [List.dropLast_concat, encCStr_eq]
    exact ⟨hb, by simp at hlt; omega⟩

theorem readGuid_enc (u t : Bytes) (h : u.length = 16) : readGuid (writeGuid u ++ t) = .ok u t := by
  simp only [readGuid, writeGuid]
  rw [readFull_append _ t 16 (Rec.enc_length uuidRec u)]
  simp only [Res.map]
  have := decF_encF uuidRec.ws (uuidRec.toVals u) [] (uuidLaws.fits u h)
  rw [List.append_nil] at this
  show Res.ok (uuidRec.ofVals (decF uuidRec.ws (encF uuidRec.ws (uuidRec.toVals u)))) t = _
  rw [this, uuidLaws.of_to u h]

theorem readGuid_canon {b u rest : Bytes} (h : readGuid b = .ok u rest) : b = writeGuid u ++ rest ∧ u.length = 16 := by
  obtain ⟨raw, h1, rfl⟩ := map_ok_inv h
  obtain ⟨hb, hl⟩ := readFull_ok_inv h1
  have h16 : raw.length = uuidRec.ws.sum := hl
  refine ⟨?_, uuidLaws.inr raw rfl⟩
  rw [writeGuid, Rec.enc, uuidLaws.to_of raw rfl, encF_decF _ _ (Nat.le_of_eq h16.symm),
    List.take_of_length_le (Nat.le_of_eq h16)]
  exact hb

def Digest.InRange (d : Digest) : Prop := tpmAlgoSize d.alg = some d.digest.length

instance (d : Digest) : Decidable d.InRange := by unfold Digest.InRange; exact inferInstance

def encDigest (d : Digest) : Bytes := leBytes 2 d.alg ++ d.digest

/-- TPM_ALG_SHA1 ↦ 20, SHA256 ↦ 32, SHA384 ↦ 48 and nothing else -/
theorem tpmAlgoSize_eq_lookup (alg : Nat) : tpmAlgoSize alg = List.lookup alg [(4, 20), (11, 32), (12, 48)] := by
  have e (k : Nat) (h : ¬ alg = k) : (alg == k) = false := beq_false_of_ne h
  unfold tpmAlgoSize
  by_cases h4 : alg = 4
  · subst h4; rfl
  · by_cases h11 : alg = 11
    · subst h11; rfl
    · by_cases h12 : alg = 12
      · subst h12; rfl
      · simp only [h4, h11, h12, if_false, List.lookup, e _ h4, e _ h11, e _ h12]

theorem tpmAlgoSize_lt {alg sz : Nat} (h : tpmAlgoSize alg = some sz) : alg < 256 ^ 2 ∧ 20 ≤ sz ∧ sz ≤ 48 := by
  unfold tpmAlgoSize at h
  by_cases h4 : alg = 4
  · rw [if_pos h4] at h; cases h; subst h4; decide
  · rw [if_neg h4] at h
    by_cases h11 : alg = 11
    · rw [if_pos h11] at h; cases h; subst h11; decide
    · rw [if_neg h11] at h
      by_cases h12 : alg = 12
      · rw [if_pos h12] at h; cases h; subst h12; decide
      · rw [if_neg h12] at h; cases h

theorem writeDigest_eq (d : Digest) (h : d.InRange) : writeDigest d = some (encDigest d) := by
  simp only [writeDigest, Digest.InRange] at *
  rw [h]; simp [encDigest]

theorem writeDigest_strict (d : Digest) (h : ¬ d.InRange) : writeDigest d = none := by
  simp only [writeDigest, Digest.InRange] at *
  cases ha : tpmAlgoSize d.alg with
  | none => rfl
  | some sz =>
    simp only
    rw [if_neg]
    intro hl; apply h; rw [ha, hl]

theorem readDigest_enc (d : Digest) (t : Bytes) (h : d.InRange) : readDigest (encDigest d ++ t) = .ok d t := by
  simp only [readDigest, encDigest, List.append_assoc]
  rw [readLE_append 2 d.alg _ (tpmAlgoSize_lt h).1, andThen_ok]
  simp only [Digest.InRange] at h
  rw [h]
  simp only
  rw [readFull_append d.digest t _ rfl]
  rfl

theorem readDigest_canon {b rest : Bytes} {d : Digest} (h : readDigest b = .ok d rest) :
    b = encDigest d ++ rest ∧ d.InRange := by
  obtain ⟨alg, r1, h1, h2⟩ := andThen_ok_inv h
  obtain ⟨hb, _⟩ := readLE_ok_inv h1
  split at h2
  · cases h2
  · next sz ha =>
    obtain ⟨x, h3, rfl⟩ := map_ok_inv h2
    obtain ⟨hr, hl⟩ := readFull_ok_inv (noEof_ok_inv h3)
    exact ⟨by rw [hb, hr, encDigest, List.append_assoc], by rw [Digest.InRange, ha, hl]⟩

def encDigests : List Digest → Bytes
  | [] => []
  | d :: ds => encDigest d ++ encDigests ds

def encDigestArray (ds : List Digest) : Bytes := leBytes 4 ds.length ++ encDigests ds

theorem writeDigests_eq (ds : List Digest) (h : ∀ d ∈ ds, d.InRange) : writeDigests ds = some (encDigests ds) := by
  induction ds with
  | nil => rfl
  | cons d ds ih =>
    rw [List.forall_mem_cons] at h
    simp only [writeDigests, encDigests, writeDigest_eq d h.1, ih h.2]

theorem writeDigestArray_eq (ds : List Digest) (h : ∀ d ∈ ds, d.InRange) :
    writeDigestArray ds = some (encDigestArray ds) := by
  simp only [writeDigestArray, writeDigests_eq ds h, encDigestArray]

theorem writeDigests_strict (ds : List Digest) (h : ¬ ∀ d ∈ ds, d.InRange) : writeDigests ds = none := by
  induction ds with
  | nil => exact absurd (by intro d hd; cases hd) h
  | cons d ds ih =>
    simp only [writeDigests]
    by_cases hd : d.InRange
    · rw [ih fun hh => h (List.forall_mem_cons.2 ⟨hd, hh⟩)]
      cases writeDigest d <;> rfl
    · rw [writeDigest_strict d hd]

theorem readDigests_enc (ds : List Digest) (t : Bytes) (h : ∀ d ∈ ds, d.InRange) :
    readDigests ds.length (encDigests ds ++ t) = .ok ds t := by
  induction ds with
  | nil => rfl
  | cons d ds ih =>
    rw [List.forall_mem_cons] at h
    simp only [List.length_cons, readDigests, encDigests, List.append_assoc, readDigest_enc d _ h.1, Res.noEof,
      andThen_ok, ih h.2, Res.map]

theorem readDigests_canon {n : Nat} {b rest : Bytes} {ds : List Digest} (h : readDigests n b = .ok ds rest) :
    b = encDigests ds ++ rest ∧ ds.length = n ∧ ∀ d ∈ ds, d.InRange := by
  induction n generalizing b ds with
  | zero => cases h; exact ⟨rfl, rfl, by intro d hd; cases hd⟩
  | succ n ih =>
    obtain ⟨d, r1, h1, h2⟩ := andThen_ok_inv h
    obtain ⟨tl, h3, rfl⟩ := map_ok_inv h2
    obtain ⟨hb, hd⟩ := readDigest_canon (noEof_ok_inv h1)
    obtain ⟨hr, hl, hall⟩ := ih h3
    exact ⟨by rw [hb, hr, encDigests, List.append_assoc], by simp [hl], List.forall_mem_cons.2 ⟨hd, hall⟩⟩

/-- the early return for a count of zero is what the element loop does anyway -/
theorem readDigestArray_eq (b : Bytes) : readDigestArray b = (readLE 4 b).noEof.andThen readDigests := by
  unfold readDigestArray
  congr; funext n rest
  split
  · next h => subst h; rfl
  · rfl

theorem readDigestArray_enc (ds : List Digest) (t : Bytes) (hn : ds.length < 2 ^ 32) (h : ∀ d ∈ ds, d.InRange) :
    readDigestArray (encDigestArray ds ++ t) = .ok ds t := by
  rw [readDigestArray_eq, encDigestArray, List.append_assoc, readLE_append 4 ds.length _ hn]
  exact readDigests_enc ds t h

theorem readDigestArray_canon {b rest : Bytes} {ds : List Digest} (h : readDigestArray b = .ok ds rest) :
    b = encDigestArray ds ++ rest ∧ ds.length < 2 ^ 32 ∧ ∀ d ∈ ds, d.InRange := by
  rw [readDigestArray_eq] at h
  obtain ⟨n, r1, h1, h2⟩ := andThen_ok_inv h
  obtain ⟨hb, hlt⟩ := readLE_ok_inv (noEof_ok_inv h1)
  obtain ⟨hr, rfl, hall⟩ := readDigests_canon h2
  exact ⟨by rw [hb, hr, encDigestArray, List.append_assoc], hlt, hall⟩

theorem noEof_andThen_ne_eof {α β : Type} (r : Res α) {f : α → Bytes → Res β} (hf : ∀ a b, f a b ≠ .eof) :
    r.noEof.andThen f ≠ .eof := by
  cases r with
  | ok a b => exact hf a b
  | eof => intro h; cases h
  | fail => intro h; cases h

theorem map_eq_eof {α β : Type} {r : Res α} {f : α → β} (h : r.map f = .eof) : r = .eof := by
  cases r with
  | ok a b => cases h
  | eof => rfl
  | fail => cases h

theorem readDigests_not_eof (n : Nat) (b : Bytes) : readDigests n b ≠ .eof := by
  induction n generalizing b with
  | zero => intro h; cases h
  | succ n ih => exact noEof_andThen_ne_eof _ fun d r h => ih r (map_eq_eof h)

/-- a digest array is never the clean end of a log: its errors are not EOF -/
theorem readDigestArray_not_eof (b : Bytes) : readDigestArray b ≠ .eof := by
  rw [readDigestArray_eq]
  exact noEof_andThen_ne_eof _ readDigests_not_eof

def Event3.InRange (e : Event3) : Prop :=
  e.platformManufacturerId < 2 ^ 32 ∧ e.referenceManifestGuid.length = 16 ∧
  e.platformManufacturerStr.length ≤ 254 ∧ e.platformModel.length ≤ 254 ∧ e.platformVersion.length ≤ 254 ∧
  e.firmwareManufacturerStr.length ≤ 254 ∧ e.firmwareManufacturerId < 2 ^ 32 ∧ e.firmwareVersion.length ≤ 254 ∧
  e.rimLocatorType < 2 ^ 32 ∧ e.rimLocator.length < 2 ^ 32 ∧
  e.platformCertLocatorType < 2 ^ 32 ∧ e.platformCertLocator.length < 2 ^ 32

instance (e : Event3) : Decidable e.InRange := by unfold Event3.InRange; exact inferInstance

def encEvent3Fields (e : Event3) : Bytes :=
  leBytes 4 e.platformManufacturerId ++ (writeGuid e.referenceManifestGuid ++ (encCStr e.platformManufacturerStr ++
  (encCStr e.platformModel ++ (encCStr e.platformVersion ++ (encCStr e.firmwareManufacturerStr ++
  (leBytes 4 e.firmwareManufacturerId ++ (encCStr e.firmwareVersion ++ (leBytes 4 e.rimLocatorType ++
  (encSized 4 e.rimLocator ++ (leBytes 4 e.platformCertLocatorType ++ encSized 4 e.platformCertLocator))))))))))

theorem writeEvent3Fields_eq (e : Event3) (h : e.InRange) : writeEvent3Fields e = some (encEvent3Fields e) := by
  obtain ⟨_, _, h3, h4, h5, h6, _, h8, _, h10, _, h12⟩ := h
  simp only [writeEvent3Fields, writeU32Array, writeCStr_eq _ h3, writeCStr_eq _ h4, writeCStr_eq _ h5,
    writeCStr_eq _ h6, writeCStr_eq _ h8, writeSizedArray_eq 4 _ h10, writeSizedArray_eq 4 _ h12, optAppend, encEvent3Fields]

theorem readEvent3Fields_enc (cfg : Cfg) (e : Event3) (t : Bytes) (h : e.InRange)
    (he : NoEmptyEofRead cfg e.platformCertLocator t) :
    readEvent3Fields cfg (encEvent3Fields e ++ t) = .ok e t := by
  obtain ⟨h1, h2, h3, h4, h5, h6, h7, h8, h9, h10, h11, h12⟩ := h
  simp only [readEvent3Fields, encEvent3Fields, List.append_assoc, readU32Array]
  rw [readLE_append 4 _ _ h1, andThen_ok, readGuid_enc _ _ h2, andThen_ok,
    readCStr_enc cfg _ _ h3, andThen_ok, readCStr_enc cfg _ _ h4, andThen_ok, readCStr_enc cfg _ _ h5, andThen_ok,
    readCStr_enc cfg _ _ h6, andThen_ok, readLE_append 4 _ _ h7, andThen_ok, readCStr_enc cfg _ _ h8, andThen_ok,
    readLE_append 4 _ _ h9, andThen_ok,
    readSizedArray_enc cfg 4 e.rimLocator _ h10 (Or.inr (Or.inr (by simp [leBytes]))), andThen_ok,
    readLE_append 4 _ _ h11, andThen_ok, readSizedArray_enc cfg 4 e.platformCertLocator t h12 he, andThen_ok]

theorem readEvent3Fields_canon {cfg : Cfg} {b rest : Bytes} {e : Event3} (hs : cfg.strict = true)
    (h : readEvent3Fields cfg b = .ok e rest) : b = encEvent3Fields e ++ rest ∧ e.InRange := by
  simp only [readEvent3Fields, readU32Array] at h
  obtain ⟨v1, b1, r1, h⟩ := andThen_ok_inv h
  obtain ⟨v2, b2, r2, h⟩ := andThen_ok_inv h
  obtain ⟨v3, b3, r3, h⟩ := andThen_ok_inv h
  obtain ⟨v4, b4, r4, h⟩ := andThen_ok_inv h
  obtain ⟨v5, b5, r5, h⟩ := andThen_ok_inv h
  obtain ⟨v6, b6, r6, h⟩ := andThen_ok_inv h
  obtain ⟨v7, b7, r7, h⟩ := andThen_ok_inv h
  obtain ⟨v8, b8, r8, h⟩ := andThen_ok_inv h
  obtain ⟨v9, b9, r9, h⟩ := andThen_ok_inv h
  obtain ⟨v10, b10, r10, h⟩ := andThen_ok_inv h
  obtain ⟨v11, b11, r11, h⟩ := andThen_ok_inv h
  obtain ⟨v12, b12, r12, h⟩ := andThen_ok_inv h
  cases h
  obtain ⟨q1, p1⟩ := readLE_ok_inv r1
  obtain ⟨q2, p2⟩ := readGuid_canon r2
  obtain ⟨q3, p3⟩ := readCStr_canon hs r3
  obtain ⟨q4, p4⟩ := readCStr_canon hs r4
  obtain ⟨q5, p5⟩ := readCStr_canon hs r5
  obtain ⟨q6, p6⟩ := readCStr_canon hs r6
  obtain ⟨q7, p7⟩ := readLE_ok_inv r7
  obtain ⟨q8, p8⟩ := readCStr_canon hs r8
  obtain ⟨q9, p9⟩ := readLE_ok_inv r9
  obtain ⟨q10, p10⟩ := readSizedArray_canon hs r10
  obtain ⟨q11, p11⟩ := readLE_ok_inv r11
  obtain ⟨q12, p12⟩ := readSizedArray_canon hs r12
  refine ⟨?_, p1, p2, p3, p4, p5, p6, p7, p8, p9, p10, p11, p12⟩
  simp only [encEvent3Fields, List.append_assoc]
  rw [q1, q2, q3, q4, q5, q6, q7, q8, q9, q10, q11, q12]

theorem allZero_zeros (k : Nat) : allZero (zeros k) = true := by
  simp [allZero, zeros]

theorem allZero_eq {b : Bytes} (h : allZero b = true) : b = zeros b.length :=
  List.eq_replicate_iff.2 ⟨rfl, fun x hx => by simpa using List.all_eq_true.1 h x hx⟩

theorem unmarshalEvent3_enc (strict : Bool) (e : Event3) (k : Nat) (h : e.InRange) :
    unmarshalEvent3 strict (encEvent3Fields e ++ zeros k) = .ok e [] := by
  simp only [unmarshalEvent3]
  rw [readEvent3Fields_enc ⟨strict, .buffer⟩ e (zeros k) h (Or.inr (Or.inl rfl)), andThen_ok, allZero_zeros]
  rfl

theorem unmarshalEvent3_canon {data r : Bytes} {e : Event3} (h : unmarshalEvent3 true data = .ok e r) :
    r = [] ∧ e.InRange ∧ ∃ k, data = encEvent3Fields e ++ zeros k := by
  obtain ⟨e', rest, h1, h2⟩ := andThen_ok_inv h
  split at h2
  · next hz =>
    cases h2
    obtain ⟨hb, hr⟩ := readEvent3Fields_canon (cfg := ⟨true, .buffer⟩) rfl h1
    exact ⟨rfl, hr, rest.length, by rw [hb, ← allZero_eq hz]⟩
  · cases h2

/-- The configurations under which every encoding is read back: the repaired readers, or the original ones over a
    bytes.Buffer / os.File, where the zero-length Read for an empty body does not return io.EOF. -/
def Good (cfg : Cfg) : Prop := cfg.strict = true ∨ cfg.kind = .buffer

theorem Good.noEmpty {cfg : Cfg} (g : Good cfg) (d t : Bytes) : NoEmptyEofRead cfg d t :=
  g.elim Or.inl fun g => Or.inr (Or.inl g)

def HasSig (x : Bytes) : Prop := 16 ≤ x.length ∧ x.take 16 = event3Signature

instance (x : Bytes) : Decidable (HasSig x) := by unfold HasSig; exact inferInstance

/-- What a reader can return: an Event3 payload may carry `k` trailing zero bytes, and its size only has to fit the
    4-byte prefix that counts them. -/
def EventData.InRangePad (k : Nat) : EventData → Prop
  | .raw x => x.length < 2 ^ 32 ∧ ¬ HasSig x
  | .event3 e => e.InRange ∧ 16 + (encEvent3Fields e).length + k < 2 ^ 32

instance (k : Nat) (d : EventData) : Decidable (d.InRangePad k) := by
  cases d <;> (unfold EventData.InRangePad; exact inferInstance)

def encEventDataPad (d : EventData) (k : Nat) : Bytes :=
  match d with
  | .raw x => leBytes 4 x.length ++ x
  | .event3 e => leBytes 4 (16 + (encEvent3Fields e).length + k) ++ (event3Signature ++ (encEvent3Fields e ++ zeros k))

/-- What the writer accepts: MarshalToBytes refuses an Event3 larger than `maxGuidHobDataSize`. -/
def EventData.InRange (d : EventData) : Prop :=
  match d with
  | .raw x => x.length < 2 ^ 32 ∧ ¬ HasSig x
  | .event3 e => e.InRange ∧ 16 + (encEvent3Fields e).length ≤ maxGuidHobDataSize

instance (d : EventData) : Decidable d.InRange := by
  cases d <;> (unfold EventData.InRange; exact inferInstance)

theorem EventData.InRange.pad {d : EventData} (h : d.InRange) : d.InRangePad 0 := by
  cases d with
  | raw x => exact h
  | event3 e =>
    have : maxGuidHobDataSize = 65504 := rfl
    exact ⟨h.1, by have := h.2; omega⟩

theorem sig_length : event3Signature.length = 16 := rfl

theorem writeEventData_eq (d : EventData) (h : d.InRange) : writeEventData d = some (encEventDataPad d 0) := by
  cases d with
  | raw x => rfl
  | event3 e =>
    obtain ⟨h1, h2⟩ := h
    simp only [writeEventData, marshalEvent3, writeEvent3Fields_eq e h1]
    rw [if_neg (by simp only [List.length_append, sig_length]; omega)]
    simp [encEventDataPad, zeros, sig_length]

theorem writeEventData_strict_large (e : Event3) (h : e.InRange)
    (hl : 16 + (encEvent3Fields e).length > maxGuidHobDataSize) : writeEventData (.event3 e) = none := by
  simp only [writeEventData, marshalEvent3, writeEvent3Fields_eq e h]
  rw [if_pos (by simp only [List.length_append, sig_length]; omega)]

/-- what the size prefix of a TCGEventData counts: the raw bytes, or the signature, the fields and `k` zero bytes -/
def EventData.payload (k : Nat) : EventData → Bytes
  | .raw x => x
  | .event3 e => event3Signature ++ (encEvent3Fields e ++ zeros k)

theorem encEventDataPad_eq (d : EventData) (k : Nat) : encEventDataPad d k = encSized 4 (d.payload k) := by
  cases d with
  | raw x => rfl
  | event3 e => simp [encEventDataPad, encSized, EventData.payload, sig_length, zeros_length, Nat.add_assoc]

theorem EventData.InRangePad.payload_lt {d : EventData} {k : Nat} (h : d.InRangePad k) :
    (d.payload k).length < 256 ^ 4 := by
  cases d with
  | raw x => exact h.1
  | event3 e => have := h.2; simp [EventData.payload, sig_length, zeros_length]; omega

/-- the test TCGEventData.Unmarshal makes on a chunk of the declared size -/
theorem hasSig_iff (x : Bytes) : (decide (x.length ≥ 16) && x.take 16 == event3Signature) = true ↔ HasSig x := by
  simp [HasSig]

theorem hasSig_append (x : Bytes) : HasSig (event3Signature ++ x) := ⟨by simp [sig_length], List.take_left' sig_length⟩

theorem readEventData_enc (cfg : Cfg) (d : EventData) (k : Nat) (t : Bytes) (g : Good cfg) (h : d.InRangePad k) :
    readEventData cfg (encEventDataPad d k ++ t) = .ok d t := by
  rw [encEventDataPad_eq, readEventData, encSized, List.append_assoc, readLE_append 4 _ _ h.payload_lt, andThen_ok,
    readBody_append cfg false _ t (g.noEmpty _ t), andThen_ok]
  cases d with
  | raw x => exact if_neg (mt (hasSig_iff x).1 h.2)
  | event3 e =>
    rw [EventData.payload, if_pos ((hasSig_iff _).2 (hasSig_append _)), List.drop_left' sig_length,
      unmarshalEvent3_enc cfg.strict e k h.1]

theorem readEventData_canon {cfg : Cfg} {b rest : Bytes} {d : EventData} (hs : cfg.strict = true)
    (h : readEventData cfg b = .ok d rest) : ∃ k, b = encEventDataPad d k ++ rest ∧ d.InRangePad k := by
  obtain ⟨size, r1, h1, h2⟩ := andThen_ok_inv h
  obtain ⟨chunk, r2, h3, h4⟩ := andThen_ok_inv h2
  obtain ⟨hb, hlt⟩ := readLE_ok_inv h1
  obtain ⟨hr, rfl⟩ := readBody_ok_inv (Or.inl hs) h3
  suffices ∃ k, chunk = d.payload k ∧ r2 = rest ∧ d.InRangePad k by
    obtain ⟨k, rfl, rfl, hin⟩ := this
    exact ⟨k, by rw [hb, hr, encEventDataPad_eq, encSized, List.append_assoc], hin⟩
  split at h4
  · next hc =>
    rw [hs] at h4
    split at h4
    · next e r hu =>
      cases h4
      obtain ⟨_, hin, k, hk⟩ := unmarshalEvent3_canon hu
      have hchunk : chunk = event3Signature ++ (encEvent3Fields e ++ zeros k) := by
        rw [← hk, ← ((hasSig_iff chunk).1 hc).2, List.take_append_drop]
      refine ⟨k, hchunk, rfl, hin, ?_⟩
      have := congrArg List.length hchunk
      simp [sig_length, zeros_length] at this
      omega
    · cases h4
    · cases h4
  · next hc =>
    cases h4
    exact ⟨0, rfl, rfl, hlt, mt (hasSig_iff chunk).2 hc⟩

def PcrEvent.InRangePad (k : Nat) (e : PcrEvent) : Prop :=
  e.pcrIndex < 2 ^ 32 ∧ e.eventType < 2 ^ 32 ∧ e.sha1.length = 20 ∧ e.data.InRangePad k
def PcrEvent.InRange (e : PcrEvent) : Prop :=
  e.pcrIndex < 2 ^ 32 ∧ e.eventType < 2 ^ 32 ∧ e.sha1.length = 20 ∧ e.data.InRange

instance (k : Nat) (e : PcrEvent) : Decidable (e.InRangePad k) := by unfold PcrEvent.InRangePad; exact inferInstance
instance (e : PcrEvent) : Decidable e.InRange := by unfold PcrEvent.InRange; exact inferInstance

def encPcrEventPad (e : PcrEvent) (k : Nat) : Bytes :=
  leBytes 4 e.pcrIndex ++ (leBytes 4 e.eventType ++ (e.sha1 ++ encEventDataPad e.data k))

theorem writePcrEvent_eq (e : PcrEvent) (h : e.InRange) : writePcrEvent e = some (encPcrEventPad e 0) := by
  simp only [writePcrEvent, writeEventData_eq e.data h.2.2.2, optAppend, encPcrEventPad, List.append_assoc]

theorem readPcrEvent_enc (cfg : Cfg) (e : PcrEvent) (k : Nat) (t : Bytes) (g : Good cfg) (h : e.InRangePad k) :
    readPcrEvent cfg (encPcrEventPad e k ++ t) = .ok e t := by
  obtain ⟨h1, h2, h3, h4⟩ := h
  simp only [readPcrEvent, encPcrEventPad, List.append_assoc]
  rw [readLE_append 4 _ _ h1, andThen_ok, readLE_append 4 _ _ h2, andThen_ok,
    readFull_append _ _ 20 h3, andThen_ok, readEventData_enc cfg e.data k t g h4, andThen_ok]

theorem readPcrEvent_canon {cfg : Cfg} {b rest : Bytes} {e : PcrEvent} (hs : cfg.strict = true)
    (h : readPcrEvent cfg b = .ok e rest) : ∃ k, b = encPcrEventPad e k ++ rest ∧ e.InRangePad k := by
  simp only [readPcrEvent] at h
  obtain ⟨v1, b1, r1, h⟩ := andThen_ok_inv h
  obtain ⟨v2, b2, r2, h⟩ := andThen_ok_inv h
  obtain ⟨v3, b3, r3, h⟩ := andThen_ok_inv h
  obtain ⟨v4, b4, r4, h⟩ := andThen_ok_inv h
  cases h
  obtain ⟨q1, p1⟩ := readLE_ok_inv r1
  obtain ⟨q2, p2⟩ := readLE_ok_inv r2
  obtain ⟨q3, p3⟩ := readFull_ok_inv r3
  obtain ⟨k, q4, p4⟩ := readEventData_canon hs r4
  refine ⟨k, ?_, p1, p2, p3, p4⟩
  simp only [encPcrEventPad, List.append_assoc]
  rw [q1, q2, q3, q4]

def Event2.InRangePad (k : Nat) (e : Event2) : Prop :=
  e.pcrIndex < 2 ^ 32 ∧ e.eventType < 2 ^ 32 ∧ e.digests.length < 2 ^ 32 ∧ (∀ d ∈ e.digests, d.InRange) ∧ e.data.InRangePad k
def Event2.InRange (e : Event2) : Prop :=
  e.pcrIndex < 2 ^ 32 ∧ e.eventType < 2 ^ 32 ∧ e.digests.length < 2 ^ 32 ∧ (∀ d ∈ e.digests, d.InRange) ∧ e.data.InRange

instance (k : Nat) (e : Event2) : Decidable (e.InRangePad k) := by unfold Event2.InRangePad; exact inferInstance
instance (e : Event2) : Decidable e.InRange := by unfold Event2.InRange; exact inferInstance

def encEvent2Pad (e : Event2) (k : Nat) : Bytes :=
  leBytes 4 e.pcrIndex ++ (leBytes 4 e.eventType ++ (encDigestArray e.digests ++ encEventDataPad e.data k))

theorem writeEvent2_eq (e : Event2) (h : e.InRange) : writeEvent2 e = some (encEvent2Pad e 0) := by
  simp only [writeEvent2, writeDigestArray_eq e.digests h.2.2.2.1, writeEventData_eq e.data h.2.2.2.2, optAppend,
    encEvent2Pad, List.append_assoc]

theorem Event2.InRange.pad {e : Event2} (h : e.InRange) : e.InRangePad 0 :=
  ⟨h.1, h.2.1, h.2.2.1, h.2.2.2.1, h.2.2.2.2.pad⟩
theorem PcrEvent.InRange.pad {e : PcrEvent} (h : e.InRange) : e.InRangePad 0 :=
  ⟨h.1, h.2.1, h.2.2.1, h.2.2.2.pad⟩

theorem readEvent2_enc (cfg : Cfg) (e : Event2) (k : Nat) (t : Bytes) (g : Good cfg) (h : e.InRangePad k) :
    readEvent2 cfg (encEvent2Pad e k ++ t) = .ok e t := by
  obtain ⟨h1, h2, h3, h4, h5⟩ := h
  simp only [readEvent2, encEvent2Pad, List.append_assoc]
  rw [readLE_append 4 _ _ h1, andThen_ok, readLE_append 4 _ _ h2, andThen_ok,
    readDigestArray_enc _ _ h3 h4, andThen_ok, readEventData_enc cfg e.data k t g h5, andThen_ok]

theorem readEvent2_canon {cfg : Cfg} {b rest : Bytes} {e : Event2} (hs : cfg.strict = true)
    (h : readEvent2 cfg b = .ok e rest) : ∃ k, b = encEvent2Pad e k ++ rest ∧ e.InRangePad k := by
  simp only [readEvent2] at h
  obtain ⟨v1, b1, r1, h⟩ := andThen_ok_inv h
  obtain ⟨v2, b2, r2, h⟩ := andThen_ok_inv h
  obtain ⟨v3, b3, r3, h⟩ := andThen_ok_inv h
  obtain ⟨v4, b4, r4, h⟩ := andThen_ok_inv h
  cases h
  obtain ⟨q1, p1⟩ := readLE_ok_inv r1
  obtain ⟨q2, p2⟩ := readLE_ok_inv r2
  obtain ⟨q3, p3, p3'⟩ := readDigestArray_canon r3
  obtain ⟨k, q4, p4⟩ := readEventData_canon hs r4
  refine ⟨k, ?_, p1, p2, p3, p3', p4⟩
  simp only [encEvent2Pad, List.append_assoc]
  rw [q1, q2, q3, q4]

theorem encEvent2Pad_length_pos (e : Event2) (k : Nat) : 0 < (encEvent2Pad e k).length := by
  simp [encEvent2Pad]; omega

theorem readEvent2_nil (cfg : Cfg) : readEvent2 cfg [] = .eof := rfl

def Log.InRange (l : Log) : Prop := l.header.InRange ∧ ∀ e ∈ l.events, e.InRange

instance (l : Log) : Decidable l.InRange := by unfold Log.InRange; exact inferInstance

def encEvents : List Event2 → Bytes
  | [] => []
  | e :: es => encEvent2Pad e 0 ++ encEvents es

def encLog (l : Log) : Bytes := encPcrEventPad l.header 0 ++ encEvents l.events

/-- `bs` is an encoding of the events, each Event3 payload possibly zero-padded -/
def EventsEnc : List Event2 → Bytes → Prop
  | [], bs => bs = []
  | e :: es, bs => ∃ k tl, bs = encEvent2Pad e k ++ tl ∧ e.InRangePad k ∧ EventsEnc es tl

def LogEnc (l : Log) (bs : Bytes) : Prop :=
  ∃ k tl, bs = encPcrEventPad l.header k ++ tl ∧ l.header.InRangePad k ∧ EventsEnc l.events tl

theorem writeEvents_eq (es : List Event2) (h : ∀ e ∈ es, e.InRange) : writeEvents es = some (encEvents es) := by
  induction es with
  | nil => rfl
  | cons e es ih =>
    rw [List.forall_mem_cons] at h
    simp only [writeEvents, encEvents, writeEvent2_eq e h.1, ih h.2, optAppend]

theorem writeLog_eq (l : Log) (h : l.InRange) : writeLog l = some (encLog l) := by
  simp only [writeLog, writePcrEvent_eq l.header h.1, writeEvents_eq l.events h.2, optAppend, encLog]

theorem encEvents_length (es : List Event2) : es.length ≤ (encEvents es).length := by
  induction es with
  | nil => simp [encEvents]
  | cons e es ih =>
    simp only [encEvents, List.length_cons, List.length_append]
    have := encEvent2Pad_length_pos e 0
    omega

theorem readEvents_enc (cfg : Cfg) (g : Good cfg) (es : List Event2) (fuel : Nat) (hf : es.length < fuel)
    (h : ∀ e ∈ es, e.InRange) : readEvents cfg fuel (encEvents es) = .ok es [] := by
  induction es generalizing fuel with
  | nil =>
    cases fuel with
    | zero => omega
    | succ f => simp [readEvents, encEvents, readEvent2_nil]
  | cons e es ih =>
    rw [List.forall_mem_cons] at h
    cases fuel with
    | zero => omega
    | succ f =>
      simp only [readEvents, encEvents, readEvent2_enc cfg e 0 _ g h.1.pad,
        ih f (Nat.lt_of_succ_lt_succ hf) h.2, Res.map]

theorem readLog_enc (cfg : Cfg) (g : Good cfg) (l : Log) (h : l.InRange) : readLog cfg (encLog l) = .ok l [] := by
  simp only [readLog, encLog]
  rw [readPcrEvent_enc cfg l.header 0 _ g h.1.pad, andThen_ok,
    readEvents_enc cfg g l.events _ (by have := encEvents_length l.events; omega) h.2]
  rfl

/-- with the repaired code the input is an encoding of exactly the returned events: no tail is dropped -/
theorem readEvents_canon {cfg : Cfg} (hs : cfg.strict = true) (fuel : Nat) {b r : Bytes} {es : List Event2}
    (h : readEvents cfg fuel b = .ok es r) : EventsEnc es b := by
  induction fuel generalizing b es r with
  | zero => cases h
  | succ f ih =>
    simp only [readEvents, hs, if_true] at h
    split at h
    · split at h
      · next hb => cases h; exact List.isEmpty_iff.mp hb
      · cases h
    · cases h
    · next e rest he =>
      obtain ⟨tl, h1, rfl⟩ := map_ok_inv h
      obtain ⟨k, hb, hin⟩ := readEvent2_canon hs he
      exact ⟨k, rest, hb, hin, ih h1⟩

theorem readLog_canon {cfg : Cfg} (hs : cfg.strict = true) {b r : Bytes} {l : Log} (h : readLog cfg b = .ok l r) :
    LogEnc l b := by
  obtain ⟨hdr, rest, h1, h2⟩ := andThen_ok_inv h
  obtain ⟨es, h3, rfl⟩ := map_ok_inv h2
  obtain ⟨k, hb, hin⟩ := readPcrEvent_canon hs h1
  exact ⟨k, rest, hb, hin, readEvents_canon hs _ h3⟩

theorem readEventData_consumes {cfg : Cfg} {b rest : Bytes} {d : EventData} (h : readEventData cfg b = .ok d rest) :
    rest.length + 4 ≤ b.length := by
  obtain ⟨size, r1, h1, h2⟩ := andThen_ok_inv h
  obtain ⟨chunk, r2, h3, h4⟩ := andThen_ok_inv h2
  obtain ⟨hr, _⟩ := readBody_ok_inv (Or.inr rfl) h3
  have : r2 = rest := by
    split at h4
    · split at h4
      · cases h4; rfl
      · cases h4
      · cases h4
    · cases h4; rfl
  rw [(readLE_ok_val h1).2, hr, ← this, List.length_append]
  omega

/-- an accepted TCG_PCR_EVENT2 has at least its two fixed fields, a digest count and an event size -/
theorem readEvent2_consumes {cfg : Cfg} {b rest : Bytes} {e : Event2} (h : readEvent2 cfg b = .ok e rest) :
    rest.length + 16 ≤ b.length := by
  simp only [readEvent2] at h
  obtain ⟨v1, b1, r1, h⟩ := andThen_ok_inv h
  obtain ⟨v2, b2, r2, h⟩ := andThen_ok_inv h
  obtain ⟨v3, b3, r3, h⟩ := andThen_ok_inv h
  obtain ⟨v4, b4, r4, h⟩ := andThen_ok_inv h
  cases h
  have q1 := (readLE_ok_val r1).2
  have q2 := (readLE_ok_val r2).2
  have q3 := congrArg List.length (readDigestArray_canon r3).1
  have q4 := readEventData_consumes r4
  rw [List.length_append, encDigestArray, List.length_append, leBytes_length] at q3
  omega

theorem readEvents_fuel (cfg : Cfg) (fuel : Nat) (b : Bytes) (hf : b.length < fuel) (extra : Nat) :
    readEvents cfg (fuel + extra) b = readEvents cfg fuel b := by
  induction fuel generalizing b with
  | zero => exact absurd hf (Nat.not_lt_zero _)
  | succ f ih =>
    rw [Nat.add_right_comm]
    simp only [readEvents]
    cases he : readEvent2 cfg b with
    | eof => rfl
    | fail => rfl
    | ok e rest =>
      simp only
      rw [ih rest (by have := readEvent2_consumes he; omega)]

theorem readBody_kind (k k' : RKind) (zf : Bool) (size : Nat) (b : Bytes) :
    readBody ⟨true, k⟩ zf size b = readBody ⟨true, k'⟩ zf size b := by
  rw [readBody_strict rfl, readBody_strict rfl]

theorem readSizedArray_kind (k k' : RKind) (w : Nat) (b : Bytes) :
    readSizedArray ⟨true, k⟩ w b = readSizedArray ⟨true, k'⟩ w b := by
  simp only [readSizedArray, readBody_kind k k']

theorem readEvent2_kind (k k' : RKind) (b : Bytes) : readEvent2 ⟨true, k⟩ b = readEvent2 ⟨true, k'⟩ b := by
  simp only [readEvent2, readEventData, readBody_kind k k']

theorem readEvents_kind (k k' : RKind) (fuel : Nat) (b : Bytes) :
    readEvents ⟨true, k⟩ fuel b = readEvents ⟨true, k'⟩ fuel b := by
  induction fuel generalizing b with
  | zero => rfl
  | succ f ih =>
    simp only [readEvents, readEvent2_kind k k']
    cases readEvent2 ⟨true, k'⟩ b with
    | eof => rfl
    | fail => rfl
    | ok e rest => simp only [ih]

/-- repaired code: no zero-length Read is issued, so bytes.Buffer / os.File / bytes.Reader agree -/
theorem readLog_kind_irrelevant (k k' : RKind) (b : Bytes) : readLog ⟨true, k⟩ b = readLog ⟨true, k'⟩ b := by
  simp only [readLog, readPcrEvent, readEventData, readBody_kind k k', readEvents_kind k k']

end GceTcb.EventLog
