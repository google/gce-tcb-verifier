import GceTcb.Model.KeyHistory
import GceTcb.Spec.KeyHistory
/-
Helper lemmas for C12 (key-management histories): association lists, certificate creation,
gcsca.Finalize, and the invariants carried through command histories.  Core-only.
-/
namespace GceTcb.KeyHistory
open GceTcb.Gen

section assoc
variable {κ α : Type} [DecidableEq κ]

theorem get_put (l : List (κ × α)) (k k' : κ) (v : α) :
    get (put l k v) k' = if k' = k then some v else get l k' := by
  induction l with
  | nil => rfl
  | cons h t ih =>
    by_cases h1 : k = h.1
    · subst h1; by_cases h2 : k' = h.1 <;> simp [put, get, h2]
    · by_cases h2 : k' = h.1
      · subst h2; simp [put, get, h1, Ne.symm h1]
      · simp [put, get, h1, h2, ih]

theorem get_put_self (l : List (κ × α)) (k : κ) (v : α) : get (put l k v) k = some v := by
  simp [get_put]

theorem get_put_ne (l : List (κ × α)) (k k' : κ) (v : α) (h : k' ≠ k) : get (put l k v) k' = get l k' := by
  simp [get_put, h]

theorem get_put_some {l : List (κ × α)} {k k' : κ} {v x : α} (h : get (put l k v) k' = some x) :
    (k' = k ∧ x = v) ∨ (k' ≠ k ∧ get l k' = some x) := by
  rw [get_put] at h
  by_cases e : k' = k
  · rw [if_pos e] at h; exact Or.inl ⟨e, (Option.some.inj h).symm⟩
  · rw [if_neg e] at h; exact Or.inr ⟨e, h⟩

theorem isSome_get_put {l : List (κ × α)} {k k' : κ} {v : α} (h : (get (put l k v) k').isSome = true) :
    k' = k ∨ (get l k').isSome = true := by
  rw [get_put] at h
  by_cases e : k' = k
  · exact Or.inl e
  · rw [if_neg e] at h; exact Or.inr h

theorem put_same (l : List (κ × α)) (k : κ) (v : α) (h : get l k = some v) : put l k v = l := by
  induction l with
  | nil => cases h
  | cons hd t ih =>
    by_cases h1 : k = hd.1
    · subst h1; simp [get] at h; simp [put, ← h]
    · simp only [get, h1, if_false] at h; simp [put, h1, ih h]

theorem put_keeps {l : List (κ × α)} {k : κ} (v : α) (h : (get l k).isSome = false) {k' : κ} {x : α}
    (hx : get l k' = some x) : get (put l k v) k' = some x := by
  rw [get_put_ne _ _ _ _ (fun e => by rw [← e, hx] at h; cases h)]; exact hx

theorem get_erase (l : List (κ × α)) (k k' : κ) :
    get (erase l k) k' = if k' = k then none else get l k' := by
  induction l with
  | nil => simp [erase, get]
  | cons h t ih =>
    by_cases h1 : k = h.1
    · subst h1; simp only [erase, if_true, ih, get]
      by_cases h2 : k' = h.1 <;> simp [h2]
    · by_cases h2 : k' = h.1
      · subst h2; simp [erase, get, h1, Ne.symm h1]
      · simp [erase, get, h1, h2, ih]

theorem get_nil (k : κ) : get ([] : List (κ × α)) k = none := rfl

theorem get_mem {l : List (κ × α)} {k : κ} {v : α} (h : get l k = some v) : (k, v) ∈ l := by
  induction l with
  | nil => cases h
  | cons hd t ih =>
    by_cases e : k = hd.1
    · simp only [get, e, if_true, Option.some.injEq] at h; rw [e, ← h]; exact List.mem_cons_self
    · simp only [get, e, if_false] at h; exact List.mem_cons_of_mem _ (ih h)

end assoc

theorem get2 {κ α : Type} [DecidableEq κ] (k1 k2 k : κ) (v1 v2 : α) :
    get [(k1, v1), (k2, v2)] k = if k = k1 then some v1 else if k = k2 then some v2 else none := rfl

theorem get_two {κ α : Type} [DecidableEq κ] {k1 k2 k : κ} {v1 v2 v : α} (h : get [(k1, v1), (k2, v2)] k = some v) :
    (k = k1 ∧ v = v1) ∨ (k = k2 ∧ v = v2) := by
  simpa using get_mem h

theorem bump_idx (k : KName) : (bump k).idx = k.idx + 1 := rfl
theorem bump_base (k : KName) : (bump k).base = k.base := rfl

theorem bump_ne {k n : KName} (h : n.idx ≤ k.idx) : bump k ≠ n := by
  intro e
  have : k.idx + 1 = n.idx := congrArg KName.idx e
  omega

theorem bump_ne_root (k : KName) : bump k ≠ rootName := bump_ne (Nat.zero_le _)
theorem bump_ne_noName (k : KName) : bump k ≠ noName := bump_ne (Nat.zero_le _)
theorem bump_ne_self (k : KName) : bump k ≠ k := bump_ne (Nat.le_refl _)

theorem firstName_ne_root : firstName ≠ rootName := by decide
theorem firstName_ne_noName : firstName ≠ noName := by decide
theorem rootName_ne_noName : rootName ≠ noName := by decide
theorem psk_ne_root_base : firstName.base ≠ rootName.base := by decide
theorem psk_ne_empty_base : firstName.base ≠ noName.base := by decide

theorem signCert_some {km : KM} {parent : Option Cert} {n : KName} {t : Tmpl} {c : Cert}
    (h : signCert km parent n t = some c) :
    get km.live n = some c.signerKey ∧
    c = { certSerial := t.certSerial, subjSerial := t.subjSerial, cn := t.cn, subjectKey := t.subjectKey,
          isCA := t.isCA, keyUsage := t.keyUsage, sigAlg := t.sigAlg, notBefore := t.notBefore,
          notAfter := t.notAfter, issuerCn := parent.elim t.cn Cert.cn,
          issuerSerial := parent.elim t.subjSerial Cert.subjSerial,
          issuerKey := parent.elim t.subjectKey Cert.subjectKey,
          signerKey := parent.elim t.subjectKey Cert.subjectKey } := by
  unfold signCert at h
  cases hk : get km.live n with
  | none => rw [hk] at h; cases h
  | some sk =>
    rw [hk] at h
    cases parent with
    | none =>
      dsimp only at h
      by_cases e : sk = t.subjectKey
      · subst e; rw [if_pos rfl] at h; cases h; exact ⟨rfl, rfl⟩
      · rw [if_neg e] at h; cases h
    | some p =>
      dsimp only at h
      by_cases e : sk = p.subjectKey
      · subst e; rw [if_pos rfl] at h; cases h; exact ⟨rfl, rfl⟩
      · rw [if_neg e] at h; cases h

def TmplRootOK (t : Tmpl) : Prop :=
  t.isCA = true ∧ t.keyUsage &&& 32 = 32 ∧ t.notAfter = t.notBefore + rootLifetime

def TmplSignOK (t : Tmpl) : Prop :=
  t.isCA = false ∧ t.keyUsage = 1 ∧ t.sigAlg = 13 ∧ t.notAfter = t.notBefore + signLifetime ∧
  t.certSerial = t.subjSerial

theorem google_root_ok (cn : String) (serial now key : Nat) : TmplRootOK (Tmpl.google true cn serial now key) := by
  exact ⟨rfl, (by show (96 : Nat) &&& 32 = 32; decide), rfl⟩

theorem google_sign_ok (cn : String) (serial now key : Nat) : TmplSignOK (Tmpl.google false cn serial now key) := by
  exact ⟨rfl, rfl, rfl, rfl, rfl⟩

theorem fromCert_root_ok (old : Cert) (cn : String) (serial now key : Nat)
    (h1 : old.isCA = true) (h2 : old.keyUsage &&& 32 = 32) : TmplRootOK (Tmpl.fromCert old cn serial now key) := by
  refine ⟨h1, h2, ?_⟩
  show now + (if old.isCA = true then _ else _) * daySeconds = now + rootLifetime
  rw [if_pos h1]; rfl

theorem fromCert_sign_ok (old : Cert) (cn : String) (serial now key : Nat)
    (h : SignProfile old) : TmplSignOK (Tmpl.fromCert old cn serial now key) := by
  obtain ⟨h1, h2, h3, _, _⟩ := h
  refine ⟨h1, h2, h3, ?_, rfl⟩
  show now + (if old.isCA = true then _ else _) * daySeconds = now + signLifetime
  rw [if_neg (by simp [h1])]; rfl

theorem rootTemplate_ok {cfg : Cfg} {view : CA} {a : BootArgs} {key : Nat} {t : Tmpl}
    (hb : ∀ r, bundle cfg view = some r → r.isCA = true ∧ r.keyUsage &&& 32 = 32)
    (h : rootTemplate cfg view (.boot a) key = some t) : TmplRootOK t := by
  unfold rootTemplate at h
  cases hr : bundle cfg view with
  | none =>
    simp only [hr, CertCtx.rootInfo, Option.some.injEq] at h
    subst h; exact google_root_ok _ _ _ _
  | some r =>
    obtain ⟨h1, h2⟩ := hb r hr
    simp only [hr, templateFromCert, h1, if_true, CertCtx.rootInfo, Option.some.injEq] at h
    subst h; exact fromCert_root_ok _ _ _ _ _ h1 h2

theorem rootTemplate_boot_isSome (cfg : Cfg) (view : CA) (a : BootArgs) (key : Nat) :
    (rootTemplate cfg view (.boot a) key).isSome = true := by
  unfold rootTemplate
  cases bundle cfg view with
  | none => simp [CertCtx.rootInfo]
  | some r =>
    simp only [templateFromCert, CertCtx.rootInfo]
    by_cases h : r.isCA = true <;> simp [h]

/-- The second disjunct: for a CA primary signing certificate `templateFromCert` takes the context's root fields. -/
theorem signingTemplate_serial {view : CA} {ctx : CertCtx} {key : Nat} {t : Tmpl}
    (h : signingTemplate view ctx key = some t) :
    (t.subjSerial = ctx.signInfo.2.1 ∧ t.certSerial = t.subjSerial) ∨
    (∃ p, certificate view view.primarySigning = some p ∧ p.isCA = true) := by
  unfold signingTemplate at h
  cases hc : certificate view view.primarySigning with
  | none =>
    simp only [hc, Option.some.injEq] at h
    subst h; left; exact ⟨rfl, rfl⟩
  | some p =>
    by_cases hca : p.isCA = true
    · right; exact ⟨p, rfl, hca⟩
    · simp [hc, templateFromCert, hca] at h
      subst h; left; exact ⟨rfl, rfl⟩

/-- What upload/uploadAll never touch, and what they keep when overwrite is not allowed. -/
def Ext (f : Flags) (ca ca' : CA) : Prop :=
  ca'.primaryRoot = ca.primaryRoot ∧ ca'.primarySigning = ca.primarySigning ∧ ca'.rootObj = ca.rootObj ∧
  (f.overwrite = false → ∀ p c, get ca.objects p = some c → get ca'.objects p = some c)

theorem Ext.refl (f : Flags) (ca : CA) : Ext f ca ca := ⟨rfl, rfl, rfl, fun _ _ _ h => h⟩

theorem Ext.trans {f : Flags} {a b c : CA} (h1 : Ext f a b) (h2 : Ext f b c) : Ext f a c :=
  ⟨h2.1.trans h1.1, h2.2.1.trans h1.2.1, h2.2.2.1.trans h1.2.2.1,
   fun ho p x hx => h2.2.2.2 ho p x (h1.2.2.2 ho p x hx)⟩

theorem writeIfAllowed_cases {f : Flags} {ca ca' : CA} {p : ObjKey} {c : Cert}
    (h : writeIfAllowed f ca p c = some ca') :
    (ca' = ca ∧ (get ca.objects p).isSome = true ∧ f.overwrite = false ∧ f.keepGoing = true) ∨
    (ca' = { ca with objects := put ca.objects p c } ∧ ((get ca.objects p).isSome = false ∨ f.overwrite = true)) := by
  unfold writeIfAllowed at h
  split at h
  · next h1 =>
    rw [Bool.and_eq_true, Bool.not_eq_true'] at h1
    split at h
    · next h2 => exact Or.inl ⟨(Option.some.inj h).symm, h1.1, h1.2, h2⟩
    · cases h
  · next h1 =>
    refine Or.inr ⟨(Option.some.inj h).symm, ?_⟩
    revert h1; cases (get ca.objects p).isSome <;> cases f.overwrite <;> decide

theorem writeIfAllowed_none {f : Flags} {ca : CA} {p : ObjKey} {c : Cert}
    (h : writeIfAllowed f ca p c = none) :
    (get ca.objects p).isSome = true ∧ f.overwrite = false ∧ f.keepGoing = false := by
  unfold writeIfAllowed at h
  by_cases h1 : ((get ca.objects p).isSome && !f.overwrite) = true
  · simp only [h1, if_true] at h
    simp only [Bool.and_eq_true, Bool.not_eq_true'] at h1
    by_cases h2 : f.keepGoing = true
    · simp [h2] at h
    · exact ⟨h1.1, h1.2, by simpa using h2⟩
  · simp [h1] at h

theorem writeIfAllowed_ext {f : Flags} {ca ca' : CA} {p : ObjKey} {c : Cert}
    (h : writeIfAllowed f ca p c = some ca') : Ext f ca ca' ∧ ca'.entries = ca.entries := by
  rcases writeIfAllowed_cases h with ⟨rfl, _⟩ | ⟨rfl, hc⟩
  · exact ⟨Ext.refl _ _, rfl⟩
  · exact ⟨⟨rfl, rfl, rfl, fun ho _ _ hx => put_keeps _ (hc.resolve_right (by simp [ho])) hx⟩, rfl⟩

/-- The two ways an upload can succeed. -/
def caSkip (ca : CA) (n : KName) (p : ObjKey) : CA := { ca with entries := put ca.entries n p }
def caWrite (ca : CA) (n : KName) (p : ObjKey) (c : Cert) : CA :=
  { ca with entries := put ca.entries n p, objects := put ca.objects p c }

def entryPath (ca : CA) (n : KName) (c : Cert) : ObjKey :=
  match get ca.entries n with
  | some p => p
  | none => certPath c

theorem upload_cases {g : Bool} {f : Flags} {ca ca' : CA} {n : KName} {c : Cert} (h : upload g f ca n c = some ca') :
    (ca' = caSkip ca n (entryPath ca n c) ∧ f.keepGoing = true ∧
      ((get ca.entries n).isSome = true ∨
        ((get ca.objects (entryPath ca n c)).isSome = true ∧ f.overwrite = false ∧ g = false))) ∨
    (ca' = caWrite ca n (entryPath ca n c) c ∧
      ((get ca.objects (entryPath ca n c)).isSome = false ∨ f.overwrite = true) ∧
      ((get ca.entries n).isSome = false ∨ f.keepGoing = false) ∧
      (g = true → heldByOther ca (entryPath ca n c) n = false)) := by
  unfold upload at h
  unfold entryPath
  cases he : get ca.entries n with
  | some p =>
    simp only [he] at h ⊢
    by_cases hk : f.keepGoing = true
    · rw [if_pos hk] at h
      exact Or.inl ⟨by rw [← Option.some.inj h, caSkip, put_same _ _ _ he], hk, Or.inl rfl⟩
    · rw [if_neg hk] at h
      split at h
      · cases h
      · next hh =>
        rcases writeIfAllowed_cases h with ⟨_, _, _, e4⟩ | ⟨e, hc⟩
        · exact absurd e4 hk
        · exact Or.inr ⟨by rw [e, caWrite, put_same _ _ _ he], hc, Or.inr (by simpa using hk),
            fun hg => by simpa [hg] using hh⟩
  | none =>
    simp only [he] at h ⊢
    split at h
    · cases h
    · next hh =>
      cases hw : writeIfAllowed f ca (certPath c) c with
      | none => rw [hw] at h; cases h
      | some ca1 =>
        simp only [hw] at h
        split at h
        · cases h
        · next h2 =>
          rw [← Option.some.inj h]
          rcases writeIfAllowed_cases hw with ⟨e, e2, e3, e4⟩ | ⟨e, hc⟩ <;> subst e
          · exact Or.inl ⟨rfl, e4, Or.inr ⟨e2, e3, by simpa [e2, e3] using h2⟩⟩
          · exact Or.inr ⟨rfl, hc, Or.inl rfl, fun hg => by simpa [hg] using hh⟩

theorem upload_ext {g : Bool} {f : Flags} {ca ca' : CA} {n : KName} {c : Cert} (h : upload g f ca n c = some ca') :
    Ext f ca ca' := by
  rcases upload_cases h with ⟨rfl, _, _⟩ | ⟨rfl, hc, _⟩
  · exact ⟨rfl, rfl, rfl, fun _ _ _ hx => hx⟩
  · exact ⟨rfl, rfl, rfl, fun ho _ _ hx => put_keeps _ (hc.resolve_right (by simp [ho])) hx⟩

theorem uploadAll_ext (g : Bool) (f : Flags) (l : List (KName × Cert)) (ca : CA) : Ext f ca (uploadAll g f ca l).1 := by
  induction l generalizing ca with
  | nil => exact Ext.refl _ _
  | cons hd t ih =>
    obtain ⟨n, c⟩ := hd
    unfold uploadAll
    cases hu : upload g f ca n c with
    | none => exact Ext.refl _ _
    | some ca' => exact (upload_ext hu).trans (ih ca')

theorem abortTo_self (ca : CA) : abortTo ca ca = ca := by cases ca; rfl

/-- the authority Finalize starts uploading into: the stored one with the mutation's primaries -/
def Mut.start (m : Mut) (ca : CA) : CA :=
  { ca with primaryRoot := m.pr.getD ca.primaryRoot, primarySigning := m.ps.getD ca.primarySigning }

/-- The middle case: no root certificate in the mutation, or keep_going over an existing root object. -/
theorem gcsFinalize_cases (g : Bool) (f : Flags) (ca : CA) (m : Mut) :
    (gcsFinalize g f ca m).1 = abortTo ca (uploadAll g f (m.start ca) m.certs).1 ∨
    (gcsFinalize g f ca m).1 = (uploadAll g f (m.start ca) m.certs).1 ∨
    ∃ r, m.root = some r ∧ ((uploadAll g f (m.start ca) m.certs).1.rootObj = none ∨ f.overwrite = true) ∧
      (gcsFinalize g f ca m).1 = { (uploadAll g f (m.start ca) m.certs).1 with rootObj := some r } := by
  unfold gcsFinalize Mut.start
  generalize uploadAll g f _ m.certs = u
  cases u with
  | mk ca1 ok =>
    cases ok with
    | false => exact Or.inl rfl
    | true =>
      cases hr : m.root with
      | none => exact Or.inr (Or.inl rfl)
      | some r =>
        simp only [writeRoot]
        by_cases h1 : (ca1.rootObj.isSome && !f.overwrite) = true
        · rw [if_pos h1]
          cases f.keepGoing
          · exact Or.inl rfl
          · exact Or.inr (Or.inl rfl)
        · rw [if_neg h1]
          refine Or.inr (Or.inr ⟨r, rfl, ?_, rfl⟩)
          cases ho : f.overwrite
          · cases hg : ca1.rootObj
            · exact Or.inl rfl
            · rw [ho, hg] at h1; exact absurd rfl h1
          · exact Or.inr rfl

theorem gcsFinalize_ext (g : Bool) (f : Flags) (ca : CA) (m : Mut) :
    (f.overwrite = false → ∀ p c, get ca.objects p = some c → get (gcsFinalize g f ca m).1.objects p = some c) ∧
    ((gcsFinalize g f ca m).1.rootObj = ca.rootObj ∨
      (∃ r, m.root = some r ∧ (gcsFinalize g f ca m).1.rootObj = some r ∧ (ca.rootObj = none ∨ f.overwrite = true))) := by
  obtain ⟨_, _, hr, ho⟩ := uploadAll_ext g f m.certs (m.start ca)
  rcases gcsFinalize_cases g f ca m with e | e | ⟨r, e1, e2, e⟩ <;> rw [e]
  · exact ⟨ho, Or.inl hr⟩
  · exact ⟨ho, Or.inl hr⟩
  · exact ⟨ho, Or.inr ⟨r, e1, rfl, hr ▸ e2⟩⟩

def Keeps (ca ca' : CA) : Prop :=
  (∀ p x, get ca.objects p = some x → get ca'.objects p = some x) ∧ (∀ r, ca.rootObj = some r → ca'.rootObj = some r)

theorem Keeps.refl (ca : CA) : Keeps ca ca := ⟨fun _ _ h => h, fun _ h => h⟩

theorem gcsFinalize_keeps (g : Bool) {f : Flags} (hf : f.overwrite = false) (ca : CA) (m : Mut) :
    Keeps ca (gcsFinalize g f ca m).1 := by
  obtain ⟨e1, e2⟩ := gcsFinalize_ext g f ca m
  refine ⟨e1 hf, fun r hr => ?_⟩
  rcases e2 with e | ⟨_, _, _, e | e⟩
  · rw [e]; exact hr
  · rw [hr] at e; cases e
  · rw [hf] at e; cases e

/-- The `if` branch: the repaired upload (`g`) refuses the second certificate, its object being recorded for the
    first key version. -/
theorem gcsFinalize_empty_two (g : Bool) (f : Flags) (a b n1 n2 : KName) (c1 c2 r : Cert) (hn : n1 ≠ n2)
    (hg : certPath c1 = certPath c2 → g = true) :
    gcsFinalize g f CA.empty ⟨some a, some b, [(n1, c1), (n2, c2)], some r⟩ =
      if certPath c1 = certPath c2 then (⟨noName, noName, [], [(certPath c1, c1)], none⟩, false)
      else (⟨a, b, [(n1, certPath c1), (n2, certPath c2)], [(certPath c1, c1), (certPath c2, c2)], some r⟩, true) := by
  have hn' : n2 ≠ n1 := fun e => hn e.symm
  by_cases hp : certPath c1 = certPath c2
  · rw [if_pos hp, hg hp]
    simp [gcsFinalize, uploadAll, upload, heldByOther, writeIfAllowed, CA.empty, get, put, abortTo, hn, hn', hp]
  · rw [if_neg hp]
    have hp' : certPath c2 ≠ certPath c1 := fun e => hp e.symm
    simp [gcsFinalize, uploadAll, upload, heldByOther, writeIfAllowed, writeRoot, CA.empty, get, put, hn, hn', hp, hp']

/-! ### the root certificate served by the authority (all histories) -/

def MemRootInv (ca : CA) : Prop :=
  (∀ r, certificate ca rootName = some r → RootProfile r) ∧
  (∀ n p, get ca.entries n = some p → p = .byName n) ∧
  get ca.entries noName = none ∧
  (ca.primaryRoot = rootName ∨ ca.primaryRoot = noName)

def GcsRootInv (ca : CA) : Prop := ∀ r, ca.rootObj = some r → RootProfile r

def RootInv (cfg : Cfg) (ca : CA) : Prop :=
  (cfg.ca = .memca → MemRootInv ca) ∧ (cfg.ca = .gcsca → GcsRootInv ca)

theorem RootInv.mem {cfg : Cfg} {ca : CA} (hc : cfg.ca = .memca) (h : MemRootInv ca) : RootInv cfg ca :=
  ⟨fun _ => h, fun e => (by rw [hc] at e; cases e)⟩

theorem RootInv.gcs {cfg : Cfg} {ca : CA} (hc : cfg.ca = .gcsca) (h : GcsRootInv ca) : RootInv cfg ca :=
  ⟨fun e => (by rw [hc] at e; cases e), fun _ => h⟩

theorem certificate_empty (n : KName) : certificate CA.empty n = none := rfl

theorem certificate_some {ca : CA} {n : KName} {c : Cert} (h : certificate ca n = some c) :
    ∃ p, get ca.entries n = some p ∧ get ca.objects p = some c := by
  unfold certificate at h
  cases he : get ca.entries n with
  | none => rw [he] at h; cases h
  | some p => rw [he] at h; exact ⟨p, rfl, h⟩

theorem RootInv_empty (cfg : Cfg) : RootInv cfg CA.empty :=
  ⟨fun _ => ⟨fun _ h => (nomatch h), fun _ _ h => (nomatch h), rfl, Or.inr rfl⟩, fun _ _ h => (nomatch h)⟩

theorem RootInv_bundle {cfg : Cfg} {ca : CA} (h : RootInv cfg ca) {r : Cert} (hb : bundle cfg ca = some r) :
    RootProfile r := by
  unfold bundle at hb
  cases hc : cfg.ca with
  | gcsca => rw [hc] at hb; exact h.2 hc r hb
  | memca =>
    rw [hc] at hb
    obtain ⟨h1, _, h3, h4⟩ := h.1 hc
    rcases h4 with e | e
    · rw [e] at hb; exact h1 r hb
    · rw [e] at hb; simp [certificate, h3] at hb

theorem certificate_memPut (ca : CA) (n m : KName) (c : Cert)
    (hs : ∀ k p, get ca.entries k = some p → p = .byName k) :
    certificate (memPut ca n c) m = if m = n then some c else certificate ca m := by
  unfold certificate memPut
  by_cases e : m = n
  · subst e; simp [get_put_self]
  · simp only [get_put_ne _ _ _ _ e, e, if_false]
    cases hm : get ca.entries m with
    | none => rfl
    | some p =>
      rw [hs m p hm]
      exact get_put_ne _ _ _ _ (fun h => e (ObjKey.byName.inj h))

theorem MemRootInv_memPut {ca : CA} (h : MemRootInv ca) (n : KName) (c : Cert)
    (hn : n ≠ noName) (hc : n = rootName → RootProfile c) : MemRootInv (memPut ca n c) := by
  obtain ⟨h1, h2, h3, h4⟩ := h
  refine ⟨fun r hr => ?_, fun k p hk => ?_, ?_, h4⟩
  · rw [certificate_memPut _ _ _ _ h2] at hr
    by_cases e : rootName = n
    · rw [if_pos e] at hr; exact Option.some.inj hr ▸ hc e.symm
    · rw [if_neg e] at hr; exact h1 r hr
  · rcases get_put_some hk with ⟨e, rfl⟩ | ⟨_, hk⟩
    · rw [e]
    · exact h2 k p hk
  · exact (get_put_ne _ _ _ _ (Ne.symm hn)).trans h3

theorem GcsRootInv_gcsFinalize (g : Bool) (f : Flags) {ca : CA} (h : GcsRootInv ca) (m : Mut)
    (hr : ∀ r, m.root = some r → RootProfile r) : GcsRootInv (gcsFinalize g f ca m).1 := by
  intro x hx
  rcases (gcsFinalize_ext g f ca m).2 with e | ⟨r, e1, e2, _⟩
  · exact h x (e ▸ hx)
  · rw [e2] at hx; exact Option.some.inj hx ▸ hr r e1

theorem RootInv_caAfterRotate {cfg : Cfg} {ca : CA} (h : RootInv cfg ca) (f : Flags) (kver : KName)
    (oc : Option Cert) (h1 : kver ≠ rootName) (h2 : kver ≠ noName) :
    RootInv cfg (caAfterRotate cfg f ca kver oc).1 := by
  unfold caAfterRotate
  cases hc : cfg.ca with
  | memca =>
    apply RootInv.mem hc
    cases oc with
    | none => exact h.1 hc
    | some c => exact MemRootInv_memPut (h.1 hc) kver c h2 (fun e => absurd e h1)
  | gcsca => exact RootInv.gcs hc (GcsRootInv_gcsFinalize _ f (h.2 hc) _ (fun _ hr => nomatch hr))

theorem RootInv_bootView {cfg : Cfg} {ca : CA} (h : RootInv cfg ca) : RootInv cfg (bootView cfg ca) := by
  unfold bootView
  cases hc : cfg.ca with
  | memca =>
    obtain ⟨h1, h2, h3, _⟩ := h.1 hc
    exact RootInv.mem hc ⟨h1, h2, h3, Or.inl rfl⟩
  | gcsca => exact RootInv.gcs hc (h.2 hc)

theorem RootInv_bootPutRoot {cfg : Cfg} {ca : CA} (h : RootInv cfg ca) (rc : Cert) (hrc : RootProfile rc) :
    RootInv cfg (bootPutRoot cfg ca rc) := by
  unfold bootPutRoot
  cases hc : cfg.ca with
  | memca =>
    exact RootInv.mem hc (MemRootInv_memPut (h.1 hc) rootName rc rootName_ne_noName (fun _ => hrc))
  | gcsca => exact RootInv.gcs hc (h.2 hc)

theorem RootInv_bootCommit {cfg : Cfg} {stored view2 : CA} (hs : RootInv cfg stored) (hv : RootInv cfg view2)
    (f : Flags) {rc : Cert} (hrc : RootProfile rc) (sc : Cert) :
    RootInv cfg (bootCommit cfg f stored view2 rc sc).1 := by
  unfold bootCommit
  cases hc : cfg.ca with
  | memca =>
    exact RootInv.mem hc
      (MemRootInv_memPut (hv.1 hc) firstName sc firstName_ne_noName (fun e => absurd e firstName_ne_root))
  | gcsca =>
    exact RootInv.gcs hc (GcsRootInv_gcsFinalize _ f (hs.2 hc) _ (fun r hr => Option.some.inj hr ▸ hrc))

theorem rootProfile_of_signed {km : KM} {n : KName} {t : Tmpl} {c : Cert} (ht : TmplRootOK t)
    (h : signCert km none n t = some c) : RootProfile c := by
  obtain ⟨_, rfl⟩ := signCert_some h
  exact ⟨ht.1, ht.2.1, rfl, rfl, rfl, rfl, ht.2.2⟩

theorem signProfile_of_signed {km : KM} {r : Cert} {n : KName} {t : Tmpl} {c : Cert} (ht : TmplSignOK t)
    (h : signCert km (some r) n t = some c) : SignProfile c ∧ IssuedBy r c := by
  obtain ⟨_, rfl⟩ := signCert_some h
  exact ⟨ht, rfl, rfl, rfl⟩

/-- How rotate.Bootstrap, once both keys exist, leaves the authority (`r` is its result): it stopped before there
    is a root certificate (memca has applied the primaries), after it (memca has recorded it), or committed both
    certificates.  Also what is left when crypto/x509 refuses a certificate (`KeyCli.bootCertsX`). -/
def BootShape (cfg : Cfg) (f : Flags) (a : BootArgs) (km : KM) (rk : Nat) (stored : CA) (r : CA × Bool) : Prop :=
  r = (bootView cfg stored, false) ∨
  ∃ rt rc, rootTemplate cfg (bootView cfg stored) (.boot a) rk = some rt ∧ signCert km none rootName rt = some rc ∧
    (r = (bootPutRoot cfg (bootView cfg stored) rc, false) ∨
     ∃ sc, r = bootCommit cfg f stored (bootPutRoot cfg (bootView cfg stored) rc) rc sc)

theorem bootCerts_cases (cfg : Cfg) (f : Flags) (a : BootArgs) (km : KM) (rk fk : Nat) (stored : CA) :
    BootShape cfg f a km rk stored (bootCerts cfg f a km rk fk stored) := by
  unfold BootShape bootCerts
  cases rootTemplate cfg (bootView cfg stored) (.boot a) rk with
  | none => exact Or.inl rfl
  | some rt =>
    simp only []
    cases hrc : signCert km none rootName rt with
    | none => exact Or.inl rfl
    | some rc =>
      refine Or.inr ⟨rt, rc, rfl, hrc, ?_⟩
      simp only []
      cases signingTemplate (bootPutRoot cfg (bootView cfg stored) rc) (.boot a) fk with
      | none => exact Or.inl rfl
      | some st =>
        simp only []
        cases signCert km (some rc) rootName st with
        | none => exact Or.inl rfl
        | some sc => exact Or.inr ⟨sc, rfl⟩

theorem bootRoot_profile {cfg : Cfg} {view : CA} (hv : RootInv cfg view) {a : BootArgs} {km : KM} {rk : Nat}
    {rt : Tmpl} {rc : Cert} (hrt : rootTemplate cfg view (.boot a) rk = some rt)
    (hrc : signCert km none rootName rt = some rc) : RootProfile rc :=
  rootProfile_of_signed
    (rootTemplate_ok (fun r hr => ⟨(RootInv_bundle hv hr).1, (RootInv_bundle hv hr).2.1⟩) hrt) hrc

theorem RootInv_of_bootShape {cfg : Cfg} {stored : CA} (h : RootInv cfg stored) {f : Flags} {a : BootArgs}
    {km : KM} {rk : Nat} {r : CA × Bool} (hs : BootShape cfg f a km rk stored r) : RootInv cfg r.1 := by
  have hv := RootInv_bootView h
  rcases hs with e | ⟨rt, rc, hrt, hrc, e | ⟨sc, e⟩⟩ <;> rw [e]
  · exact hv
  · exact RootInv_bootPutRoot hv rc (bootRoot_profile hv hrt hrc)
  · exact RootInv_bootCommit h (RootInv_bootPutRoot hv rc (bootRoot_profile hv hrt hrc)) f
      (bootRoot_profile hv hrt hrc) sc

/-- The cloned certificate is not a CA certificate: a rotation context has no root fields to clone one for. -/
theorem signingTemplate_rot {view : CA} {cn : String} {n now key : Nat} {t : Tmpl}
    (h : signingTemplate view (.rot cn n now) key = some t) :
    t = Tmpl.google false cn n now key ∨
    ∃ p, certificate view view.primarySigning = some p ∧ p.isCA = false ∧ t = Tmpl.fromCert p cn n now key := by
  unfold signingTemplate at h
  cases hc : certificate view view.primarySigning with
  | none => rw [hc] at h; exact Or.inl (Option.some.inj h).symm
  | some p =>
    simp only [hc, templateFromCert] at h
    cases hca : p.isCA with
    | true => rw [hca, if_pos rfl] at h; cases h
    | false => rw [hca, if_neg Bool.false_ne_true] at h; exact Or.inr ⟨p, rfl, hca, (Option.some.inj h).symm⟩

theorem rotCert_some {cfg : Cfg} {s : State} {cn : String} {n now : Nat} {c : Cert}
    (h : rotCert cfg s cn n now = some c) :
    rotGuard cfg s.ca = true ∧
    ∃ t, signingTemplate s.ca (.rot cn n now) s.km.next = some t ∧
      signCert (s.km.gen (bump s.ca.primarySigning)) (bundle cfg s.ca) s.ca.primaryRoot t = some c := by
  unfold rotCert at h
  by_cases hg : rotGuard cfg s.ca = true
  · simp only [hg, if_true] at h
    cases ht : signingTemplate s.ca (.rot cn n now) s.km.next with
    | none => simp [ht] at h
    | some t => simp only [ht] at h; exact ⟨hg, t, rfl, h⟩
  · simp [hg] at h

theorem rotCert_fields {cfg : Cfg} {s : State} {cn : String} {n now : Nat} {c : Cert}
    (h : rotCert cfg s cn n now = some c) :
    c.subjSerial = n ∧ c.certSerial = n ∧ c.cn = cn ∧ c.notBefore = now ∧ c.subjectKey = s.km.next := by
  obtain ⟨_, t, ht, hs⟩ := rotCert_some h
  obtain ⟨_, rfl⟩ := signCert_some hs
  rcases signingTemplate_rot ht with rfl | ⟨_, _, _, rfl⟩ <;> exact ⟨rfl, rfl, rfl, rfl, rfl⟩

theorem gcsFinalize_one (g : Bool) (f : Flags) (ca : CA) (kver : KName) (c : Cert) :
    gcsFinalize g f ca ⟨none, some kver, [(kver, c)], none⟩ =
      match upload g f { ca with primarySigning := kver } kver c with
      | none => (ca, false)
      | some ca1 => (ca1, true) := by
  simp only [gcsFinalize, uploadAll, Option.getD]
  cases upload g f { ca with primarySigning := kver } kver c <;> rfl

theorem caAfterRotate_fail {cfg : Cfg} {f : Flags} {ca : CA} {kver : KName} {oc : Option Cert}
    (h : (caAfterRotate cfg f ca kver oc).2 = false) : (caAfterRotate cfg f ca kver oc).1 = ca := by
  unfold caAfterRotate at h ⊢
  cases hc : cfg.ca with
  | memca => rw [hc] at h; cases h
  | gcsca =>
    rw [hc] at h
    cases oc with
    | none => cases h
    | some c =>
      simp only [rotCerts, gcsFinalize_one] at h ⊢
      cases hu : upload cfg.guard f { ca with primarySigning := kver } kver c with
      | none => rfl
      | some ca1 => rw [hu] at h; cases h

theorem caAfterRotate_ok_nokg {cfg : Cfg} {f : Flags} {ca : CA} {kver : KName} {c : Cert}
    (h : (caAfterRotate cfg f ca kver (some c)).2 = true) (hk : f.keepGoing = false) :
    (caAfterRotate cfg f ca kver (some c)).1.primarySigning = kver ∧
    certificate (caAfterRotate cfg f ca kver (some c)).1 kver = some c := by
  unfold caAfterRotate at h ⊢
  cases hc : cfg.ca with
  | memca => simp [memAdd, memPut, certificate, get_put_self]
  | gcsca =>
    rw [hc] at h
    simp only [rotCerts, gcsFinalize_one] at h ⊢
    cases hu : upload cfg.guard f { ca with primarySigning := kver } kver c with
    | none => rw [hu] at h; cases h
    | some ca1 =>
      rcases upload_cases hu with ⟨_, e2, _⟩ | ⟨rfl, _, _⟩
      · rw [hk] at e2; cases e2
      · simp [caWrite, certificate, get_put_self]

/-- rotate.Key in both sequencings.  Second case: signAndAdd's guard passed; `rotCert` is none there only in the
    eager sequencing (signing failed). -/
theorem rotateKey_cases (cfg : Cfg) (f : Flags) (s : State) (cn : String) (n now : Nat) :
    rotateKey cfg f s cn n now = (⟨s.km.gen (bump s.ca.primarySigning), s.ca⟩, false) ∨
    rotGuard cfg s.ca = true ∧
      (rotateKey cfg f s cn n now).1 =
        ⟨destroyOld (s.km.gen (bump s.ca.primarySigning)) s.ca.primarySigning,
         (caAfterRotate cfg f s.ca (bump s.ca.primarySigning) (rotCert cfg s cn n now)).1⟩ ∧
      ((rotateKey cfg f s cn n now).2 = true → (rotCert cfg s cn n now).isSome = true ∧
        (caAfterRotate cfg f s.ca (bump s.ca.primarySigning) (rotCert cfg s cn n now)).2 = true) := by
  unfold rotateKey
  by_cases hs : cfg.seq = true
  · rw [if_pos hs]
    unfold rotateSeq
    cases hr : rotCert cfg s cn n now with
    | none => exact Or.inl rfl
    | some c =>
      simp only []
      by_cases hf : (caAfterRotate cfg f s.ca (bump s.ca.primarySigning) (some c)).2 = true
      · rw [if_pos hf]; exact Or.inr ⟨(rotCert_some hr).1, rfl, fun _ => ⟨rfl, hf⟩⟩
      · rw [if_neg hf, caAfterRotate_fail (Bool.not_eq_true _ ▸ hf)]; exact Or.inl rfl
  · rw [if_neg hs]
    unfold rotateEager
    by_cases hg : rotGuard cfg s.ca = true
    · rw [if_pos hg]
      refine Or.inr ⟨hg, rfl, fun h => ?_⟩
      simp only [Bool.and_eq_true] at h
      exact ⟨h.1.1, h.2⟩
    · rw [if_neg hg]; exact Or.inl rfl

theorem rotateKey_ok {cfg : Cfg} {f : Flags} {s : State} {cn : String} {n now : Nat}
    (h : (rotateKey cfg f s cn n now).2 = true) :
    ∃ c, rotCert cfg s cn n now = some c ∧
      (caAfterRotate cfg f s.ca (bump s.ca.primarySigning) (some c)).2 = true ∧
      (rotateKey cfg f s cn n now).1 =
        ⟨destroyOld (s.km.gen (bump s.ca.primarySigning)) s.ca.primarySigning,
         (caAfterRotate cfg f s.ca (bump s.ca.primarySigning) (some c)).1⟩ := by
  rcases rotateKey_cases cfg f s cn n now with e | ⟨_, e, hok⟩
  · rw [e] at h; cases h
  · obtain ⟨hs, hf⟩ := hok h
    cases hr : rotCert cfg s cn n now with
    | none => rw [hr] at hs; cases hs
    | some c => rw [hr] at hf e; exact ⟨c, rfl, hf, e⟩

def RotShape (cfg : Cfg) (f : Flags) (s : State) (cn : String) (n now : Nat) (s' : State) : Prop :=
  s' = ⟨s.km.gen (bump s.ca.primarySigning), s.ca⟩ ∨
  ∃ oc, (∀ c, oc = some c → rotCert cfg s cn n now = some c) ∧ rotGuard cfg s.ca = true ∧
    s' = ⟨destroyOld (s.km.gen (bump s.ca.primarySigning)) s.ca.primarySigning,
          (caAfterRotate cfg f s.ca (bump s.ca.primarySigning) oc).1⟩

theorem RotShape.ca {cfg : Cfg} {f : Flags} {s s' : State} {cn : String} {n now : Nat}
    (h : RotShape cfg f s cn n now s') :
    s'.ca = s.ca ∨ ∃ oc, s'.ca = (caAfterRotate cfg f s.ca (bump s.ca.primarySigning) oc).1 :=
  Or.imp (fun e => by rw [e]) (fun ⟨oc, _, _, e⟩ => ⟨oc, by rw [e]⟩) h

theorem rotateKey_shape (cfg : Cfg) (f : Flags) (s : State) (cn : String) (n now : Nat) :
    (rotateKey cfg f s cn n now).1 = ⟨s.km.gen (bump s.ca.primarySigning), s.ca⟩ ∨
    ∃ oc, (∀ c, oc = some c → rotCert cfg s cn n now = some c) ∧ rotGuard cfg s.ca = true ∧
      (rotateKey cfg f s cn n now).1 =
        ⟨destroyOld (s.km.gen (bump s.ca.primarySigning)) s.ca.primarySigning,
         (caAfterRotate cfg f s.ca (bump s.ca.primarySigning) oc).1⟩ :=
  (rotateKey_cases cfg f s cn n now).imp (fun e => by rw [e]) (fun ⟨hg, e, _⟩ => ⟨_, fun _ e => e, hg, e⟩)

theorem rotateKey_rotShape (cfg : Cfg) (f : Flags) (s : State) (cn : String) (n now : Nat) :
    RotShape cfg f s cn n now (rotateKey cfg f s cn n now).1 :=
  rotateKey_shape cfg f s cn n now

theorem rotateKey_ca (cfg : Cfg) (f : Flags) (s : State) (cn : String) (n now : Nat) :
    (rotateKey cfg f s cn n now).1.ca = s.ca ∨
    ∃ oc, (rotateKey cfg f s cn n now).1.ca = (caAfterRotate cfg f s.ca (bump s.ca.primarySigning) oc).1 :=
  (rotateKey_rotShape cfg f s cn n now).ca

theorem step_rotate_records {cfg : Cfg} {s : State} {f : Flags} {a : RotArgs} (hk : f.keepGoing = false)
    (h : (step cfg s (.rotate f a)).2 = true) :
    ∃ n c, resolveSerial s.ca a.serial = some n ∧
      (step cfg s (.rotate f a)).1.ca.primarySigning = bump s.ca.primarySigning ∧
      certificate (step cfg s (.rotate f a)).1.ca (step cfg s (.rotate f a)).1.ca.primarySigning = some c ∧
      c.subjSerial = n ∧ c.certSerial = n := by
  simp only [step] at h ⊢
  by_cases hb : cliBlocked cfg s.ca = true
  · rw [if_pos hb] at h; cases h
  · rw [if_neg hb] at h ⊢
    cases hr : resolveSerial s.ca a.serial with
    | none => rw [hr] at h; cases h
    | some n =>
      rw [hr] at h
      obtain ⟨c, hc, hfin, hst⟩ := rotateKey_ok h
      obtain ⟨c1, c2, _⟩ := rotCert_fields hc
      obtain ⟨k1, k2⟩ := caAfterRotate_ok_nokg hfin hk
      simp only [hst]
      exact ⟨n, c, rfl, k1, by rw [k1]; exact k2, c1, c2⟩

theorem resolveSerial_none {ca : CA} {n : Nat} (h : resolveSerial ca none = some n) :
    ∃ p, certificate ca ca.primarySigning = some p ∧ n = p.subjSerial + 1 := by
  unfold resolveSerial at h
  cases hp : certificate ca ca.primarySigning with
  | none => rw [hp] at h; cases h
  | some p => rw [hp] at h; exact ⟨p, rfl, (Option.some.inj h).symm⟩

theorem bootView_gcs {cfg : Cfg} (hc : cfg.ca = .gcsca) (ca : CA) : bootView cfg ca = ca := by
  simp only [bootView, hc]

theorem bootPutRoot_gcs {cfg : Cfg} (hc : cfg.ca = .gcsca) (ca : CA) (rc : Cert) : bootPutRoot cfg ca rc = ca := by
  simp only [bootPutRoot, hc]

theorem bootShape_gcs {cfg : Cfg} (hc : cfg.ca = .gcsca) {f : Flags} {a : BootArgs} {km : KM} {rk : Nat} {stored : CA}
    {r : CA × Bool} (hs : BootShape cfg f a km rk stored r) :
    r.1 = stored ∨ ∃ m, r.1 = (gcsFinalize cfg.guard f stored m).1 := by
  rcases hs with e | ⟨_, rc, _, _, e | ⟨sc, e⟩⟩ <;> rw [e]
  · exact Or.inl (bootView_gcs hc _)
  · exact Or.inl ((bootPutRoot_gcs hc _ _).trans (bootView_gcs hc _))
  · simp only [bootCommit, hc]; exact Or.inr ⟨_, rfl⟩

/-- What a command can do to the authority: nothing, or what its certificate step does. -/
def CAStep (cfg : Cfg) (ca : CA) (c : Cmd) (ca' : CA) : Prop :=
  ca' = ca ∨
  match c with
  | .bootstrap f a => ∃ km rk r, BootShape cfg f a km rk ca r ∧ ca' = r.1
  | .rotate f _ => ∃ oc, ca' = (caAfterRotate cfg f ca (bump ca.primarySigning) oc).1
  | .wipeout _ _ _ => ca' = CA.empty

theorem step_ca (cfg : Cfg) (s : State) (c : Cmd) : CAStep cfg s.ca c (step cfg s c).1.ca := by
  cases c with
  | bootstrap f a =>
    simp only [CAStep, step, bootstrap]
    by_cases h1 : keyExists f s.km rootName = true
    · rw [if_pos h1]; exact Or.inl rfl
    · rw [if_neg h1]
      by_cases h2 : keyExists f (s.km.gen rootName) firstName = true
      · rw [if_pos h2]; exact Or.inl rfl
      · rw [if_neg h2]; exact Or.inr ⟨_, _, _, bootCerts_cases cfg f a _ _ _ s.ca, rfl⟩
  | rotate f a =>
    simp only [CAStep, step]
    by_cases hb : cliBlocked cfg s.ca = true
    · rw [if_pos hb]; exact Or.inl rfl
    · rw [if_neg hb]
      cases resolveSerial s.ca a.serial with
      | none => exact Or.inl rfl
      | some n => exact rotateKey_ca cfg f s a.cn n a.now
  | wipeout f c k =>
    simp only [CAStep, step]
    by_cases hb : cliBlocked cfg s.ca = true
    · rw [if_pos hb]; exact Or.inl rfl
    · rw [if_neg hb]
      cases c
      · exact Or.inl rfl
      · exact Or.inr rfl

theorem RootInv_caStep {cfg : Cfg} {ca ca' : CA} (h : RootInv cfg ca) {c : Cmd} (hs : CAStep cfg ca c ca') :
    RootInv cfg ca' := by
  rcases hs with e | hc
  · rw [e]; exact h
  · cases c with
    | bootstrap f a => obtain ⟨km, rk, r, hr, e⟩ := hc; rw [e]; exact RootInv_of_bootShape h hr
    | rotate f a =>
      obtain ⟨oc, e⟩ := hc
      rw [e]; exact RootInv_caAfterRotate h f _ oc (bump_ne_root _) (bump_ne_noName _)
    | wipeout f c k => rw [show ca' = CA.empty from hc]; exact RootInv_empty cfg

theorem RootInv_run (cfg : Cfg) (h : List Cmd) : ∀ s : State, RootInv cfg s.ca → RootInv cfg (run cfg s h).ca := by
  induction h with
  | nil => intro s hs; exact hs
  | cons c t ih => intro s hs; exact ih _ (RootInv_caStep hs (step_ca cfg s c))

theorem keeps_of_caStep {cfg : Cfg} (hg : cfg.ca = .gcsca) {ca ca' : CA} {c : Cmd} (hw : isWipeout c = false)
    (hf : c.flags.overwrite = false) (hs : CAStep cfg ca c ca') : Keeps ca ca' := by
  rcases hs with e | hc
  · rw [e]; exact Keeps.refl _
  · cases c with
    | bootstrap f a =>
      obtain ⟨km, rk, r, hr, e⟩ := hc
      rw [e]
      rcases bootShape_gcs hg hr with e | ⟨m, e⟩ <;> rw [e]
      · exact Keeps.refl _
      · exact gcsFinalize_keeps _ hf _ m
    | rotate f a =>
      obtain ⟨oc, e⟩ := hc
      rw [e]; simp only [caAfterRotate, hg]; exact gcsFinalize_keeps _ hf _ _
    | wipeout f c k => cases hw

/-- default object of a new entry -/
def defaultPath (cfg : Cfg) (kver : KName) (c : Cert) : ObjKey :=
  match cfg.ca with
  | .memca => .byName kver
  | .gcsca => certPath c

def Unheld (ca : CA) (p : ObjKey) (n : KName) : Prop :=
  ∀ n' p', get ca.entries n' = some p' → n' ≠ n → p' ≠ p

theorem Unheld.of_heldByOther {ca : CA} {p : ObjKey} {n : KName} (h : heldByOther ca p n = false) : Unheld ca p n := by
  intro n' p' he hn e
  have : heldByOther ca p n = true := List.any_eq_true.mpr ⟨(n', p'), get_mem he, by simp [e, hn]⟩
  rw [h] at this; cases this

/-- The authority after the rotation's mutation, when the new name has no entry yet: unchanged
    (Finalize refused), only the primary moved (no certificate), the certificate written and
    recorded — on the repaired gcsca only to an object no other key version holds —, or, before the
    repair only (keep_going over an existing object), recorded without being written. -/
theorem caAfterRotate_shape {cfg : Cfg} (f : Flags) {ca : CA} {kver : KName} (oc : Option Cert)
    (he : get ca.entries kver = none) :
    (caAfterRotate cfg f ca kver oc).1 = ca ∨
    (oc = none ∧ (caAfterRotate cfg f ca kver oc).1 = { ca with primarySigning := kver }) ∨
    ∃ c, oc = some c ∧
      (((caAfterRotate cfg f ca kver oc).1 =
          { caWrite ca kver (defaultPath cfg kver c) c with primarySigning := kver } ∧
        (cfg.ca = .gcsca → cfg.guard = true → Unheld ca (defaultPath cfg kver c) kver)) ∨
       ((caAfterRotate cfg f ca kver oc).1 =
          { caSkip ca kver (defaultPath cfg kver c) with primarySigning := kver } ∧
        (get ca.objects (defaultPath cfg kver c)).isSome = true ∧ cfg.ca = .gcsca ∧ cfg.guard = false)) := by
  unfold caAfterRotate defaultPath
  cases hc : cfg.ca with
  | memca =>
    cases oc with
    | none => exact Or.inr (Or.inl ⟨rfl, rfl⟩)
    | some c => exact Or.inr (Or.inr ⟨c, rfl, Or.inl ⟨rfl, fun e => nomatch e⟩⟩)
  | gcsca =>
    cases oc with
    | none => exact Or.inr (Or.inl ⟨rfl, rfl⟩)
    | some c =>
      simp only [rotCerts, gcsFinalize_one]
      cases hu : upload cfg.guard f { ca with primarySigning := kver } kver c with
      | none => exact Or.inl rfl
      | some ca1 =>
        refine Or.inr (Or.inr ⟨c, rfl, ?_⟩)
        have hp : entryPath { ca with primarySigning := kver } kver c = certPath c := by simp [entryPath, he]
        rcases upload_cases hu with ⟨e, _, e3⟩ | ⟨e, _, _, e4⟩ <;> rw [hp] at e
        · rw [hp] at e3
          rcases e3 with e3 | e3
          · rw [he] at e3; cases e3
          · exact Or.inr ⟨e, e3.1, trivial, e3.2.2⟩
        · rw [hp] at e4
          exact Or.inl ⟨e, fun _ hg => Unheld.of_heldByOther (ca := { ca with primarySigning := kver }) (e4 hg)⟩

theorem live_gen (km : KM) (k n : KName) :
    get (km.gen k).live n = if n = k then some km.next else get km.live n := by
  simp [KM.gen, get_put]

theorem destroyed_gen (km : KM) (k : KName) : (km.gen k).destroyed = km.destroyed := rfl

theorem live_destroy (km : KM) (k n : KName) :
    get (km.destroy k).live n = if n = k then none else get km.live n := by
  unfold KM.destroy
  cases hg : get km.live k with
  | some x => simp [get_erase]
  | none =>
    by_cases e : n = k
    · subst e; simp [hg]
    · simp [e]

theorem destroyed_destroy (km : KM) (k n : KName) (h : n ∈ (km.destroy k).destroyed) :
    n = k ∨ n ∈ km.destroyed := by
  unfold KM.destroy at h
  by_cases hl : (get km.live k).isSome = true
  · simp only [hl, if_true, List.mem_cons] at h; exact h
  · simp only [hl] at h; exact Or.inr h

theorem live_destroyOld {km : KM} {cur n : KName} {x : Nat} (h : get (destroyOld km cur).live n = some x) :
    get km.live n = some x ∧ (cur = noName ∨ n ≠ cur) := by
  unfold destroyOld at h
  by_cases e : cur = noName
  · simp only [e, if_true] at h; exact ⟨h, Or.inl e⟩
  · rw [if_neg e, live_destroy] at h
    by_cases e2 : n = cur
    · simp [e2] at h
    · simp only [e2, if_false] at h; exact ⟨h, Or.inr e2⟩

theorem destroyed_destroyOld {km : KM} {cur n : KName} (h : n ∈ (destroyOld km cur).destroyed) :
    (n = cur ∧ cur ≠ noName) ∨ n ∈ km.destroyed := by
  unfold destroyOld at h
  by_cases e : cur = noName
  · simp only [e, if_true] at h; exact Or.inr h
  · rw [if_neg e] at h
    rcases destroyed_destroy _ _ _ h with h | h
    · exact Or.inl ⟨h, e⟩
    · exact Or.inr h

/-! ### the invariant of histories that never bootstrap over a populated store -/

def Good (cfg : Cfg) (ca : CA) (c : Cert) : Prop :=
  SignProfile c ∧ ∃ r, bundle cfg ca = some r ∧ IssuedBy r c

structure InvCA (cfg : Cfg) (ca : CA) : Prop where
  sync : cfg.ca = .memca → ∀ n p, get ca.entries n = some p → p = .byName n
  noNoName : get ca.entries noName = none
  fam : ca.primarySigning = noName ∨ ca.primarySigning.base = firstName.base
  rootOrEmpty : ca.primaryRoot = rootName ∨ (ca.primaryRoot = noName ∧ ca.entries = [])
  psRoot : ca.primaryRoot = rootName → ca.primarySigning.base = firstName.base
  /-- every RECORDED certificate other than the root's entry (leftover objects are not constrained) -/
  good : ∀ n p c, get ca.entries n = some p → n ≠ rootName → get ca.objects p = some c → Good cfg ca c
  bound : ∀ n, (get ca.entries n).isSome = true → n.base = ca.primarySigning.base → n.idx ≤ ca.primarySigning.idx
  memObj : cfg.ca = .memca → ∀ n, (get ca.objects (.byName n)).isSome = true → (get ca.entries n).isSome = true

structure InvKM (ca : CA) (km : KM) : Prop where
  dfam : ∀ n, n ∈ km.destroyed → n.base = firstName.base ∧
    (ca.primarySigning.base = firstName.base → n.idx ≤ ca.primarySigning.idx)
  onlyPrimary : ∀ n, (get ca.entries n).isSome = true → n ≠ rootName → n ≠ ca.primarySigning →
    get km.live n = none

def Inv (cfg : Cfg) (s : State) : Prop := InvCA cfg s.ca ∧ InvKM s.ca s.km

theorem Inv.served {cfg : Cfg} {s : State} (h : Inv cfg s) {n : KName} {c : Cert}
    (hn : certificate s.ca n = some c) (hroot : n ≠ s.ca.primaryRoot) :
    (SignProfile c ∧ ∃ r, bundle cfg s.ca = some r ∧ IssuedBy r c) ∧
    (∀ k, get s.km.live n = some k → n = s.ca.primarySigning) := by
  obtain ⟨hca, hkm⟩ := h
  obtain ⟨p, he, hp⟩ := certificate_some hn
  have hne : n ≠ rootName := by
    rcases hca.rootOrEmpty with h1 | ⟨_, h1⟩
    · exact h1 ▸ hroot
    · rw [h1] at he; cases he
  refine ⟨hca.good n p c he hne hp, fun k hl => Decidable.by_contra fun e => ?_⟩
  rw [hkm.onlyPrimary n (by rw [he]; rfl) hne e] at hl; cases hl

theorem InvCA.kver_fresh {cfg : Cfg} {ca : CA} (h : InvCA cfg ca) :
    get ca.entries (bump ca.primarySigning) = none := by
  cases hg : get ca.entries (bump ca.primarySigning) with
  | none => rfl
  | some p =>
    have := h.bound (bump ca.primarySigning) (by simp [hg]) (bump_base _)
    simp only [bump_idx] at this
    omega

theorem Inv.next_fresh {cfg : Cfg} {s : State} (h : Inv cfg s) :
    certificate s.ca (bump s.ca.primarySigning) = none ∧ bump s.ca.primarySigning ∉ s.km.destroyed := by
  refine ⟨by simp [certificate, h.1.kver_fresh], fun hmem => ?_⟩
  obtain ⟨d1, d2⟩ := h.2.dfam _ hmem
  have := d2 (by rw [← d1]; rfl)
  simp only [bump_idx] at this
  omega

theorem InvCA.ps_ne_root {cfg : Cfg} {ca : CA} (h : InvCA cfg ca) :
    ca.primarySigning ≠ rootName := by
  intro e
  rcases h.fam with h1 | h1
  · rw [h1] at e; exact absurd e (fun e => rootName_ne_noName e.symm)
  · rw [e] at h1; exact psk_ne_root_base h1.symm

theorem bundle_setSigning (cfg : Cfg) (ca : CA) (k : KName) :
    bundle cfg { ca with primarySigning := k } = bundle cfg ca := by
  unfold bundle; cases cfg.ca <;> rfl

theorem InvCA_set {cfg : Cfg} {ca : CA} (h : InvCA cfg ca)
    (hb : ca.primarySigning.base = firstName.base) :
    InvCA cfg { ca with primarySigning := bump ca.primarySigning } where
  sync := h.sync
  noNoName := h.noNoName
  fam := Or.inr (by rw [bump_base]; exact hb)
  rootOrEmpty := h.rootOrEmpty
  psRoot := fun _ => by rw [bump_base]; exact hb
  good := fun n p c hn hne hp => by
    obtain ⟨g1, r, g2, g3⟩ := h.good n p c hn hne hp
    exact ⟨g1, r, by rw [bundle_setSigning]; exact g2, g3⟩
  bound := fun n hn hbase => by
    have := h.bound n hn (by rw [hbase, bump_base])
    simp only [bump_idx]; omega
  memObj := h.memObj

theorem caWrite_bundle {cfg : Cfg} {ca : CA} {kver : KName} {p : ObjKey} {c : Cert}
    (hs : cfg.ca = .memca → ∀ n q, get ca.entries n = some q → q = .byName n)
    (hp : cfg.ca = .memca → p = .byName kver) (hk : kver ≠ ca.primaryRoot) :
    bundle cfg { caWrite ca kver p c with primarySigning := kver } = bundle cfg ca := by
  unfold bundle
  cases hc : cfg.ca with
  | gcsca => rfl
  | memca =>
    simp only [caWrite, certificate]
    rw [get_put_ne _ _ _ _ (Ne.symm hk)]
    cases hr : get ca.entries ca.primaryRoot with
    | none => rfl
    | some q =>
      rw [hs hc _ _ hr, hp hc]
      exact get_put_ne _ _ _ _ (fun e => hk (ObjKey.byName.inj e).symm)

theorem InvCA_write {cfg : Cfg} {ca : CA} (h : InvCA cfg ca)
    (hb : ca.primarySigning.base = firstName.base) (hroot : ca.primaryRoot = rootName)
    {p : ObjKey} {c : Cert} (hg : Good cfg ca c) (hu : Unheld ca p (bump ca.primarySigning))
    (hp : cfg.ca = .memca → p = .byName (bump ca.primarySigning)) :
    InvCA cfg { caWrite ca (bump ca.primarySigning) p c with primarySigning := bump ca.primarySigning } := by
  have hbun := caWrite_bundle (c := c) h.sync hp (hroot ▸ bump_ne_root _)
  have goodOld : ∀ y, Good cfg ca y →
      Good cfg { caWrite ca (bump ca.primarySigning) p c with primarySigning := bump ca.primarySigning } y :=
    fun y ⟨g1, r, g2, g3⟩ => ⟨g1, r, hbun.trans g2, g3⟩
  refine ⟨fun hc n q hq => ?_, ?_, Or.inr hb, Or.inl hroot, fun _ => hb, fun n q x hn hne hq => ?_,
    fun n hn hbase => ?_, fun hc n hobj => ?_⟩
  · rcases get_put_some hq with ⟨e, rfl⟩ | ⟨_, hq⟩
    · rw [e]; exact hp hc
    · exact h.sync hc n q hq
  · exact (get_put_ne _ _ _ _ (Ne.symm (bump_ne_noName _))).trans h.noNoName
  · rcases get_put_some hn with ⟨_, rfl⟩ | ⟨e, hn⟩
    · exact goodOld x (Option.some.inj ((get_put_self _ _ _).symm.trans hq) ▸ hg)
    · rw [show (_ : CA).objects = put ca.objects p c from rfl, get_put_ne _ _ _ _ (hu n q hn e)] at hq
      exact goodOld x (h.good n q x hn hne hq)
  · rcases isSome_get_put hn with e | hn
    · rw [e]; exact Nat.le_refl _
    · exact Nat.le_succ_of_le (h.bound n hn hbase)
  · rcases isSome_get_put hobj with e | hobj
    · rw [hp hc] at e; rw [ObjKey.byName.inj e]; exact congrArg Option.isSome (get_put_self _ _ _)
    · rw [show (_ : CA).entries = put ca.entries _ p from rfl, get_put]
      split
      · rfl
      · exact h.memObj hc n hobj

theorem InvCA.primary_signProfile {cfg : Cfg} {ca : CA} (h : InvCA cfg ca) {p : Cert}
    (hp : certificate ca ca.primarySigning = some p) : SignProfile p :=
  have ⟨q, he, hq⟩ := certificate_some hp
  (h.good _ q p he h.ps_ne_root hq).1

theorem rotGuard_some {cfg : Cfg} {ca : CA} (h : rotGuard cfg ca = true) :
    (∃ r, bundle cfg ca = some r) ∧ ca.primaryRoot ≠ noName := by
  unfold rotGuard at h
  simp only [Bool.and_eq_true, decide_eq_true_eq] at h
  cases hb : bundle cfg ca with
  | none => simp [hb] at h
  | some r => exact ⟨⟨r, rfl⟩, h.2⟩

theorem rotCert_good {cfg : Cfg} {s : State} (h : InvCA cfg s.ca)
    {cn : String} {n now : Nat} {c : Cert} (hc : rotCert cfg s cn n now = some c) : Good cfg s.ca c := by
  obtain ⟨hg, t, ht, hs⟩ := rotCert_some hc
  obtain ⟨⟨r, hr⟩, _⟩ := rotGuard_some hg
  have hok : TmplSignOK t := by
    rcases signingTemplate_rot ht with rfl | ⟨p, hp, _, rfl⟩
    · exact google_sign_ok _ _ _ _
    · exact fromCert_sign_ok _ _ _ _ _ (h.primary_signProfile hp)
  rw [hr] at hs
  exact ⟨(signProfile_of_signed hok hs).1, r, hr, (signProfile_of_signed hok hs).2⟩

theorem InvKM_same_gen {cfg : Cfg} {ca : CA} {km : KM} (hca : InvCA cfg ca) (hkm : InvKM ca km) :
    InvKM ca (km.gen (bump ca.primarySigning)) where
  dfam := hkm.dfam
  onlyPrimary := fun n hn h1 h2 => by
    rw [live_gen]
    have : n ≠ bump ca.primarySigning := by
      intro e; rw [e, hca.kver_fresh] at hn; simp at hn
    simp only [this, if_false]
    exact hkm.onlyPrimary n hn h1 h2

theorem InvKM_same_destroy {cfg : Cfg} {ca : CA} {km : KM} (hca : InvCA cfg ca) (hkm : InvKM ca km) :
    InvKM ca (destroyOld (km.gen (bump ca.primarySigning)) ca.primarySigning) where
  dfam := fun n hn => by
    rcases destroyed_destroyOld hn with ⟨e, hne⟩ | hn
    · rcases hca.fam with h1 | h1
      · exact absurd h1 hne
      · rw [e]; exact ⟨h1, fun _ => Nat.le_refl _⟩
    · exact hkm.dfam n hn
  onlyPrimary := fun n hn h1 h2 => by
    cases hl : get (destroyOld (km.gen (bump ca.primarySigning)) ca.primarySigning).live n with
    | none => rfl
    | some x =>
      obtain ⟨hx, _⟩ := live_destroyOld hl
      have := (InvKM_same_gen hca hkm).onlyPrimary n hn h1 h2
      rw [this] at hx; cases hx

theorem InvKM_rotate {cfg : Cfg} {ca ca' : CA} {km : KM} (hca : InvCA cfg ca) (hkm : InvKM ca km)
    (hent : ∀ n, (get ca'.entries n).isSome = true → n = bump ca.primarySigning ∨ (get ca.entries n).isSome = true)
    (hps : ca'.primarySigning = bump ca.primarySigning) (hb : ca.primarySigning.base = firstName.base) :
    InvKM ca' (destroyOld (km.gen (bump ca.primarySigning)) ca.primarySigning) where
  dfam := fun n hn => by
    rw [hps]
    rcases destroyed_destroyOld hn with ⟨e, _⟩ | hn
    · rw [e]; exact ⟨hb, fun _ => by simp [bump_idx]⟩
    · obtain ⟨d1, d2⟩ := hkm.dfam n hn
      exact ⟨d1, fun _ => by have := d2 hb; simp only [bump_idx]; omega⟩
  onlyPrimary := fun n hn h1 h2 => by
    rw [hps] at h2
    cases hl : get (destroyOld (km.gen (bump ca.primarySigning)) ca.primarySigning).live n with
    | none => rfl
    | some x =>
      obtain ⟨hx, hcur⟩ := live_destroyOld hl
      rw [live_gen] at hx
      simp only [h2, if_false] at hx
      rcases hent n hn with e | hold
      · exact absurd e h2
      · by_cases e : n = ca.primarySigning
        · rcases hcur with hc | hc
          · rw [e, hc, hca.noNoName] at hold; simp at hold
          · exact absurd e hc
        · have := hkm.onlyPrimary n hold h1 e
          rw [this] at hx; cases hx

theorem Inv_of_rotShape {cfg : Cfg} (hgd : cfg.guard = true) {s s' : State} (h : Inv cfg s) {f : Flags}
    {cn : String} {n now : Nat} (hs : RotShape cfg f s cn n now s') : Inv cfg s' := by
  obtain ⟨hca, hkm⟩ := h
  rcases hs with e | ⟨oc, hoc, hg, e⟩ <;> rw [e]
  · exact ⟨hca, InvKM_same_gen hca hkm⟩
  · obtain ⟨_, hpr⟩ := rotGuard_some hg
    have hroot : s.ca.primaryRoot = rootName := hca.rootOrEmpty.resolve_right (fun h1 => hpr h1.1)
    have hb := hca.psRoot hroot
    rcases caAfterRotate_shape (cfg := cfg) f oc hca.kver_fresh with e1 | ⟨_, e1⟩ | ⟨c, hc, ⟨e1, hun⟩ | ⟨_, _, _, hold⟩⟩
    · rw [e1]; exact ⟨hca, InvKM_same_destroy hca hkm⟩
    · rw [e1]
      exact ⟨InvCA_set hca hb, InvKM_rotate hca hkm (fun n hn => Or.inr hn) rfl hb⟩
    · rw [e1]
      have hgood := rotCert_good hca (hoc c hc)
      have hp : cfg.ca = .memca → defaultPath cfg (bump s.ca.primarySigning) c = .byName (bump s.ca.primarySigning) := by
        intro hm; simp [defaultPath, hm]
      have hu : Unheld s.ca (defaultPath cfg (bump s.ca.primarySigning) c) (bump s.ca.primarySigning) := by
        cases hcc : cfg.ca with
        | gcsca => exact hun hcc hgd
        | memca =>
          intro n' p' hn' hne
          rw [hp hcc, hca.sync hcc n' p' hn']
          exact fun e' => hne (ObjKey.byName.inj e')
      exact ⟨InvCA_write hca hb hroot hgood hu hp, InvKM_rotate hca hkm (fun _ => isSome_get_put) rfl hb⟩
    · rw [hgd] at hold; cases hold

def cleanRoot (a : BootArgs) (k : Nat) : Cert :=
  { certSerial := a.rootSerial, subjSerial := a.rootSerial, cn := a.rootCn, issuerCn := a.rootCn,
    issuerSerial := a.rootSerial, subjectKey := k, issuerKey := k, signerKey := k, isCA := true,
    keyUsage := 96, sigAlg := 13, notBefore := a.now, notAfter := a.now + rootLifetime }

def cleanFirst (a : BootArgs) (k : Nat) : Cert :=
  { certSerial := a.signSerial, subjSerial := a.signSerial, cn := a.signCn, issuerCn := a.rootCn,
    issuerSerial := a.rootSerial, subjectKey := k + 1, issuerKey := k, signerKey := k, isCA := false,
    keyUsage := 1, sigAlg := 13, notBefore := a.now, notAfter := a.now + signLifetime }

/-- What a bootstrap of an empty store whose next key id is `k` leaves (`bootstrap_clean`). -/
def cleanCA (cfg : Cfg) (a : BootArgs) (k : Nat) : CA :=
  match cfg.ca with
  | .memca => ⟨rootName, firstName, [(rootName, .byName rootName), (firstName, .byName firstName)],
      [(.byName rootName, cleanRoot a k), (.byName firstName, cleanFirst a k)], none⟩
  | .gcsca => ⟨rootName, firstName, [(rootName, .byCert a.rootCn a.rootSerial), (firstName, .byCert a.signCn a.signSerial)],
      [(.byCert a.rootCn a.rootSerial, cleanRoot a k), (.byCert a.signCn a.signSerial, cleanFirst a k)], some (cleanRoot a k)⟩

theorem bootstrap_clean_commit (cfg : Cfg) (f : Flags) (a : BootArgs) (k : Nat) :
    bootstrap cfg f a ⟨⟨[], [], k⟩, CA.empty⟩ =
      (⟨⟨[(rootName, k), (firstName, k + 1)], [], k + 2⟩,
        (bootCommit cfg f CA.empty (bootPutRoot cfg (bootView cfg CA.empty) (cleanRoot a k)) (cleanRoot a k) (cleanFirst a k)).1⟩,
       (bootCommit cfg f CA.empty (bootPutRoot cfg (bootView cfg CA.empty) (cleanRoot a k)) (cleanRoot a k) (cleanFirst a k)).2) := by
  have e1 : firstName ≠ rootName := firstName_ne_root
  have hroot : Tmpl.google true a.rootCn a.rootSerial a.now k =
      ⟨a.rootSerial, a.rootSerial, a.rootCn, k, true, 96, 13, a.now, a.now + rootLifetime⟩ := rfl
  have hsign : Tmpl.google false a.signCn a.signSerial a.now (k + 1) =
      ⟨a.signSerial, a.signSerial, a.signCn, k + 1, false, 1, 13, a.now, a.now + signLifetime⟩ := rfl
  cases hc : cfg.ca <;>
    simp [bootstrap, keyExists, KM.gen, get, put, bootCerts, rootTemplate, bundle, hc, bootView, certificate,
      CA.empty, CertCtx.rootInfo, CertCtx.signInfo, signCert, hroot, hsign, bootPutRoot, memPut, signingTemplate,
      e1, cleanRoot, cleanFirst]

theorem bootstrap_clean (cfg : Cfg) (f : Flags) (a : BootArgs) (k : Nat)
    (hne : cfg.ca = .gcsca → ¬ (a.signCn = a.rootCn ∧ a.signSerial = a.rootSerial)) :
    bootstrap cfg f a ⟨⟨[], [], k⟩, CA.empty⟩ =
      (⟨⟨[(rootName, k), (firstName, k + 1)], [], k + 2⟩, cleanCA cfg a k⟩, true) := by
  rw [bootstrap_clean_commit]
  cases hc : cfg.ca with
  | memca => simp [bootCommit, bootPutRoot, bootView, hc, memPut, put, CA.empty, firstName_ne_root, cleanCA]
  | gcsca =>
    have hp : certPath (cleanRoot a k) ≠ certPath (cleanFirst a k) := fun e => by
      injection e with e1 e2; exact hne hc ⟨e1.symm, e2.symm⟩
    simp only [bootCommit, hc]
    rw [gcsFinalize_empty_two _ f _ _ _ _ _ _ _ (fun e => firstName_ne_root e.symm) (fun e => absurd e hp), if_neg hp]
    simp only [cleanCA, hc]; rfl

/-- An authority with the bootstrap's primaries that records at most `root` and `primarySigningKey`: what a
    bootstrap of an empty store passes through and ends in. -/
theorem InvCA_boot {cfg : Cfg} {ca : CA} {p1 p2 : ObjKey} (hpr : ca.primaryRoot = rootName)
    (hps : ca.primarySigning = firstName)
    (hent : ∀ n p, get ca.entries n = some p → (n = rootName ∧ p = p1) ∨ (n = firstName ∧ p = p2))
    (hs : cfg.ca = .memca → p1 = .byName rootName ∧ p2 = .byName firstName)
    (hg : ∀ x, get ca.objects p2 = some x → Good cfg ca x)
    (hobj : cfg.ca = .memca → ∀ n, (get ca.objects (.byName n)).isSome = true → (get ca.entries n).isSome = true) :
    InvCA cfg ca where
  sync := fun hm n p hn => by
    rcases hent n p hn with ⟨e1, e2⟩ | ⟨e1, e2⟩ <;> rw [e1, e2]
    · exact (hs hm).1
    · exact (hs hm).2
  noNoName := by
    cases hn : get ca.entries noName with
    | none => rfl
    | some p =>
      rcases hent _ p hn with ⟨e, _⟩ | ⟨e, _⟩
      · exact absurd e.symm rootName_ne_noName
      · exact absurd e.symm firstName_ne_noName
  fam := Or.inr (by rw [hps])
  rootOrEmpty := Or.inl hpr
  psRoot := fun _ => by rw [hps]
  good := fun n p x hn hne hx => by
    rcases hent n p hn with ⟨e, _⟩ | ⟨_, e⟩
    · exact absurd e hne
    · exact hg x (e ▸ hx)
  bound := fun n hn hb => by
    cases hg' : get ca.entries n with
    | none => rw [hg'] at hn; cases hn
    | some p =>
      rw [hps] at hb ⊢
      rcases hent n p hg' with ⟨e, _⟩ | ⟨e, _⟩ <;> rw [e] at hb ⊢
      · exact absurd hb.symm psk_ne_root_base
      · exact Nat.le_refl _
  memObj := hobj

theorem InvKM_two {ca : CA} (k : Nat) (h : ca.primarySigning = firstName ∨ ca.entries = []) :
    InvKM ca ⟨[(rootName, k), (firstName, k + 1)], [], k + 2⟩ :=
  ⟨fun _ hn => (nomatch hn), fun n hn h1 h2 => by
    rcases h with e | e
    · rw [e] at h2; show get [(rootName, k), (firstName, k + 1)] n = none; rw [get2, if_neg h1, if_neg h2]
    · rw [e] at hn; cases hn⟩

theorem Inv_clean (cfg : Cfg) (a : BootArgs) (k : Nat)
    (hne : cfg.ca = .gcsca → ¬ (a.signCn = a.rootCn ∧ a.signSerial = a.rootSerial)) :
    Inv cfg ⟨⟨[(rootName, k), (firstName, k + 1)], [], k + 2⟩, cleanCA cfg a k⟩ := by
  have hgood : Good cfg (cleanCA cfg a k) (cleanFirst a k) :=
    ⟨⟨rfl, rfl, rfl, rfl, rfl⟩, cleanRoot a k, by unfold bundle cleanCA; cases cfg.ca <;> rfl, rfl, rfl, rfl⟩
  refine ⟨?_, InvKM_two k (Or.inl (by unfold cleanCA; cases cfg.ca <;> rfl))⟩
  -- both authorities at once: the objects are the default paths of the two entries
  have hca : cleanCA cfg a k = ⟨rootName, firstName,
      [(rootName, defaultPath cfg rootName (cleanRoot a k)), (firstName, defaultPath cfg firstName (cleanFirst a k))],
      [(defaultPath cfg rootName (cleanRoot a k), cleanRoot a k), (defaultPath cfg firstName (cleanFirst a k), cleanFirst a k)],
      (cleanCA cfg a k).rootObj⟩ := by
    unfold cleanCA defaultPath; cases cfg.ca <;> rfl
  have hs : cfg.ca = .memca → defaultPath cfg rootName (cleanRoot a k) = .byName rootName ∧
      defaultPath cfg firstName (cleanFirst a k) = .byName firstName := fun hm => by simp [defaultPath, hm]
  have hp : defaultPath cfg firstName (cleanFirst a k) ≠ defaultPath cfg rootName (cleanRoot a k) := by
    unfold defaultPath
    cases hc : cfg.ca with
    | memca => exact fun e => firstName_ne_root (ObjKey.byName.inj e)
    | gcsca => exact fun e => hne hc (by injection e with e1 e2; exact ⟨e1, e2⟩)
  rw [hca] at hgood ⊢
  refine InvCA_boot rfl rfl (fun _ _ => get_two) hs (fun x hx => ?_) (fun hm n hn => ?_)
  · rw [show (_ : CA).objects = _ from rfl, get2, if_neg hp, if_pos rfl] at hx
    exact Option.some.inj hx ▸ hgood
  · rw [show (_ : CA).objects = _ from rfl, (hs hm).1, (hs hm).2] at hn
    show (get [(rootName, _), (firstName, _)] n).isSome = true
    cases hx : get [(ObjKey.byName rootName, cleanRoot a k), (.byName firstName, cleanFirst a k)] (.byName n) with
    | none => rw [hx] at hn; cases hn
    | some x =>
      rcases get_two hx with ⟨e, _⟩ | ⟨e, _⟩ <;> rw [ObjKey.byName.inj e, get2]
      · rw [if_pos rfl]; rfl
      · rw [if_neg firstName_ne_root, if_pos rfl]; rfl

/-- A bootstrap of a clean store whose two certificates would share one object (same common name and
    serial for root and first signing key; gcsca): the repaired upload refuses the second one, Finalize
    aborts, the root certificate object stays behind unrecorded and no manifest is written. -/
def collideCA (a : BootArgs) (k : Nat) : CA :=
  { CA.empty with objects := [(.byCert a.rootCn a.rootSerial, cleanRoot a k)] }

theorem bootstrap_clean_collide (cfg : Cfg) (f : Flags) (a : BootArgs) (k : Nat) (hc : cfg.ca = .gcsca)
    (hg : cfg.guard = true) (hsame : a.signCn = a.rootCn ∧ a.signSerial = a.rootSerial) :
    bootstrap cfg f a ⟨⟨[], [], k⟩, CA.empty⟩ =
      (⟨⟨[(rootName, k), (firstName, k + 1)], [], k + 2⟩, collideCA a k⟩, false) := by
  have hp : certPath (cleanRoot a k) = certPath (cleanFirst a k) := by
    simp only [certPath, cleanRoot, cleanFirst, hsame.1, hsame.2]
  rw [bootstrap_clean_commit]
  simp only [bootCommit, hc]
  rw [gcsFinalize_empty_two _ f _ _ _ _ _ _ _ (fun e => firstName_ne_root e.symm) (fun _ => hg), if_pos hp]
  rfl

theorem Inv_collide (cfg : Cfg) (a : BootArgs) (k : Nat) (hc : cfg.ca = .gcsca) :
    Inv cfg ⟨⟨[(rootName, k), (firstName, k + 1)], [], k + 2⟩, collideCA a k⟩ :=
  ⟨⟨fun e => (by rw [hc] at e; cases e), rfl, Or.inl rfl, Or.inr ⟨rfl, rfl⟩, fun h => absurd h.symm rootName_ne_noName,
    fun _ _ _ h => (nomatch h), fun _ h => (nomatch h), fun e => (by rw [hc] at e; cases e)⟩, InvKM_two k (Or.inr rfl)⟩

theorem InvCA_empty (cfg : Cfg) : InvCA cfg CA.empty where
  sync := fun _ _ _ h => nomatch h
  noNoName := rfl
  fam := Or.inl rfl
  rootOrEmpty := Or.inr ⟨rfl, rfl⟩
  psRoot := fun h => absurd h.symm rootName_ne_noName
  good := fun _ _ _ h => nomatch h
  bound := fun _ h => nomatch h
  memObj := fun _ _ h => nomatch h

theorem Inv_init (cfg : Cfg) : Inv cfg State.init :=
  ⟨InvCA_empty cfg, ⟨fun _ h => (nomatch h), fun _ h => nomatch h⟩⟩

theorem Inv_wipeout {cfg : Cfg} {s : State} (h : Inv cfg s) (c k : Bool) :
    Inv cfg (wipeout s c k) := by
  obtain ⟨hca, hkm⟩ := h
  unfold wipeout
  cases c with
  | true =>
    refine ⟨InvCA_empty cfg, ⟨?_, fun n h => by simp [CA.empty, get] at h⟩⟩
    intro n hn
    have hb : n.base = firstName.base := by
      cases k with
      | true => simp [KM.wipe] at hn
      | false => exact (hkm.dfam n hn).1
    exact ⟨hb, fun e => absurd e (fun e => psk_ne_empty_base e.symm)⟩
  | false =>
    cases k with
    | true => exact ⟨hca, ⟨fun n hn => by simp [KM.wipe] at hn, fun n _ _ _ => rfl⟩⟩
    | false => exact ⟨hca, hkm⟩

theorem Clean.eq {s : State} (h : Clean s) : s = ⟨⟨[], [], s.km.next⟩, CA.empty⟩ := by
  obtain ⟨h1, h2, h3⟩ := h
  cases s with
  | mk km ca =>
    cases km with
    | mk live destroyed next =>
      simp only at h1 h2 h3
      subst h1; subst h2; subst h3; rfl

theorem Inv_step {cfg : Cfg} (hg : cfg.guard = true) {s : State} (h : Inv cfg s) (c : Cmd)
    (hclean : isBootstrap c = true → Clean s) : Inv cfg (step cfg s c).1 := by
  cases c with
  | bootstrap f a =>
    have hs := (hclean rfl).eq
    rw [hs]
    simp only [step]
    by_cases hsame : cfg.ca = .gcsca ∧ a.signCn = a.rootCn ∧ a.signSerial = a.rootSerial
    · rw [bootstrap_clean_collide cfg f a _ hsame.1 hg hsame.2]
      exact Inv_collide cfg a _ hsame.1
    · have hne : cfg.ca = .gcsca → ¬ (a.signCn = a.rootCn ∧ a.signSerial = a.rootSerial) :=
        fun hc hh => hsame ⟨hc, hh⟩
      rw [bootstrap_clean cfg f a _ hne]
      exact Inv_clean cfg a _ hne
  | rotate f a =>
    simp only [step]
    by_cases hb : cliBlocked cfg s.ca = true
    · simp only [hb, if_true]; exact h
    · simp only [hb]
      cases hrs : resolveSerial s.ca a.serial with
      | none => exact h
      | some n => exact Inv_of_rotShape hg h (rotateKey_rotShape cfg f s a.cn n a.now)
  | wipeout f c k =>
    simp only [step]
    by_cases hb : cliBlocked cfg s.ca = true
    · simp only [hb, if_true]; exact h
    · simp only [hb]; exact Inv_wipeout h c k

theorem Inv_run (cfg : Cfg) (hg : cfg.guard = true) (h : List Cmd) :
    ∀ s : State, Inv cfg s → CleanRun cfg s h → Inv cfg (run cfg s h) := by
  induction h with
  | nil => intro s hs _; exact hs
  | cons c t ih =>
    intro s hs hc
    exact ih _ (Inv_step hg hs c hc.1) hc.2

theorem CleanRun_append (cfg : Cfg) (l l' : List Cmd) :
    ∀ s : State, CleanRun cfg s (l ++ l') ↔ CleanRun cfg s l ∧ CleanRun cfg (run cfg s l) l' := by
  induction l with
  | nil => exact fun s => ⟨fun h => ⟨trivial, h⟩, fun h => h.2⟩
  | cons d t ih => exact fun s => (and_congr_right fun _ => ih _).trans and_assoc.symm

end GceTcb.KeyHistory
