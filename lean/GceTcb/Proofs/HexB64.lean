import GceTcb.Model.HexB64
/- Round trips and rejection lemmas for the text decoders of the quote path (C16 wire). -/
namespace GceTcb.HexB64
open GceTcb

theorem hexNib_charL : ∀ k, k < 16 → hexNib (hexCharL k) = some k := by decide +kernel
theorem hexNib_charU : ∀ k, k < 16 → hexNib (hexCharU k) = some k := by decide +kernel
theorem b64Val_char : ∀ k, k < 64 → b64Val (b64Char k) = some k := by decide +kernel

theorem hexDecode_digits {ch : Nat → UInt8} (hc : ∀ k, k < 16 → hexNib (ch k) = some k) (x : UInt8) {t d : Bytes}
    (h : hexDecode t = some d) : hexDecode (ch (x.toNat / 16) :: ch (x.toNat % 16) :: t) = some (x :: d) := by
  simp only [hexDecode, hc _ (Nat.div_lt_of_lt_mul x.toNat_lt : x.toNat / 16 < 16), hc _ (Nat.mod_lt _ (by decide)), h,
    Nat.div_add_mod', UInt8.ofNat_toNat]

/-- go: hex.DecodeString(hex.EncodeToString(b)) = b -/
theorem hexDecode_hexEncode : ∀ b : Bytes, hexDecode (hexEncode b) = some b
  | [] => rfl
  | x :: rest => hexDecode_digits hexNib_charL x (hexDecode_hexEncode rest)

theorem hexDecode_hexEncodeUpper : ∀ b : Bytes, hexDecode (hexEncodeUpper b) = some b
  | [] => rfl
  | x :: rest => hexDecode_digits hexNib_charU x (hexDecode_hexEncodeUpper rest)

theorem hexEncode_length (b : Bytes) : (hexEncode b).length = 2 * b.length := by
  induction b with
  | nil => rfl
  | cons x rest ih => simp only [hexEncode, List.length_cons, ih]; omega

theorem hexDecode_some : ∀ {t d : Bytes}, hexDecode t = some d → 2 * d.length = t.length ∧ ∀ c ∈ t, hexNib c ≠ none
  | [], _, h => by cases h; exact ⟨rfl, nofun⟩
  | [_], _, h => by cases h
  | a :: b :: rest, d, h => by
    simp only [hexDecode] at h
    cases ha : hexNib a <;> cases hb : hexNib b <;> simp only [ha, hb] at h <;> try cases h
    cases hr : hexDecode rest with
    | none => simp only [hr] at h; cases h
    | some r =>
      obtain ⟨hl, hm⟩ := hexDecode_some hr
      simp only [hr, Option.some.injEq] at h
      subst h
      simp only [List.length_cons, List.forall_mem_cons, ha, hb]
      exact ⟨by omega, nofun, nofun, hm⟩

theorem hexDecode_none_of_mem (t : Bytes) (c : UInt8) (hc : c ∈ t) (hn : hexNib c = none) : hexDecode t = none :=
  Option.eq_none_iff_forall_ne_some.mpr fun _ hd => (hexDecode_some hd).2 c hc hn

theorem hexDecode_odd (t : Bytes) (h : t.length % 2 = 1) : hexDecode t = none :=
  Option.eq_none_iff_forall_ne_some.mpr fun _ hd => by have := (hexDecode_some hd).1; omega

theorem pack_div_mod (p q m : Nat) (h : q < m) : (p * m + q) / m = p ∧ (p * m + q) % m = q :=
  ⟨by rw [Nat.add_comm, Nat.add_mul_div_right _ _ (Nat.zero_lt_of_lt h), Nat.div_eq_of_lt h, Nat.zero_add],
   by rw [Nat.add_comm, Nat.add_mul_mod_self_right, Nat.mod_eq_of_lt h]⟩

theorem q3 (a b d : UInt8) :
    quantum (a.toNat / 4) (a.toNat % 4 * 16 + b.toNat / 16) (b.toNat % 16 * 4 + d.toNat / 64) (d.toNat % 64)
      = [a, b, d] := by
  have hb := pack_div_mod (a.toNat % 4) _ 16 (Nat.div_lt_of_lt_mul b.toNat_lt : b.toNat / 16 < 16)
  have hd := pack_div_mod (b.toNat % 16) _ 4 (Nat.div_lt_of_lt_mul d.toNat_lt : d.toNat / 64 < 4)
  simp only [quantum, hb.1, hb.2, hd.1, hd.2, Nat.div_add_mod', UInt8.ofNat_toNat]

/-- the padded quanta are the full one with zero bytes in the missing places -/
theorem q2 (a b : UInt8) :
    (quantum (a.toNat / 4) (a.toNat % 4 * 16 + b.toNat / 16) (b.toNat % 16 * 4) 0).take 2 = [a, b] :=
  congrArg (List.take 2) (q3 a b 0)

theorem q1 (a : UInt8) : (quantum (a.toNat / 4) (a.toNat % 4 * 16) 0 0).take 1 = [a] :=
  congrArg (List.take 1) (q3 a 0 0)

theorem b64Val_pad : b64Val padChar = none := by decide

/-- Encoding.Decode(Encoding.Encode(b)) = b (every index `b64Encode` passes to the alphabet is below 64) -/
theorem b64DecodeQ_b64Encode : ∀ (b : Bytes), b64DecodeQ (b64Encode b) = some b
  | [] => rfl
  | [a] => by
    have := a.toNat_lt
    simp (disch := omega) only [b64Encode, b64DecodeQ, b64Val_char, b64Val_pad, q1]; rfl
  | [a, b] => by
    have := a.toNat_lt; have := b.toNat_lt
    simp (disch := omega) only [b64Encode, b64DecodeQ, b64Val_char, b64Val_pad, q2]; rfl
  | a :: b :: d :: rest => by
    have := a.toNat_lt; have := b.toNat_lt; have := d.toNat_lt
    simp (disch := omega) only [b64Encode, b64DecodeQ, b64Val_char, b64DecodeQ_b64Encode rest, q3]; rfl

theorem b64DecodeQ_some : ∀ {t d : Bytes}, b64DecodeQ t = some d →
    d.length ≤ t.length ∧ (∀ c ∈ t, (b64Val c).isSome ∨ c = padChar) ∧ b64DecodeLooseQ t = some d
  | [], _, h => by cases h; exact ⟨Nat.le_refl _, nofun, rfl⟩
  | [_], _, h => by cases h
  | [_, _], _, h => by cases h
  | [_, _, _], _, h => by cases h
  | c0 :: c1 :: c2 :: c3 :: rest, d, h => by
    simp only [b64DecodeQ] at h
    cases h0 : b64Val c0 <;> cases h1 : b64Val c1 <;> simp only [h0, h1] at h <;> try cases h
    simp only [b64DecodeLooseQ, List.forall_mem_cons, h0, h1]
    cases h2 : b64Val c2 <;> cases h3 : b64Val c3 <;> simp only [h2, h3] at h ⊢
    case some.some =>
      cases hr : b64DecodeQ rest with
      | none => simp only [hr] at h; cases h
      | some r =>
        obtain ⟨hl, hm, hq⟩ := b64DecodeQ_some hr
        simp only [hr, Option.some.injEq] at h
        subst h
        simp only [hq, quantum, List.length_append, List.length_cons, List.length_nil]
        exact ⟨by omega, ⟨.inl rfl, .inl rfl, .inl rfl, .inl rfl, hm⟩, trivial⟩
    -- a padded quantum: the characters that are not of the alphabet are '=', and nothing follows
    all_goals
      obtain ⟨hc, hd⟩ := Option.ite_none_right_eq_some.mp h
      cases hd
      simp only [Bool.and_eq_true, beq_iff_eq, List.isEmpty_iff] at hc
      simp [hc, quantum, b64DecodeLooseQ]

/-- '\r' and '\n' are neither of the alphabet nor padding -/
theorem dropNL_b64Encode (b : Bytes) : dropNL (b64Encode b) = b64Encode b :=
  List.filter_eq_self.mpr fun c hc => by
    have nl : ∀ n : UInt8, n = 13 ∨ n = 10 → ¬ ((b64Val n).isSome ∨ n = padChar) := by rintro _ (rfl | rfl) <;> decide
    simpa using mt (nl c) (not_not_intro ((b64DecodeQ_some (b64DecodeQ_b64Encode b)).2.1 c hc))

theorem b64Decode_of_dropNL (t b : Bytes) (h : dropNL t = b64Encode b) : b64Decode t = some b := by
  rw [b64Decode, h, b64DecodeQ_b64Encode]

theorem b64Decode_b64Encode (b : Bytes) : b64Decode (b64Encode b) = some b :=
  b64Decode_of_dropNL _ _ (dropNL_b64Encode b)

/-- the bytes the streaming decoder can meet without failing: the alphabet, '=', and the '\r' / '\n' it drops -/
def b64Legal (c : UInt8) : Bool := (b64Val c).isSome || c == padChar || c == 13 || c == 10

theorem b64Decode_none_of_mem (t : Bytes) (c : UInt8) (h : c ∈ t) (hl : b64Legal c = false) : b64Decode t = none := by
  simp only [b64Legal, Bool.or_eq_false_iff] at hl
  obtain ⟨⟨⟨hv, hp⟩, h13⟩, h10⟩ := hl
  refine Option.eq_none_iff_forall_ne_some.mpr fun d hd => ?_
  rcases (b64DecodeQ_some hd).2.1 c (List.mem_filter.mpr ⟨h, by simp only [bne, h13, h10]; rfl⟩) with hs | rfl
  · rw [hv] at hs; cases hs
  · cases hp

end GceTcb.HexB64
