import GceTcb.Model.KeyHistoryKms
import GceTcb.Spec.KeyHistoryKms
import GceTcb.Proofs.KeyHistory
/-
Helper lemmas for C12 on the Cloud KMS manager (Model/KeyHistoryKms.lean): the service operations only move
key versions FORWARD (PENDING_GENERATION → ENABLED → DISABLED → DESTROY_SCHEDULED → DESTROYED, `VSt.rank`) and
only add versions under new numbers (`Prog`, `Fwd`); what a command does to the certificate authority is an
`Effect`; the certificate-authority lemmas are those of Proofs/KeyHistory.lean.  Core-only.
-/
namespace GceTcb.KeyHistory.KmsH
open GceTcb.Gen GceTcb.KeyHistory

/-- The order in which a version changes state; nothing in the model moves a version down.  `1 ≤ rank`: not
    PENDING_GENERATION; `2 ≤ rank`: cannot sign, now or later; `3 ≤ rank`: DESTROY_SCHEDULED or DESTROYED. -/
def VSt.rank : VSt → Nat
  | .pending _ => 0
  | .enabled => 1
  | .disabled => 2
  | .scheduled => 3
  | .destroyed => 4

def VSt.isPending : VSt → Bool
  | .pending _ => true
  | _ => false

theorem rank_pos {a : VSt} : 1 ≤ a.rank ↔ ∀ g, a ≠ .pending g := by
  cases a <;> simp [VSt.rank]

theorem enabled_of_le {a b : VSt} (h : a.rank ≤ b.rank) (hb : b = .enabled) : a = .enabled ∨ a.isPending = true := by
  rw [hb] at h
  cases a with
  | enabled => exact Or.inl rfl
  | pending g => exact Or.inr rfl
  | _ => simp [VSt.rank] at h

theorem scheduled_of_le {a : VSt} (h : 3 ≤ a.rank) : a = .scheduled ∨ a = .destroyed := by
  cases a with
  | scheduled => exact Or.inl rfl
  | destroyed => exact Or.inr rfl
  | _ => simp [VSt.rank] at h

def Prog (s s' : Svc) : Prop :=
  (∀ n, s.has n = true → s'.has n = true ∧ (s.ver n).st.rank ≤ (s'.ver n).st.rank ∧ (s'.ver n).mat = (s.ver n).mat) ∧
  (∀ k, s.keys.contains k = true → s'.keys.contains k = true ∧ s.count k ≤ s'.count k)

theorem Prog.refl (s : Svc) : Prog s s :=
  ⟨fun _ h => ⟨h, Nat.le_refl _, rfl⟩, fun _ h => ⟨h, Nat.le_refl _⟩⟩

theorem Prog.trans {a b c : Svc} (h1 : Prog a b) (h2 : Prog b c) : Prog a c := by
  refine ⟨fun n hn => ?_, fun k hk => ⟨(h2.2 k (h1.2 k hk).1).1, Nat.le_trans (h1.2 k hk).2 (h2.2 k (h1.2 k hk).1).2⟩⟩
  obtain ⟨x1, x2, x3⟩ := h1.1 n hn
  obtain ⟨y1, y2, y3⟩ := h2.1 n x1
  exact ⟨y1, Nat.le_trans x2 y2, y3.trans x3⟩

theorem has_iff (s : Svc) (n : KName) :
    s.has n = true ↔ s.keys.contains n.base = true ∧ 1 ≤ n.idx ∧ n.idx ≤ s.count n.base := by
  simp [Svc.has, and_assoc]

theorem has_set (s : Svc) (n m : KName) (v : Ver) : (s.set n v).has m = s.has m := rfl

theorem ver_set (s : Svc) (n m : KName) (v : Ver) : (s.set n v).ver m = if m = n then v else s.ver m := rfl

theorem Prog_set {s : Svc} {n : KName} {v : Ver} (hle : (s.ver n).st.rank ≤ v.st.rank) (hm : v.mat = (s.ver n).mat) :
    Prog s (s.set n v) := by
  refine ⟨fun m hm' => ⟨hm', ?_⟩, fun _ h => ⟨h, Nat.le_refl _⟩⟩
  rw [ver_set]
  by_cases e : m = n
  · rw [if_pos e, e]; exact ⟨hle, hm⟩
  · rw [if_neg e]; exact ⟨Nat.le_refl _, rfl⟩

theorem Prog_map (s : Svc) (g : KName → Ver → Ver)
    (hg : ∀ n v, v.st.rank ≤ (g n v).st.rank ∧ (g n v).mat = v.mat) :
    Prog s { s with ver := fun n => if s.has n then g n (s.ver n) else s.ver n } := by
  refine ⟨fun n hn => ⟨hn, ?_⟩, fun _ h => ⟨h, Nat.le_refl _⟩⟩
  show _ ≤ (if s.has n then g n (s.ver n) else s.ver n).st.rank ∧ (if s.has n then g n (s.ver n) else s.ver n).mat = _
  rw [if_pos hn]; exact hg n _

def AtLeast (r : Nat) (s : Svc) : Prop := ∀ n, s.has n = true → r ≤ (s.ver n).st.rank

def PendAt (s : Svc) (n : KName) : Prop := ∀ m, s.has m = true → m ≠ n → 1 ≤ (s.ver m).st.rank

theorem atLeast_one_iff (s : Svc) : AtLeast 1 s ↔ NoPending s := forall₂_congr fun _ _ => rank_pos

theorem Prog.atLeast {s s' : Svc} (hp : Prog s s') (hh : ∀ n, s'.has n = true → s.has n = true) {r : Nat}
    (h : AtLeast r s) : AtLeast r s' :=
  fun n hn => Nat.le_trans (h n (hh n hn)) (hp.1 n (hh n hn)).2.1

theorem atLeast_set {s : Svc} {n : KName} (h : PendAt s n) {v : Ver} (hv : 1 ≤ v.st.rank) : AtLeast 1 (s.set n v) := by
  intro m hm
  rw [ver_set]
  by_cases e : m = n
  · rw [if_pos e]; exact hv
  · rw [if_neg e]; exact h m hm e

/-- `d`: the command's context can expire during a wait. -/
def Fwd (d : Bool) (s s' : Svc) : Prop := Prog s s' ∧ (d = false → AtLeast 1 s → AtLeast 1 s')

theorem Fwd.refl (d : Bool) (s : Svc) : Fwd d s s := ⟨Prog.refl s, fun _ h => h⟩

theorem Fwd.trans {d : Bool} {a b c : Svc} (h1 : Fwd d a b) (h2 : Fwd d b c) : Fwd d a c :=
  ⟨h1.1.trans h2.1, fun hd h => h2.2 hd (h1.2 hd h)⟩

theorem Fwd.same {s s' : Svc} (hp : Prog s s') (hh : ∀ n, s'.has n = true → s.has n = true) (d : Bool) : Fwd d s s' :=
  ⟨hp, fun _ => hp.atLeast hh⟩

structure Adds (s s' : Svc) (n : KName) : Prop where
  fresh : s.has n = false
  has : ∀ m, s'.has m = true ↔ s.has m = true ∨ m = n
  ver : ∀ m, m ≠ n → s'.ver m = s.ver m
  keys : ∀ k, s.keys.contains k = true → s'.keys.contains k = true ∧ s.count k ≤ s'.count k

theorem Adds.prog {s s' : Svc} {n : KName} (h : Adds s s' n) : Prog s s' := by
  refine ⟨fun m hm => ?_, h.keys⟩
  have hne : m ≠ n := fun e => by rw [e, h.fresh] at hm; cases hm
  rw [h.ver m hne]
  exact ⟨(h.has m).mpr (Or.inl hm), Nat.le_refl _, rfl⟩

theorem Adds.pendAt {s s' : Svc} {n : KName} (h : Adds s s' n) (hs : AtLeast 1 s) : PendAt s' n := by
  intro m hm hne
  rw [h.ver m hne]
  exact hs m (((h.has m).mp hm).resolve_right hne)

theorem nextName_not_has (s : Svc) (k : String) : s.has (s.nextName k) = false :=
  Bool.eq_false_iff.mpr fun h => Nat.not_succ_le_self _ ((has_iff s _).mp h).2.2

theorem noName_not_has (s : Svc) : s.has noName = false :=
  Bool.eq_false_iff.mpr fun h => absurd ((has_iff s _).mp h).2.1 (by decide)

theorem adds_create (e : Env) (s : Svc) (k : String) (hk : s.keys.contains k = true) :
    Adds s (s.create e k) (s.nextName k) where
  fresh := nextName_not_has s k
  has := fun m => by
    obtain ⟨b, i⟩ := m
    simp only [has_iff, Svc.create, Svc.nextName, KName.mk.injEq]
    -- under `k` the count went up by one, under the other cryptoKeys nothing changed
    by_cases hb : b = k
    · subst hb; simp only [↓reduceIte, hk, true_and]; omega
    · simp only [↓reduceIte, hb, false_and, or_false]
  ver := fun m hne => if_neg hne
  keys := fun x hx => by
    refine ⟨hx, ?_⟩
    show s.count x ≤ if x = k then s.count k + 1 else s.count x
    split
    · next h => rw [h]; exact Nat.le_succ _
    · exact Nat.le_refl _

theorem contains_snoc (l : List String) (k x : String) :
    (l ++ [k]).contains x = true ↔ l.contains x = true ∨ x = k := by simp

theorem adds_addKey (e : Env) (s : Svc) (k : String) (hk : s.keys.contains k = false) :
    Adds s (s.addKey e k) ⟨k, 1⟩ where
  fresh := Bool.eq_false_iff.mpr fun h => by rw [((has_iff s _).mp h).1] at hk; cases hk
  has := fun m => by
    obtain ⟨b, i⟩ := m
    simp only [has_iff, Svc.addKey, contains_snoc, KName.mk.injEq]
    -- `k` was no cryptoKey and now has exactly version 1, under the other cryptoKeys nothing changed
    by_cases hb : b = k
    · subst hb; simp only [↓reduceIte, hk, or_true, true_and, false_and, false_or, Bool.false_eq_true]; omega
    · simp only [↓reduceIte, hb, false_and, or_false]
  ver := fun m hne => if_neg hne
  keys := fun x hx => by
    have hb : x ≠ k := fun e' => by rw [e', hk] at hx; cases hx
    refine ⟨(contains_snoc _ _ _).mpr (Or.inl hx), ?_⟩
    show s.count x ≤ if x = k then 1 else s.count x
    rw [if_neg hb]; exact Nat.le_refl _

theorem ver?_of_has {s : Svc} {n : KName} (h : s.has n = true) : s.ver? n = some (s.ver n) := if_pos h

theorem signer?_enabled {s : Svc} {n : KName} {k : Nat} (h : s.signer? n = some k) :
    s.has n = true ∧ (s.ver n).st = .enabled := by
  unfold Svc.signer? Svc.ver? at h
  by_cases hh : s.has n = true
  · rw [if_pos hh] at h
    refine ⟨hh, ?_⟩
    cases hs : s.ver n with
    | mk st m => rw [hs] at h; cases st <;> first | rfl | cases h
  · rw [if_neg hh] at h; cases h

theorem waitGen_cases (e : Env) (s : Svc) (n : KName) :
    ((waitGen e s n).1 = s ∧ (s.has n = true → 1 ≤ (s.ver n).st.rank) ∧
      ((waitGen e s n).2 = true → s.has n = true ∧ (s.ver n).st = .enabled)) ∨
    (s.has n = true ∧ (s.ver n).st.rank = 0 ∧
      (waitGen e s n = (s.set n ⟨.enabled, (s.ver n).mat⟩, true) ∨
       (e.deadline = true ∧ ∃ g, waitGen e s n = (s.set n ⟨.pending g, (s.ver n).mat⟩, false)))) := by
  unfold waitGen Svc.ver?
  by_cases hh : s.has n = true
  · rw [if_pos hh]
    simp only []
    cases hst : (s.ver n).st with
    | pending g =>
      refine Or.inr ⟨hh, rfl, ?_⟩
      cases g with
      | zero => exact Or.inl rfl
      | succ g =>
        cases hd : e.deadline with
        | true => exact Or.inr ⟨rfl, g, rfl⟩
        | false => exact Or.inl rfl
    | enabled => exact Or.inl ⟨rfl, fun _ => Nat.le_refl 1, fun _ => ⟨hh, rfl⟩⟩
    | _ => exact Or.inl ⟨rfl, fun _ => by decide, nofun⟩
  · rw [if_neg hh]; exact Or.inl ⟨rfl, fun h => absurd h hh, nofun⟩

theorem waitGen_spec (e : Env) (s : Svc) (n : KName) :
    Prog s (waitGen e s n).1 ∧
    ((waitGen e s n).2 = true → (waitGen e s n).1.has n = true ∧ ((waitGen e s n).1.ver n).st = .enabled) ∧
    (e.deadline = false → PendAt s n → AtLeast 1 (waitGen e s n).1) := by
  rcases waitGen_cases e s n with ⟨e1, h2, h3⟩ | ⟨hh, hp, e1 | ⟨hd, g, e1⟩⟩ <;> rw [e1]
  · refine ⟨Prog.refl s, h3, fun _ h m hm => ?_⟩
    by_cases e2 : m = n
    · rw [e2] at hm ⊢; exact h2 hm
    · exact h m hm e2
  · exact ⟨Prog_set (by rw [hp]; exact Nat.zero_le _) rfl, fun _ => ⟨hh, by rw [ver_set, if_pos rfl]⟩,
      fun _ h => atLeast_set h (Nat.le_refl 1)⟩
  · exact ⟨Prog_set (by rw [hp]; exact Nat.zero_le _) rfl, nofun, fun hd' => by rw [hd] at hd'; cases hd'⟩

theorem scanFrom_succ (st : Nat → VSt) (todo i : Nat) (pend : Option Nat) :
    scanFrom st (todo + 1) i pend =
      if st i = .enabled then .ret i else scanFrom st todo (i + 1) (if (st i).isPending then some i else pend) := by
  rw [scanFrom]
  cases st i <;> rfl

theorem scanFrom_ret {st : Nat → VSt} {todo i : Nat} {pend : Option Nat} {j : Nat}
    (h : scanFrom st todo i pend = .ret j) : i ≤ j ∧ j < i + todo ∧ st j = .enabled := by
  induction todo generalizing i pend with
  | zero => cases h
  | succ t ih =>
    rw [scanFrom_succ] at h
    by_cases h1 : st i = .enabled
    · rw [if_pos h1] at h
      cases h
      exact ⟨Nat.le_refl _, Nat.lt_add_of_pos_right (Nat.succ_pos t), h1⟩
    · rw [if_neg h1] at h
      exact ⟨Nat.le_of_succ_le (ih h).1, Nat.succ_add_eq_add_succ i t ▸ (ih h).2.1, (ih h).2.2⟩

/-- bootstrap.go's shortcut on the response of CreateCryptoKeyVersion changes nothing as long as the response
    reports the state the version is in: polling a version that is ENABLED returns at once -/
theorem createAndWait_eq (e : Env) (s : Svc) (k : String) (hk : s.keys.contains k = true) :
    createAndWait e s k =
      ((waitGen e (s.create e k) (s.nextName k)).1,
       if (waitGen e (s.create e k) (s.nextName k)).2 then some (s.nextName k) else none) := by
  unfold createAndWait
  by_cases hc : e.createdSt = .enabled
  · have hv : (s.create e k).ver (s.nextName k) = ⟨.enabled, s.next⟩ := hc ▸ if_pos rfl
    simp only [if_pos hc, waitGen, ver?_of_has (((adds_create e s k hk).has _).mpr (Or.inr rfl)), hv]
    rfl
  · rw [if_neg hc]

def KeyStepOK (e : Env) (k : String) (s : Svc) (r : Svc × Option KName) : Prop :=
  Fwd e.deadline s r.1 ∧ ∀ n, r.2 = some n → n.base = k ∧ r.1.has n = true ∧ (r.1.ver n).st = .enabled

theorem KeyStepOK.refl (e : Env) (k : String) (s : Svc) : KeyStepOK e k s (s, none) := ⟨Fwd.refl _ s, nofun⟩

theorem keyStep_wait (e : Env) {s0 s : Svc} (n : KName) (hp : Prog s0 s) (hpend : AtLeast 1 s0 → PendAt s n) :
    KeyStepOK e n.base s0 ((waitGen e s n).1, if (waitGen e s n).2 then some n else none) := by
  obtain ⟨w1, w2, w3⟩ := waitGen_spec e s n
  refine ⟨⟨hp.trans w1, fun hd h0 => w3 hd (hpend h0)⟩, fun m h => ?_⟩
  cases hw : (waitGen e s n).2 with
  | true => rw [hw] at h; cases h; exact ⟨rfl, w2 hw⟩
  | false => rw [hw] at h; cases h

theorem waitForKeyGen_spec (e : Env) (s : Svc) (k : String) : KeyStepOK e k s (waitForKeyGen e s k) := by
  unfold waitForKeyGen
  by_cases h0 : (!s.keys.contains k || decide (s.count k = 0)) = true
  · rw [if_pos h0]; exact KeyStepOK.refl e k s
  · rw [if_neg h0]
    have hk : s.keys.contains k = true := Bool.not_eq_false _ |>.mp fun hc => h0 (by rw [hc]; rfl)
    cases hsc : scan s k with
    | ret i =>
      obtain ⟨a, b, c⟩ := scanFrom_ret hsc
      refine ⟨Fwd.refl _ _, fun n h => ?_⟩
      cases h
      rw [Nat.add_comm] at b
      exact ⟨rfl, (has_iff _ _).mpr ⟨hk, a, Nat.le_of_lt_succ b⟩, c⟩
    | cont p =>
      cases p with
      | some i => exact keyStep_wait e ⟨k, i⟩ (Prog.refl s) (fun h m hm _ => h m hm)
      | none =>
        show KeyStepOK e k s (createAndWait e s k)
        rw [createAndWait_eq e s k hk]
        exact keyStep_wait e (s.nextName k) (adds_create e s k hk).prog (adds_create e s k hk).pendAt

/-- a cryptoKey just made has one version, PENDING_GENERATION: waitForKeyGen waits for it -/
theorem waitForKeyGen_addKey (e : Env) (s : Svc) (k : String) :
    waitForKeyGen e (s.addKey e k) k =
      ((waitGen e (s.addKey e k) ⟨k, 1⟩).1, if (waitGen e (s.addKey e k) ⟨k, 1⟩).2 then some ⟨k, 1⟩ else none) := by
  simp [waitForKeyGen, scan, scanFrom, Svc.addKey]

theorem recreateCryptoKey_spec (f : Flags) (e : Env) (s : Svc) (k : String) : KeyStepOK e k s (recreateCryptoKey f e s k) := by
  unfold recreateCryptoKey
  by_cases hk : s.keys.contains k = true
  · rw [if_pos hk]
    by_cases hg : f.keepGoing = true
    · rw [if_pos hg]; exact waitForKeyGen_spec e s k
    · rw [if_neg hg]; exact KeyStepOK.refl e k s
  · rw [if_neg hk, waitForKeyGen_addKey]
    have ha := adds_addKey e s k (by simpa using hk)
    exact keyStep_wait e ⟨k, 1⟩ ha.prog ha.pendAt

theorem createNewRootKey_spec (f : Flags) (e : Env) (s : Svc) (k : String) : KeyStepOK e k s (createNewRootKey f e s k) := by
  unfold createNewRootKey
  by_cases h : (s.ring && !f.keepGoing) = true
  · rw [if_pos h]; exact KeyStepOK.refl e k s
  · rw [if_neg h]
    -- `has`, `ver`, `keys`, `count` do not mention the key ring
    exact recreateCryptoKey_spec f e { s with ring := true } k

/-- `Gen.Kms.destroyableTable` in terms of `rank` -/
theorem wipeVer_eq (v : Ver) :
    wipeVer v = if 1 ≤ v.st.rank ∧ v.st.rank ≤ 2 then ⟨.scheduled, v.mat⟩ else v := by
  obtain ⟨st, m⟩ := v
  cases st <;> rfl

theorem wipeVerFails_false (v : Ver) : wipeVerFails v = false := by
  obtain ⟨st, m⟩ := v
  cases st <;> rfl

theorem wipeVer_le (v : Ver) : v.st.rank ≤ (wipeVer v).st.rank ∧ (wipeVer v).mat = v.mat := by
  rw [wipeVer_eq]
  split
  · next h => exact ⟨Nat.le_succ_of_le h.2, rfl⟩
  · exact ⟨Nat.le_refl _, rfl⟩

theorem wipeVer_gone (v : Ver) (hp : 1 ≤ v.st.rank) : 3 ≤ (wipeVer v).st.rank := by
  rw [wipeVer_eq]
  split
  · exact Nat.le_refl 3
  · next h => exact Nat.lt_of_not_le fun h2 => h ⟨hp, h2⟩

theorem destroy_cases (s : Svc) (n : KName) :
    (s.destroy n = (s, false) ∧ (s.has n = true → wipeVer (s.ver n) = s.ver n)) ∨
    (s.has n = true ∧ (wipeVer (s.ver n)).st = .scheduled ∧ s.destroy n = (s.set n (wipeVer (s.ver n)), true)) := by
  unfold Svc.destroy Svc.ver?
  by_cases hh : s.has n = true
  · rw [if_pos hh]
    cases hs : s.ver n with
    | mk st m =>
      cases st with
      | enabled => exact Or.inr ⟨hh, rfl, rfl⟩
      | disabled => exact Or.inr ⟨hh, rfl, rfl⟩
      | _ => exact Or.inl ⟨rfl, fun _ => rfl⟩
  · rw [if_neg hh]; exact Or.inl ⟨rfl, fun h => absurd h hh⟩

theorem destroy_has (s : Svc) (n m : KName) : (s.destroy n).1.has m = s.has m := by
  rcases destroy_cases s n with ⟨e1, _⟩ | ⟨_, _, e1⟩ <;> rw [e1]; rfl

theorem Fwd_destroy (d : Bool) (s : Svc) (n : KName) : Fwd d s (s.destroy n).1 := by
  refine Fwd.same ?_ (fun m h => destroy_has s n m ▸ h) d
  rcases destroy_cases s n with ⟨e1, _⟩ | ⟨_, _, e1⟩ <;> rw [e1]
  · exact Prog.refl s
  · exact Prog_set (wipeVer_le _).1 (wipeVer_le _).2

theorem destroy_true {s : Svc} {n : KName} (h : (s.destroy n).2 = true) :
    s.has n = true ∧ ((s.destroy n).1.ver n).st = .scheduled := by
  rcases destroy_cases s n with ⟨e1, _⟩ | ⟨hh, h2, e1⟩
  · rw [e1] at h; cases h
  · rw [e1, ver_set, if_pos rfl]; exact ⟨hh, h2⟩

theorem destroy_retires {s : Svc} {n : KName} (hh : s.has n = true) (hp : 1 ≤ (s.ver n).st.rank) :
    2 ≤ ((s.destroy n).1.ver n).st.rank := by
  have h3 := Nat.le_of_succ_le (wipeVer_gone _ hp)
  rcases destroy_cases s n with ⟨e1, h2⟩ | ⟨_, _, e1⟩ <;> rw [e1]
  · rw [h2 hh] at h3; exact h3
  · rw [ver_set, if_pos rfl]; exact h3

theorem Prog_wipeKeys (s : Svc) : Prog s (wipeKeys s).1 := Prog_map s (fun _ => wipeVer) (fun _ => wipeVer_le)

theorem wipeKeys_ok (s : Svc) : (wipeKeys s).2 = true := by
  have : wipeVerFails = fun _ => false := funext wipeVerFails_false
  simp [wipeKeys, this]

theorem wipeKeys_gone {s : Svc} (h : AtLeast 1 s) : AtLeast 3 (wipeKeys s).1 := fun n (hn : s.has n = true) => by
  show 3 ≤ (if s.has n then wipeVer (s.ver n) else s.ver n).st.rank
  rw [if_pos hn]; exact wipeVer_gone _ (h n hn)

theorem extVer_le (x : Ext) (n : KName) (v : Ver) : v.st.rank ≤ (extVer x n v).st.rank ∧ (extVer x n v).mat = v.mat := by
  unfold extVer
  split
  · next h => rw [h]; exact ⟨Nat.zero_le _, rfl⟩
  · next h =>
    rw [h]
    split
    · exact ⟨(by decide : 1 ≤ 2), rfl⟩
    · rw [h]; exact ⟨Nat.le_refl _, rfl⟩
  · next h => rw [h]; exact ⟨(by decide : 3 ≤ 4), rfl⟩
  · exact ⟨Nat.le_refl _, rfl⟩

theorem Prog_ext (s : Svc) (x : Ext) : Prog s (s.ext x) := Prog_map s (extVer x) (extVer_le x)

theorem atLeast_exts (cfg : KCfg) {r : Nat} (t : List Ext) :
    ∀ s : KState, AtLeast r s.svc → AtLeast r (kRun cfg s (t.map .ext)).svc := by
  induction t with
  | nil => exact fun s hs => hs
  | cons x t ih => exact fun s hs => ih _ ((Prog_ext s.svc x).atLeast (fun _ h => h) hs)

theorem AtLeast.no_signer {s : Svc} (h : AtLeast 2 s) (n : KName) : s.signer? n = none := by
  cases hs : s.signer? n with
  | none => rfl
  | some k =>
    obtain ⟨hh, he⟩ := signer?_enabled hs
    have := h n hh
    rw [he] at this
    exact absurd this (by decide)

theorem kSign_signer {sk : Option Nat} {parent : Option Cert} {t : Tmpl} {c : Cert}
    (h : kSign sk parent t = some c) : sk = some c.signerKey := by
  unfold kSign at h
  have := (signCert_some h).1
  cases sk with
  | none => simp [get] at this
  | some m => simpa [get] using this

theorem bundle_caCfg (ca : CA) : bundle caCfg ca = ca.rootObj := rfl

theorem kRotCert_some {svc : Svc} {ca : CA} {kver : KName} {cn : String} {serial now : Nat} {c : Cert}
    (h : kRotCert svc ca kver cn serial now = some c) :
    Good caCfg ca c ∧ c.cn = cn ∧ c.subjSerial = serial ∧ c.certSerial = serial ∧ c.notBefore = now := by
  unfold kRotCert at h
  by_cases hg : rotGuard caCfg ca = true
  · rw [if_pos hg] at h
    obtain ⟨⟨r, hr⟩, _⟩ := rotGuard_some hg
    cases hs : svc.signer? kver with
    | none => rw [hs] at h; cases h
    | some sk =>
      rw [hs, hr] at h
      obtain ⟨p, i⟩ := signProfile_of_signed (google_sign_ok cn serial now sk) h
      obtain ⟨_, rfl⟩ := signCert_some h
      exact ⟨⟨p, r, hr, i⟩, rfl, rfl, rfl, rfl⟩
  · rw [if_neg hg] at h; cases h

def Recorded (ca : CA) (n : KName) : Prop := (get ca.entries n).isSome = true

theorem upload_entries {g : Bool} {f : Flags} {ca ca' : CA} {n : KName} {c : Cert}
    (h : upload g f ca n c = some ca') (m : KName) (hm : Recorded ca' m) : m = n ∨ Recorded ca m := by
  by_cases e2 : m = n
  · exact Or.inl e2
  · right
    unfold Recorded at hm ⊢
    rcases upload_cases h with ⟨e, _⟩ | ⟨e, _⟩ <;> rw [e] at hm
    · rwa [caSkip, get_put_ne _ _ _ _ e2] at hm
    · rwa [caWrite, get_put_ne _ _ _ _ e2] at hm

theorem uploadAll_entries (g : Bool) (f : Flags) (l : List (KName × Cert)) (ca : CA) (m : KName)
    (hm : Recorded (uploadAll g f ca l).1 m) : m ∈ l.map (·.1) ∨ Recorded ca m := by
  induction l generalizing ca with
  | nil => exact Or.inr hm
  | cons hd t ih =>
    obtain ⟨n, c⟩ := hd
    unfold uploadAll at hm
    cases hu : upload g f ca n c with
    | none => rw [hu] at hm; exact Or.inr hm
    | some ca' =>
      rw [hu] at hm
      rcases ih ca' hm with h1 | h1
      · exact Or.inl (List.mem_cons_of_mem _ h1)
      · exact (upload_entries hu m h1).imp_left (fun h2 => by rw [h2]; exact List.mem_cons_self)

theorem gcsFinalize_entries (g : Bool) (f : Flags) (ca : CA) (mu : Mut) (m : KName)
    (hm : Recorded (gcsFinalize g f ca mu).1 m) : m ∈ mu.certs.map (·.1) ∨ Recorded ca m := by
  rcases gcsFinalize_cases g f ca mu with e | e | ⟨r, _, _, e⟩ <;> rw [e] at hm
  · exact Or.inr hm
  · exact uploadAll_entries g f mu.certs (mu.start ca) m hm
  · exact uploadAll_entries g f mu.certs (mu.start ca) m hm

theorem kBootCerts_shape (f : Flags) (a : BootArgs) (svc : Svc) (rootKV signKV : KName) (stored : CA) (sf : Bool) :
    (kBootCerts f a svc rootKV signKV stored sf).1 = stored ∨
    ∃ rc sc, RootProfile rc ∧ (SignProfile sc ∧ IssuedBy rc sc) ∧
      (kBootCerts f a svc rootKV signKV stored sf).1 =
        (gcsFinalize true f stored ⟨some rootKV, some signKV,
          if sf then [(signKV, sc), (rootKV, rc)] else [(rootKV, rc), (signKV, sc)], some rc⟩).1 := by
  unfold kBootCerts
  cases svc.signer? rootKV with
  | none => exact Or.inl rfl
  | some rk =>
    simp only []
    cases h2 : kSign (some rk) none (Tmpl.google true a.rootCn a.rootSerial a.now rk) with
    | none => exact Or.inl rfl
    | some rc =>
      simp only []
      cases svc.signer? signKV with
      | none => exact Or.inl rfl
      | some sk =>
        simp only []
        cases h4 : kSign (some rk) (some rc) (Tmpl.google false a.signCn a.signSerial a.now sk) with
        | none => exact Or.inl rfl
        | some sc =>
          exact Or.inr ⟨rc, sc, rootProfile_of_signed (google_root_ok _ _ _ _) h2, signProfile_of_signed (google_sign_ok _ _ _ _) h4, rfl⟩

/-- What a bootstrap that reached Finalize did; `sf`: the order in which Finalize visits the two certificates. -/
structure BootCommit (cfg : KCfg) (f : Flags) (sf : Bool) (s s' : KState) (rootKV signKV : KName) (rc sc : Cert) : Prop where
  rootBase : rootKV.base = cfg.rootKey
  signBase : signKV.base = cfg.signKey
  hasRoot : s'.svc.has rootKV = true
  liveRoot : 1 ≤ (s'.svc.ver rootKV).st.rank
  hasSign : s'.svc.has signKV = true
  liveSign : 1 ≤ (s'.svc.ver signKV).st.rank
  root : RootProfile rc
  sign : SignProfile sc ∧ IssuedBy rc sc
  ca : s'.ca = (gcsFinalize true f s.ca ⟨some rootKV, some signKV,
    if sf then [(signKV, sc), (rootKV, rc)] else [(rootKV, rc), (signKV, sc)], some rc⟩).1

theorem kBootstrap_shape (cfg : KCfg) (f : Flags) (a : BootArgs) (e : Env) (sf : Bool) (s : KState) :
    Fwd e.deadline s.svc (kBootstrap cfg f a e sf s).1.svc ∧
    ((kBootstrap cfg f a e sf s).1.ca = s.ca ∨
     ∃ rootKV signKV rc sc, BootCommit cfg f sf s (kBootstrap cfg f a e sf s).1 rootKV signKV rc sc) := by
  unfold kBootstrap createFirstSigningKey
  -- `s1`, `s2`: the service after the first and after the second key step
  obtain ⟨p1, q1⟩ := createNewRootKey_spec f e s.svc cfg.rootKey
  generalize createNewRootKey f e s.svc cfg.rootKey = r1 at p1 q1 ⊢
  obtain ⟨s1, _ | rootKV⟩ := r1
  · exact ⟨p1, Or.inl rfl⟩
  · obtain ⟨a1, a2, a3⟩ := q1 rootKV rfl
    obtain ⟨p2, q2⟩ := recreateCryptoKey_spec f e s1 cfg.signKey
    generalize recreateCryptoKey f e s1 cfg.signKey = r2 at p2 q2 ⊢
    obtain ⟨s2, _ | signKV⟩ := r2
    · exact ⟨p1.trans p2, Or.inl rfl⟩
    · obtain ⟨b1, b2, b3⟩ := q2 signKV rfl
      obtain ⟨x1, x2, _⟩ := p2.1.1 rootKV a2
      refine ⟨p1.trans p2, ?_⟩
      rcases kBootCerts_shape f a s2 rootKV signKV s.ca sf with e1 | ⟨rc, sc, g1, g2, e1⟩
      · exact Or.inl e1
      · exact Or.inr ⟨rootKV, signKV, rc, sc, a1, b1, x1, Nat.le_trans (by rw [a3]; exact Nat.le_refl 1) x2, b2,
          by rw [b3]; exact Nat.le_refl 1, g1, g2, e1⟩

/-- What a rotation that Finalize accepted did (`r` is rotate.Key's result); `retired`, `ok`: the previous primary
    went through DestroyCryptoKeyVersion, whose answer is the rotation's. -/
structure RotCommit (cfg : KCfg) (f : Flags) (s : KState) (serial : Nat) (c : Cert) (r : KState × Bool) : Prop where
  has : r.1.svc.has (s.svc.nextName cfg.signKey) = true
  live : 1 ≤ (r.1.svc.ver (s.svc.nextName cfg.signKey)).st.rank
  good : Good caCfg s.ca c
  serials : c.subjSerial = serial ∧ c.certSerial = serial
  fin : (caAfterRotate caCfg f s.ca (s.svc.nextName cfg.signKey) (some c)).2 = true
  ca : r.1.ca = (gcsFinalize true f s.ca ⟨none, some (s.svc.nextName cfg.signKey), [(s.svc.nextName cfg.signKey, c)], none⟩).1
  retired : s.svc.has s.ca.primarySigning = true → 1 ≤ (s.svc.ver s.ca.primarySigning).st.rank →
    2 ≤ (r.1.svc.ver s.ca.primarySigning).st.rank
  ok : r.2 = true → s.ca.primarySigning ≠ noName →
    r.1.svc.has s.ca.primarySigning = true ∧ (r.1.svc.ver s.ca.primarySigning).st = .scheduled

theorem RotCommit.records {cfg : KCfg} {f : Flags} {s : KState} {serial : Nat} {c : Cert} {r : KState × Bool}
    (q : RotCommit cfg f s serial c r) (hk : f.keepGoing = false) :
    r.1.ca.primarySigning = s.svc.nextName cfg.signKey ∧ certificate r.1.ca r.1.ca.primarySigning = some c := by
  obtain ⟨k1, k2⟩ := caAfterRotate_ok_nokg q.fin hk
  rw [show r.1.ca = (caAfterRotate caCfg f s.ca (s.svc.nextName cfg.signKey) (some c)).1 from q.ca]
  exact ⟨k1, by rw [k1]; exact k2⟩

theorem kRotate_shape (cfg : KCfg) (f : Flags) (e : Env) (s : KState) (cn : String) (serial now : Nat) :
    Fwd e.deadline s.svc (kRotate cfg f e s cn serial now).1.svc ∧
    ((kRotate cfg f e s cn serial now).1.ca = s.ca ∧ (kRotate cfg f e s cn serial now).2 = false ∨
     ∃ c, RotCommit cfg f s serial c (kRotate cfg f e s cn serial now)) := by
  unfold kRotate
  by_cases hk : s.svc.keys.contains cfg.signKey = true
  · rw [if_neg (by rw [hk]; decide)]
    have ha := adds_create e s.svc cfg.signKey hk
    obtain ⟨hR, hen⟩ := keyStep_wait e (s.svc.nextName cfg.signKey) ha.prog ha.pendAt
    -- `R`: the service after CreateCryptoKeyVersion and the wait
    generalize waitGen e (s.svc.create e cfg.signKey) (s.svc.nextName cfg.signKey) = w at hR hen ⊢
    obtain ⟨R, ok⟩ := w
    cases ok with
    | false => exact ⟨hR, Or.inl ⟨rfl, rfl⟩⟩
    | true =>
      obtain ⟨_, w3, w4⟩ := hen _ rfl
      simp only []
      cases hc : kRotCert R s.ca (s.svc.nextName cfg.signKey) cn serial now with
      | none => exact ⟨hR, Or.inl ⟨rfl, rfl⟩⟩
      | some c =>
        simp only []
        by_cases hf : (caAfterRotate caCfg f s.ca (s.svc.nextName cfg.signKey) (some c)).2 = true
        · rw [if_pos hf]
          obtain ⟨g, _, g5, g6, _⟩ := kRotCert_some hc
          have w5 : 1 ≤ (R.ver (s.svc.nextName cfg.signKey)).st.rank := by rw [w4]; exact Nat.le_refl 1
          by_cases hn : s.ca.primarySigning = noName
          · rw [if_pos hn]
            exact ⟨hR, Or.inr ⟨c, w3, w5, g, ⟨g5, g6⟩, hf, rfl,
              fun hh => (by rw [hn, noName_not_has] at hh; cases hh), fun _ h => absurd hn h⟩⟩
          · rw [if_neg hn]
            have hD := Fwd_destroy e.deadline R s.ca.primarySigning
            refine ⟨hR.trans hD, Or.inr ⟨c, by rw [destroy_has]; exact w3, Nat.le_trans w5 (hD.1.1 _ w3).2.1,
              g, ⟨g5, g6⟩, hf, rfl, fun hh hp => ?_, fun h _ => ?_⟩⟩
            · obtain ⟨x1, x2, _⟩ := hR.1.1 _ hh
              exact destroy_retires x1 (Nat.le_trans hp x2)
            · obtain ⟨d1, d2⟩ := destroy_true h
              exact ⟨by rw [destroy_has]; exact d1, d2⟩
        · rw [if_neg hf]
          exact ⟨hR, Or.inl ⟨caAfterRotate_fail (Bool.eq_false_iff.mpr hf), rfl⟩⟩
  · rw [Bool.eq_false_iff.mpr hk]
    exact ⟨Fwd.refl _ _, Or.inl ⟨rfl, rfl⟩⟩

/-- the expiring context of a command, if it has one -/
def KCmd.deadline : KCmd → Bool
  | .bootstrap _ _ e _ => e.deadline
  | .rotate _ _ e => e.deadline
  | _ => false

inductive Effect (cfg : KCfg) (s : KState) (r : KState × Bool) : KCmd → Prop
  | same {c : KCmd} : r.1.ca = s.ca → Effect cfg s r c
  | wiped {f : Flags} {k : Bool} : r.1.ca = CA.empty → Effect cfg s r (.wipeout f true k)
  | boot {f : Flags} {a : BootArgs} {e : Env} {sf : Bool} {rootKV signKV : KName} {rc sc : Cert} :
      BootCommit cfg f sf s r.1 rootKV signKV rc sc → Effect cfg s r (.bootstrap f a e sf)
  | rot {f : Flags} {a : RotArgs} {e : Env} {n : Nat} {c : Cert} :
      resolveSerial s.ca a.serial = some n → RotCommit cfg f s n c r → Effect cfg s r (.rotate f a e)

theorem kStep_effect (cfg : KCfg) (s : KState) (c : KCmd) :
    Fwd c.deadline s.svc (kStep cfg s c).1.svc ∧ Effect cfg s (kStep cfg s c) c := by
  cases c with
  | bootstrap f a e sf =>
    obtain ⟨h1, h2⟩ := kBootstrap_shape cfg f a e sf s
    exact ⟨h1, h2.elim .same fun ⟨_, _, _, _, b⟩ => .boot b⟩
  | rotate f a e =>
    simp only [kStep]
    cases hn : resolveSerial s.ca a.serial with
    | none => exact ⟨Fwd.refl _ _, .same rfl⟩
    | some n =>
      obtain ⟨h1, h2⟩ := kRotate_shape cfg f e s a.cn n a.now
      exact ⟨h1, h2.elim (fun h => .same h.1) fun ⟨_, r⟩ => .rot hn r⟩
  | wipeout f c k =>
    constructor
    · cases k
      · exact Fwd.refl _ _
      · exact Fwd.same (Prog_wipeKeys _) (fun _ h => h) _
    · cases c
      · exact .same rfl
      · exact .wiped rfl
  | ext x => exact ⟨Fwd.same (Prog_ext _ _) (fun _ h => h) _, .same rfl⟩

theorem kStep_rotate_ok {cfg : KCfg} {s : KState} {f : Flags} {a : RotArgs} {e : Env}
    (h : (kStep cfg s (.rotate f a e)).2 = true) :
    ∃ n c, resolveSerial s.ca a.serial = some n ∧ RotCommit cfg f s n c (kStep cfg s (.rotate f a e)) := by
  simp only [kStep] at h ⊢
  cases hr : resolveSerial s.ca a.serial with
  | none => rw [hr] at h; cases h
  | some n =>
    rw [hr] at h
    rcases (kRotate_shape cfg f e s a.cn n a.now).2 with ⟨_, e2⟩ | ⟨c, r⟩
    · rw [e2] at h; cases h
    · exact ⟨n, c, rfl, r⟩

/-! ### the invariant of ALL histories -/

structure InvU (s : KState) : Prop where
  root : GcsRootInv s.ca
  bound : ∀ n, Recorded s.ca n → s.svc.has n = true

theorem not_recorded_empty (n : KName) : ¬ Recorded CA.empty n := Bool.noConfusion

theorem InvU_empty {s : KState} (e : s.ca = CA.empty) : InvU s :=
  ⟨e ▸ fun _ h => (nomatch h), fun n h => absurd (e ▸ h) (not_recorded_empty n)⟩

theorem InvU_init : InvU KState.init := InvU_empty rfl

theorem InvU_sameCA {s s' : KState} (h : InvU s) (hp : Prog s.svc s'.svc) (e : s'.ca = s.ca) : InvU s' :=
  ⟨e ▸ h.root, fun n hn => (hp.1 n (h.bound n (e ▸ hn))).1⟩

theorem InvU_finalize {s s' : KState} (h : InvU s) (hp : Prog s.svc s'.svc) {f : Flags} {m : Mut}
    (e : s'.ca = (gcsFinalize true f s.ca m).1) (hr : ∀ r, m.root = some r → RootProfile r)
    (hm : ∀ p ∈ m.certs, s'.svc.has p.1 = true) : InvU s' := by
  refine ⟨e ▸ GcsRootInv_gcsFinalize true f h.root m hr, fun n hn => ?_⟩
  · rw [e] at hn
    rcases gcsFinalize_entries _ _ _ _ n hn with hn' | hn'
    · obtain ⟨p, hp', rfl⟩ := List.mem_map.mp hn'
      exact hm p hp'
    · exact (hp.1 n (h.bound n hn')).1

theorem InvU.next_fresh {s : KState} (h : InvU s) (k : String) : get s.ca.entries (s.svc.nextName k) = none := by
  cases hg : get s.ca.entries (s.svc.nextName k) with
  | none => rfl
  | some p =>
    have := h.bound (s.svc.nextName k) (by rw [Recorded, hg]; rfl)
    rw [nextName_not_has] at this; cases this

theorem InvU_step (cfg : KCfg) {s : KState} (h : InvU s) (c : KCmd) : InvU (kStep cfg s c).1 := by
  obtain ⟨⟨hp, _⟩, he⟩ := kStep_effect cfg s c
  cases he with
  | same e => exact InvU_sameCA h hp e
  | wiped e => exact InvU_empty e
  | boot b =>
    exact InvU_finalize h hp b.ca (fun r hr => Option.some.inj hr ▸ b.root)
      (by split <;> simp [b.hasRoot, b.hasSign])
  | rot _ r =>
    exact InvU_finalize h hp r.ca nofun (fun p hp => List.mem_singleton.mp hp ▸ r.has)

theorem InvU_run (cfg : KCfg) (h : List KCmd) : ∀ s : KState, InvU s → InvU (kRun cfg s h) := by
  induction h with
  | nil => exact fun s hs => hs
  | cons c t ih => exact fun s hs => ih _ (InvU_step cfg hs c)

/-! ### the invariant of histories that bootstrap only into an empty certificate store -/

structure InvK (s : KState) : Prop where
  good : ∀ n p c, get s.ca.entries n = some p → n ≠ s.ca.primaryRoot → get s.ca.objects p = some c → Good caCfg s.ca c
  onlyPrimary : ∀ n, Recorded s.ca n → n ≠ s.ca.primaryRoot → n ≠ s.ca.primarySigning → 2 ≤ (s.svc.ver n).st.rank
  notPending : ∀ n, Recorded s.ca n → 1 ≤ (s.svc.ver n).st.rank

theorem InvK_of_ca {s : KState} {ca : CA} (h : InvK ⟨s.svc, ca⟩) (e : s.ca = ca) : InvK s := by
  cases s; cases e; exact h

theorem InvK_empty {s : KState} (e : s.ca = CA.empty) : InvK s :=
  InvK_of_ca (ca := CA.empty) ⟨fun _ _ _ h => (nomatch h), fun n h => absurd h (not_recorded_empty n),
    fun n h => absurd h (not_recorded_empty n)⟩ e

theorem InvK_init : InvK KState.init := InvK_empty rfl

theorem InvK_sameCA {s s' : KState} (hu : InvU s) (h : InvK s) (hp : Prog s.svc s'.svc) (e : s'.ca = s.ca) : InvK s' :=
  InvK_of_ca ⟨h.good,
    fun n hn h1 h2 => Nat.le_trans (h.onlyPrimary n hn h1 h2) (hp.1 n (hu.bound n hn)).2.1,
    fun n hn => Nat.le_trans (h.notPending n hn) (hp.1 n (hu.bound n hn)).2.1⟩ e

theorem InvK_rot {cfg : KCfg} {f : Flags} {s : KState} {serial : Nat} {c : Cert} {r : KState × Bool}
    (hu : InvU s) (h : InvK s) (hp : Prog s.svc r.1.svc) (q : RotCommit cfg f s serial c r) : InvK r.1 := by
  rcases caAfterRotate_shape (cfg := caCfg) f (some c) (hu.next_fresh cfg.signKey) with
    e1 | ⟨e0, _⟩ | ⟨c', hc', ⟨e1, hun⟩ | ⟨_, _, _, hgd⟩⟩
  · exact InvK_sameCA hu h hp (q.ca.trans e1)
  · cases e0
  · cases hc'
    have hun' := hun rfl rfl
    refine InvK_of_ca ⟨fun n p x hn hne hx => ?_, fun n hn h1 h2 => ?_, fun n hn => ?_⟩ (q.ca.trans e1)
    · rcases get_put_some hn with ⟨_, rfl⟩ | ⟨e2, hn⟩
      · exact Option.some.inj ((get_put_self _ _ _).symm.trans hx) ▸ q.good
      · rw [show (_ : CA).objects = put s.ca.objects _ c from rfl, get_put_ne _ _ _ _ (hun' n p hn e2)] at hx
        exact h.good n p x hn hne hx
    · have hn := (isSome_get_put hn).resolve_left h2
      by_cases e2 : n = s.ca.primarySigning
      · -- the previous primary, if recorded, cannot sign any more
        rw [e2] at hn ⊢
        exact q.retired (hu.bound _ hn) (h.notPending _ hn)
      · exact Nat.le_trans (h.onlyPrimary n hn h1 e2) (hp.1 n (hu.bound n hn)).2.1
    · rcases isSome_get_put hn with e2 | hn
      · rw [e2]; exact q.live
      · exact Nat.le_trans (h.notPending n hn) (hp.1 n (hu.bound n hn)).2.1
  · cases hgd

/-- Finalize of a bootstrap's two certificates into the empty store, in the order given: nothing is recorded (they
    would share an object), or exactly the primary root `a` and the primary signing key `b`, the latter with `sb`. -/
theorem InvK_finalize_two (f : Flags) (svc : Svc) {a b n1 n2 : KName} {c1 c2 ra sb : Cert} (hn : n1 ≠ n2)
    (hent : ∀ n p, get [(n1, certPath c1), (n2, certPath c2)] n = some p → n = a ∨ (n = b ∧ p = certPath sb))
    (hobj : certPath c1 ≠ certPath c2 → get [(certPath c1, c1), (certPath c2, c2)] (certPath sb) = some sb)
    (hgood : SignProfile sb ∧ IssuedBy ra sb)
    (hpa : 1 ≤ (svc.ver a).st.rank) (hpb : 1 ≤ (svc.ver b).st.rank) :
    InvK ⟨svc, (gcsFinalize true f CA.empty ⟨some a, some b, [(n1, c1), (n2, c2)], some ra⟩).1⟩ := by
  rw [gcsFinalize_empty_two true f a b n1 n2 c1 c2 ra hn (fun _ => rfl)]
  by_cases hp : certPath c1 = certPath c2
  · rw [if_pos hp]; exact ⟨fun _ _ _ h => (nomatch h), fun _ h => Bool.noConfusion h, fun _ h => Bool.noConfusion h⟩
  · rw [if_neg hp]
    have hrec : ∀ n, (get [(n1, certPath c1), (n2, certPath c2)] n).isSome = true → n = a ∨ n = b := by
      intro n hr
      cases hg : get [(n1, certPath c1), (n2, certPath c2)] n with
      | none => rw [hg] at hr; cases hr
      | some p => exact (hent n p hg).imp_right And.left
    refine ⟨fun n p c hn' hne hc => ?_, fun n hr h1 h2 => ?_, fun n hr => ?_⟩
    · obtain ⟨_, e2⟩ := (hent n p hn').resolve_left hne
      rw [e2, hobj hp] at hc
      exact Option.some.inj hc ▸ ⟨hgood.1, ra, rfl, hgood.2⟩
    · exact absurd (hrec n hr) (not_or.mpr ⟨h1, h2⟩)
    · rcases hrec n hr with e | e <;> rw [e] <;> assumption

theorem InvK_boot {cfg : KCfg} (hne : cfg.rootKey ≠ cfg.signKey) {f : Flags} {sf : Bool} {s s' : KState}
    {rootKV signKV : KName} {rc sc : Cert} (hc : s.ca = CA.empty) (b : BootCommit cfg f sf s s' rootKV signKV rc sc) :
    InvK s' := by
  have e := b.ca
  rw [hc] at e
  refine InvK_of_ca ?_ e
  have hnn : rootKV ≠ signKV := fun e' => hne (b.rootBase.symm.trans ((congrArg KName.base e').trans b.signBase))
  cases sf
  · exact InvK_finalize_two f _ hnn (fun n p hg => (get_two hg).imp And.left id)
      (fun hp => by rw [get2, if_neg (fun e' => hp e'.symm), if_pos rfl]) b.sign b.liveRoot b.liveSign
  · exact InvK_finalize_two f _ hnn.symm (fun n p hg => (get_two hg).symm.imp And.left id)
      (fun _ => by rw [get2, if_pos rfl]) b.sign b.liveRoot b.liveSign

theorem InvK_step (cfg : KCfg) (hne : cfg.rootKey ≠ cfg.signKey) {s : KState} (hu : InvU s) (h : InvK s) (c : KCmd)
    (hclean : isBootstrapK c = true → s.ca = CA.empty) : InvK (kStep cfg s c).1 := by
  obtain ⟨⟨hp, _⟩, he⟩ := kStep_effect cfg s c
  cases he with
  | same e => exact InvK_sameCA hu h hp e
  | wiped e => exact InvK_empty e
  | boot b => exact InvK_boot hne (hclean rfl) b
  | rot _ r => exact InvK_rot hu h hp r

theorem InvK_run (cfg : KCfg) (hne : cfg.rootKey ≠ cfg.signKey) (h : List KCmd) :
    ∀ s : KState, InvU s → InvK s → CleanRunK cfg s h → InvU (kRun cfg s h) ∧ InvK (kRun cfg s h) := by
  induction h with
  | nil => exact fun s hu hk _ => ⟨hu, hk⟩
  | cons c t ih =>
    exact fun s hu hk hc => ih _ (InvU_step cfg hu c) (InvK_step cfg hne hu hk c hc.1) hc.2

theorem NoDeadline_cons {c : KCmd} {t : List KCmd} (h : NoDeadline (c :: t)) : c.deadline = false ∧ NoDeadline t := by
  cases c with
  | bootstrap f a e sf => exact h
  | rotate f a e => exact h
  | wipeout f c k => exact ⟨rfl, h⟩
  | ext x => exact ⟨rfl, h⟩

theorem atLeast_one_run (cfg : KCfg) (h : List KCmd) :
    ∀ s : KState, NoDeadline h → AtLeast 1 s.svc → AtLeast 1 (kRun cfg s h).svc := by
  induction h with
  | nil => exact fun s _ hs => hs
  | cons c t ih =>
    exact fun s hd hs => ih _ (NoDeadline_cons hd).2 ((kStep_effect cfg s c).1.2 (NoDeadline_cons hd).1 hs)

theorem code_enabled (a : VSt) : a.code = GceTcb.Kms.stEnabled ↔ a = .enabled := by
  cases a <;> simp [VSt.code, GceTcb.Kms.stEnabled, Gen.Kms.stEnabled, Gen.Kms.stPendingGeneration,
    Gen.Kms.stDisabled, Gen.Kms.stDestroyScheduled, Gen.Kms.stDestroyed]

theorem code_pending (a : VSt) : a.code = GceTcb.Kms.stPending ↔ a.isPending = true := by
  cases a <;> simp [VSt.code, VSt.isPending, GceTcb.Kms.stPending, Gen.Kms.stEnabled, Gen.Kms.stPendingGeneration,
    Gen.Kms.stDisabled, Gen.Kms.stDestroyScheduled, Gen.Kms.stDestroyed]

/-- `scanFrom` over versions `i, i+1, …` is C20's `Kms.scanPage` (the inner loop of
    getEnabledOrPendingKeyVersion in Model/Kms.lean) over the listing of those versions, whatever their
    resource names: first ENABLED version, else the last PENDING_GENERATION one. -/
theorem scanFrom_eq_scanPage (st : Nat → VSt) (name : Nat → String) (todo i : Nat) (pend : Option Nat) :
    GceTcb.Kms.scanPage ((List.range' i todo).map fun j => (⟨name j, (st j).code⟩ : GceTcb.Kms.Ver))
        (pend.map fun j => ⟨name j, (st j).code⟩) =
      (match scanFrom st todo i pend with
       | .ret j => GceTcb.Kms.Scan.ret ⟨name j, (st j).code⟩
       | .cont p => GceTcb.Kms.Scan.cont (p.map fun j => ⟨name j, (st j).code⟩)) := by
  induction todo generalizing i pend with
  | zero => rfl
  | succ t ih =>
    rw [List.range'_succ, List.map_cons, GceTcb.Kms.scanPage, scanFrom_succ]
    show (if (st i).code = GceTcb.Kms.stEnabled then _ else if (st i).code = GceTcb.Kms.stPending then _ else _) = _
    by_cases h1 : st i = .enabled
    · rw [if_pos ((code_enabled _).mpr h1), if_pos h1]
    · rw [if_neg (mt (code_enabled _).mp h1), if_neg h1]
      by_cases h2 : (st i).isPending = true
      · rw [if_pos ((code_pending _).mpr h2), if_pos h2]; exact ih (i + 1) (some i)
      · rw [if_neg (mt (code_pending _).mp h2), if_neg h2]; exact ih (i + 1) pend
end GceTcb.KeyHistory.KmsH
