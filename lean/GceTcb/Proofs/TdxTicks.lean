import GceTcb.Proofs.TdxIntervals
/-
C08 (TDX half) — explicit iteration bounds for the literal, wrap-faithful loops of
ovmf.unacceptedMemRanges: they hold for ALL inputs (any `Nat` fields, read as uint64), with no
sortedness, disjointness or overflow assumption.  Core-only.
-/
namespace GceTcb.Intervals

/-- 1 when the head private range is dropped by the very next iteration -/
def headPast (ps : List Gpr) (r : Gpr) : Nat :=
  match ps with
  | [] => 0
  | p :: _ => if p.len % 2 ^ 64 ≠ 0 ∧ p.end_ ≤ r.start % 2 ^ 64 then 1 else 0

theorem headPast_le (ps : List Gpr) (r : Gpr) : headPast ps r ≤ 1 := by
  unfold headPast; split
  · omega
  · split <;> omega

/-- after a shrink that does not exhaust the bank, the private range lies before the bank -/
theorem shrink_start (r p : Gpr) (hr : r.len % 2 ^ 64 ≠ 0) (h0 : ¬ p.len % 2 ^ 64 = 0)
    (h1 : ¬ p.end_ ≤ r.start % 2 ^ 64) (h2 : ¬ p.start % 2 ^ 64 ≥ r.end_)
    (h3 : ¬ (shrink r (intersect r p)).len = 0) :
    p.end_ ≤ (shrink r (intersect r p)).start % 2 ^ 64 := by
  simp only [shrink, intersect_end_in_body r p hr h0 h1 h2] at h3 ⊢
  have : p.end_ < 2 ^ 64 := Nat.mod_lt _ (by decide)
  have : r.end_ < 2 ^ 64 := Nat.mod_lt _ (by decide)
  omega

theorem prePiece_length (r i : Gpr) : (prePiece r i).length ≤ 1 := by
  unfold prePiece; split <;> (try split) <;> simp

/-- Every iteration either drops a private range for good, or leaves the loop, or shrinks the bank —
    and a shrink that does not leave the loop is followed by a drop. -/
theorem inner_ticks (ps : List Gpr) (r : Gpr) (h : r.len % 2 ^ 64 ≠ 0) :
    (inner ps r h).ticks + 2 * (inner ps r h).rest.length + headPast ps r ≤ 2 * ps.length + 1 ∧
    (inner ps r h).out.length ≤ (inner ps r h).ticks := by
  fun_induction inner ps r h with
  | case1 r h => simp [headPast]
  | case2 r h p ps' h0 x ih =>
    have e : headPast (p :: ps') r = 0 := if_neg fun hh => hh.1 h0
    have := headPast_le ps' r
    simp only [x, List.length_cons] at *
    omega
  | case3 r h p ps' h0 h1 x ih =>
    have e : headPast (p :: ps') r = 1 := if_pos ⟨h0, h1⟩
    have := headPast_le ps' r
    simp only [x, List.length_cons] at *
    omega
  | case4 r h p ps' h0 h1 h2 =>
    have e : headPast (p :: ps') r = 0 := if_neg fun hh => h1 hh.2
    simp only [List.length_cons, List.length_nil]
    omega
  | case5 r h p ps' h0 h1 h2 h3 =>
    have e : headPast (p :: ps') r = 0 := if_neg fun hh => h1 hh.2
    have := prePiece_length r (intersect r p)
    simp only [List.length_cons]
    omega
  | case6 r h p ps' h0 h1 h2 h3 x ih =>
    have e : headPast (p :: ps') r = 0 := if_neg fun hh => h1 hh.2
    have e' : headPast (p :: ps') (shrink r (intersect r p)) = 1 := if_pos ⟨h0, shrink_start r p h h0 h1 h2 h3⟩
    have := prePiece_length r (intersect r p)
    simp only [x, List.length_cons, List.length_append] at *
    omega

/-- The whole loop over the banks: at most 2·(|private| + |banks|) iterations, inner and outer
    together, and at most that many output ranges. -/
theorem outer_ticks : ∀ (rs ps : List Gpr),
    (outer ps rs).ticks ≤ 2 * ps.length + 2 * rs.length ∧ (outer ps rs).out.length ≤ (outer ps rs).ticks := by
  intro rs
  induction rs with
  | nil => intro ps; simp [outer]
  | cons r rs' ih =>
    intro ps
    rw [outer]
    by_cases hz : r.len % 2 ^ 64 = 0
    · simp only [hz, dite_true, List.length_cons]
      have := ih ps; omega
    · simp only [hz, dite_false, List.length_cons, List.length_append]
      have h1 := inner_ticks ps r hz
      have h2 := ih (inner ps r hz).rest
      have : (if (inner ps r hz).ram.len ≠ 0 then [(inner ps r hz).ram] else []).length ≤ 1 := by
        split <;> simp
      omega

/-- ovmf.unacceptedMemRanges on arbitrary inputs: iterations and output size are linear in the two
    list lengths. -/
theorem unaccepted_bounds (ps rs : List Gpr) :
    unacceptedTicks ps rs ≤ 2 * ps.length + 2 * rs.length ∧
    (unacceptedMemRanges ps rs).length ≤ 2 * ps.length + 2 * rs.length := by
  have := outer_ticks (sortByStart rs) (sortByStart ps)
  rw [(sortByStart_perm ps).length_eq, (sortByStart_perm rs).length_eq] at this
  unfold unacceptedTicks unacceptedMemRanges unacceptedCore
  omega

end GceTcb.Intervals
