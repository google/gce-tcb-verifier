import GceTcb.Model.ManifestFS
import GceTcb.Proofs.Manifest
import GceTcb.Proofs.PathClean
/-
For the C13 theorems over full paths (arbitrary names): names that denote the same file, the invariant `InvP`,
the run case by case, the run without the name test (`noTest_alias`), and the inputs of the examples of Props/C13.lean.
-/
namespace GceTcb.Manifest
open GceTcb.Paths GceTcb.SecureJoin

theorem look_put (fs : FS) (p q : String) (c : Content) :
    look (put fs p c) q = if q = p then some c else look fs q := by
  rw [look, put, find_put, apply_ite (Option.map _)]
  rfl

theorem look_putAll (ts : List (String × Content)) : ∀ (fs : FS) (q : String),
    (∀ t ∈ ts, t.1 ≠ q) → look (putAll fs ts) q = look fs q := by
  induction ts with
  | nil => intro fs q _; rfl
  | cons t ts ih =>
    intro fs q h
    show look (putAll (put fs t.1 t.2) ts) q = _
    rw [ih _ q (fun x hx => h x (List.mem_cons_of_mem _ hx)), look_put,
      if_neg (fun e => h t List.mem_cons_self e.symm)]

theorem fullOut_inj (d : Dirs) (b₁ b₂ : String) (h₁ : LocalClean b₁) (h₂ : LocalClean b₂)
    (he : fullOut d b₁ = fullOut d b₂) : b₁ = b₂ := outPath_inj d.mode d.root d.outDir b₁ b₂ h₁ h₂ he

theorem getLast_ext (x : List Char) : (x ++ ['.', 'b', 'i', 'n', 'a', 'r', 'y', 'p', 'b']).getLast? = some 'b' := by
  simp [List.getLast?_append]

theorem basename_ne_manifestFile (cand : String) : basename cand ≠ manifestFile := by
  intro h
  have := congrArg String.toList h
  unfold basename cleanBasename at this
  generalize (if cand == "" then "endorsement" else cand) = rel at this
  rw [pclean_toList, String.toList_append, ext_toList] at this
  have hne : rel.toList ++ extChars ≠ [] := by simp [extChars]
  -- the cleaned text ends with the last component, which ends with the extension: its last character is 'b'
  obtain ⟨init, last, h1, h2⟩ := splitSlash_append_noslash rel.toList extChars (by decide)
  have hlast : (clean (rel.toList ++ extChars)).getLast? = some 'b' := by
    unfold clean
    rw [if_neg hne]
    have hst : cleanStack (rel.toList ++ extChars) = (List.foldl (cleanStep (isAbs (rel.toList ++ extChars))) [] init).reverse ++ [last ++ extChars] := by
      unfold cleanStack
      have hnos : ∀ c ∈ init ++ [last], '/' ∉ c := by rw [← h1]; exact splitSlash_no_slash _
      rw [h2, List.foldl_append, List.foldl_cons, List.foldl_nil,
        cleanStep_normal _ _ _ (normal_append_ext last (hnos last (by simp)))]
      simp
    rw [hst]
    generalize (List.foldl (cleanStep (isAbs (rel.toList ++ extChars))) [] init).reverse = F
    cases hr : isAbs (rel.toList ++ extChars) with
    | true =>
      simp only [renderClean, if_true, renderAbs]
      rw [if_neg (by simp)]
      simp [List.flatMap_append, extChars]
      rw [← List.cons_append]; exact getLast_ext _
    | false =>
      simp only [renderClean, Bool.false_eq_true, if_false]
      cases F with
      | nil => simp [renderRel, extChars]
      | cons c cs =>
        simp [renderRel, List.flatMap_append, extChars]
        rw [← List.cons_append]; exact getLast_ext _
  rw [this] at hlast
  revert hlast
  decide

theorem fullOut_ne_manifest (d : Dirs) {b : String} (h : LocalClean b) (hb : b ≠ manifestFile) :
    fullOut d b ≠ fullOut d manifestFile :=
  fun he => hb (fullOut_inj d b manifestFile h manifestFile_local he)

theorem nameOk_local (cand : String) (h : nameOk cand = true) : LocalClean (basename cand) :=
  cleanBasename_local cand h

/-- What a successful manifest-mode run leaves at the path of a name that can be listed. -/
theorem look_written (d : Dirs) (fs : FS) {b q : String} (hb : LocalClean b) (hq : LocalClean q)
    (hqM : q ≠ manifestFile) (c c' : Content) :
    look (put (put fs (fullOut d b) c) (fullOut d manifestFile) c') (fullOut d q) =
      if q = b then some c else look fs (fullOut d q) := by
  rw [look_put, if_neg (fullOut_ne_manifest d hq hqM), look_put]
  exact ite_congr (propext ⟨fullOut_inj d q b hq hb, congrArg _⟩) (fun _ => rfl) (fun _ => rfl)

/-! ### names and paths of literals

The kernel evaluates `String.toList`, `String.ofList` and `==` on strings through their UTF-8 bytes, which is
slow. A literal, however, is `String.ofList` of its characters to the unifier and to the kernel alike, so a
lemma about `String.ofList l` applies to a literal as it stands and leaves a computation on `List Char`. -/

theorem basename_chars {l k : List Char} (hl : l ≠ []) (h : clean (l ++ extChars) = k) :
    basename (String.ofList l) = String.ofList k := by
  have : (String.ofList l == "") = false := by
    simpa using fun e => hl (String.ofList_injective (l₂ := []) e)
  apply String.toList_inj.mp
  rw [basename, cleanBasename, this, if_neg Bool.false_ne_true, pclean_toList, String.toList_append, ext_toList,
    String.toList_ofList, String.toList_ofList]
  exact h

theorem nameOk_chars {l : List Char} (hl : l ≠ []) :
    nameOk (String.ofList l) = (!isAbs (clean (l ++ extChars)) && !climbsL (clean (l ++ extChars))) := by
  rw [nameOk, basename_chars hl rfl, localName, pisAbs, climbs_eq, String.toList_ofList]

theorem fullOut_join_chars {r o b k : List Char} (h : joinElems [r, joinElems [o, b]] = k) :
    fullOut ⟨.join, .ofList r, .ofList o⟩ (.ofList b) = .ofList k := by
  apply String.toList_inj.mp
  simp only [fullOut, outPath, release, pjoin_toList, List.map, String.toList_ofList]
  exact h

/-- The invariant of C13 on the files visible through the back end: the manifest parses (absent =
    empty); no path text and no digest twice; every recorded path is a clean local path (canonical, below
    the output directory); no two entries name the same FILE; every entry's file exists and is an
    endorsement carrying the entry's digest. -/
def InvP (d : Dirs) (fs : FS) : Prop :=
  ∃ m, readM fs (fullOut d manifestFile) = some m ∧ Unique m ∧ (∀ x ∈ m, LocalClean x.path) ∧
    (m.map (fun x => fullOut d x.path)).Nodup ∧
    ∀ x ∈ m, look fs (fullOut d x.path) = some (.endorsement x.digest)

theorem files_nodup (d : Dirs) (m : List Entry) (hu : Unique m) (hl : ∀ x ∈ m, LocalClean x.path) :
    (m.map (fun x => fullOut d x.path)).Nodup :=
  List.pairwise_map.mpr ((List.pairwise_map.mp hu.1).imp_of_mem fun ha hb hne e =>
    hne (fullOut_inj d _ _ (hl _ ha) (hl _ hb) e))

theorem invP_empty (d : Dirs) : InvP d [] :=
  ⟨[], rfl, ⟨by simp, by simp⟩, by simp, by simp, by simp⟩

theorem InvP.entry_ne_manifest {d : Dirs} {fs : FS} {m : List Entry}
    (hm : readM fs (fullOut d manifestFile) = some m)
    (hf : ∀ x ∈ m, look fs (fullOut d x.path) = some (.endorsement x.digest)) :
    ∀ x ∈ m, fullOut d x.path ≠ fullOut d manifestFile := by
  intro x hx he
  have := hf x hx
  rw [he] at this
  simp [readM, this] at hm

theorem endorseRunP_snap (d : Dirs) (fs : FS) (r : RunP) (hsn : r.snapDir ≠ "") :
    endorseRunP d fs r = (putAll fs (snapTargets d r), true) := by
  have : (r.snapDir != "") = true := by simpa using hsn
  rw [endorseRunP, if_pos this]

theorem snap_image_blob (d : Dirs) (fs : FS) (c g t img : String) (ow : Bool) (hd : d.outDir ≠ "") :
    look (endorseRunP d fs ⟨c, g, t, ow, d.outDir, img, false, false⟩).1 (fullOut d img) = some .blob := by
  rw [endorseRunP_snap d fs _ hd]
  show look (put (put _ (fullOut d img) .blob) (fullOut d img ++ ".evts.pb") .blob) (fullOut d img) = _
  rw [look_put, if_neg fun h => by simpa using congrArg String.length h, look_put, if_pos rfl]

theorem endorseRunP_manifest_cases (d : Dirs) (fs : FS) (r : RunP) (hsn : r.snapDir = "") :
    endorseRunP d fs r = (fs, false) ∨
    ∃ m, readM fs (fullOut d manifestFile) = some m ∧ nameOk r.cand = true ∧
      ((look fs (fullOut d (basename r.cand))).isSome = false ∨ r.overwrite = true) ∧
      endorseRunP d fs r =
        (put (put fs (fullOut d (basename r.cand)) (.endorsement r.digest)) (fullOut d manifestFile)
          (.manifest (addEntry m ⟨basename r.cand, r.digest, r.time⟩)), true) := by
  cases hm : readM fs (fullOut d manifestFile) with
  | none => left; simp only [endorseRunP, hsn, bne_self_eq_false, Bool.false_eq_true, if_false, hm]
  | some m =>
    by_cases hok : nameOk r.cand = true
    case neg =>
      left
      simp only [endorseRunP, hsn, bne_self_eq_false, Bool.false_eq_true, if_false, hm, hok, Bool.not_false, if_true]
    by_cases hc : ((look fs (fullOut d (basename r.cand))).isSome && !r.overwrite) = true
    · left
      simp only [endorseRunP, hsn, bne_self_eq_false, Bool.false_eq_true, if_false, hm, hok, hc, Bool.not_true, if_true]
    · refine .inr ⟨m, rfl, hok, ?_, ?_⟩
      · cases h1 : (look fs (fullOut d (basename r.cand))).isSome <;> cases h2 : r.overwrite <;> simp_all
      · simp only [endorseRunP, hsn, bne_self_eq_false, Bool.false_eq_true, if_false, hm, hok, hc, Bool.not_true]

theorem endorseRunP_frame (d : Dirs) (fs : FS) (r : RunP) (hsn : r.snapDir = "") (q : String)
    (h1 : q ≠ fullOut d (basename r.cand)) (h2 : q ≠ fullOut d manifestFile) :
    look (endorseRunP d fs r).1 q = look fs q := by
  rcases endorseRunP_manifest_cases d fs r hsn with h | ⟨m, _, _, _, h⟩
  · rw [h]
  · rw [h, look_put, look_put, if_neg h2, if_neg h1]

theorem endorseRunP_refused (d : Dirs) (fs : FS) (c g t i : String) (ow sv sc : Bool) (hno : nameOk c = false) :
    (endorseRunP d fs ⟨c, g, t, ow, "", i, sv, sc⟩).1 = fs := by
  rcases endorseRunP_manifest_cases d fs ⟨c, g, t, ow, "", i, sv, sc⟩ rfl with h | ⟨_, _, hok, _⟩
  · rw [h]
  · exact absurd (hno.symm.trans hok) Bool.false_ne_true

theorem endorseRunP_write (d : Dirs) (fs : FS) (m : List Entry) (c g t i : String) (ow sv sc : Bool)
    (hm : readM fs (fullOut d manifestFile) = some m) (hok : nameOk c = true)
    (hc : look fs (fullOut d (basename c)) = none ∨ ow = true) :
    (endorseRunP d fs ⟨c, g, t, ow, "", i, sv, sc⟩).1 =
      put (put fs (fullOut d (basename c)) (.endorsement g)) (fullOut d manifestFile)
        (.manifest (addEntry m ⟨basename c, g, t⟩)) := by
  have : ((look fs (fullOut d (basename c))).isSome && !ow) = false := by
    rcases hc with h | h <;> simp [h]
  simp only [endorseRunP, bne_self_eq_false, Bool.false_eq_true, if_false, hm, hok, this, Bool.not_true]

theorem readM_put_manifest (d : Dirs) (fs : FS) (m : List Entry) :
    readM (put fs (fullOut d manifestFile) (.manifest m)) (fullOut d manifestFile) = some m := by
  simp only [readM, look_put, if_true]

theorem runAllP_cons (d : Dirs) (fs : FS) (r : RunP) (rs : List RunP) :
    runAllP d fs (r :: rs) = runAllP d (endorseRunP d fs r).1 rs := rfl

theorem runAllP_nil (d : Dirs) (fs : FS) : runAllP d fs [] = fs := rfl

theorem snap_names (fw sv : String) (svsm scrtm : Bool) (p : String)
    (h : p ∈ snapSigs fw sv svsm ++ snapFiles fw sv svsm scrtm) :
    ∃ base ∈ [fw, sv], ∃ suffix ∈ ["", ".signed", ".evts.pb", ".scrtm.pb"], p = base ++ suffix := by
  have f : fw ∈ [fw, sv] := List.mem_cons_self
  have s : sv ∈ [fw, sv] := List.mem_cons_of_mem _ List.mem_cons_self
  simp only [snapSigs, snapFiles, List.mem_append, List.mem_cons, List.mem_ite_nil_right, List.not_mem_nil,
    or_false] at h
  rcases h with (rfl | ⟨_, rfl⟩) | ((rfl | rfl) | ⟨_, rfl⟩) | ⟨_, (rfl | rfl) | ⟨_, rfl⟩⟩
  · exact ⟨fw, f, ".signed", by simp, rfl⟩
  · exact ⟨sv, s, ".signed", by simp, rfl⟩
  · exact ⟨p, f, "", by simp, String.append_empty.symm⟩
  · exact ⟨fw, f, ".evts.pb", by simp, rfl⟩
  · exact ⟨fw, f, ".scrtm.pb", by simp, rfl⟩
  · exact ⟨p, s, "", by simp, String.append_empty.symm⟩
  · exact ⟨sv, s, ".evts.pb", by simp, rfl⟩
  · exact ⟨sv, s, ".scrtm.pb", by simp, rfl⟩

theorem endorseRunNoTest_write (d : Dirs) (fs : FS) (r : RunP) (m : List Entry) (hs : r.snapDir = "")
    (hm : readM fs (fullOut d manifestFile) = some m)
    (hc : look fs (fullOut d (basename r.cand)) = none ∨ r.overwrite = true) :
    (endorseRunNoTest d fs r).1 =
      put (put fs (fullOut d (basename r.cand)) (.endorsement r.digest)) (fullOut d manifestFile)
        (.manifest (addEntry m ⟨basename r.cand, r.digest, r.time⟩)) := by
  have : ((look fs (fullOut d (basename r.cand))).isSome && !r.overwrite) = false := by
    rcases hc with h | h <;> simp [h]
  simp only [endorseRunNoTest, hs, bne_self_eq_false, Bool.false_eq_true, if_false, hm, this]

/-- Why the name test is needed: without it, two candidate names whose cleaned names differ but denote the
    same file (`c₂` written with --overwrite after `c₁`, different firmware) leave two entries for that
    file, the older claiming a digest the file no longer carries. -/
theorem noTest_alias (d : Dirs) (c₁ c₂ g₁ g₂ t₁ t₂ : String) (hb : basename c₂ ≠ basename c₁) (hg : g₂ ≠ g₁)
    (hp : fullOut d (basename c₂) = fullOut d (basename c₁))
    (hM : fullOut d (basename c₁) ≠ fullOut d manifestFile) (fs : FS)
    (hfs : fs = (endorseRunNoTest d (endorseRunNoTest d [] ⟨c₁, g₁, t₁, false, "", "", false, false⟩).1
      ⟨c₂, g₂, t₂, true, "", "", false, false⟩).1) :
    readM fs (fullOut d manifestFile) = some [⟨basename c₁, g₁, t₁⟩, ⟨basename c₂, g₂, t₂⟩] ∧
    look fs (fullOut d (basename c₁)) = some (.endorsement g₂) ∧ ¬ InvP d fs := by
  have ha : addEntry (addEntry [] ⟨basename c₁, g₁, t₁⟩) ⟨basename c₂, g₂, t₂⟩ =
      [⟨basename c₁, g₁, t₁⟩, ⟨basename c₂, g₂, t₂⟩] := by
    simp [addEntry, entryMapsOk, Ne.symm hb, Ne.symm hg]
  have hfs : fs = _ := hfs.trans <| endorseRunNoTest_write d _ _ _ rfl
    (by rw [endorseRunNoTest_write d [] _ [] rfl rfl (.inl rfl)]; exact readM_put_manifest d _ _) (.inr rfl)
  rw [ha] at hfs
  have h1 : readM fs (fullOut d manifestFile) = some [⟨basename c₁, g₁, t₁⟩, ⟨basename c₂, g₂, t₂⟩] := by
    rw [hfs]; exact readM_put_manifest d _ _
  have h2 : look fs (fullOut d (basename c₁)) = some (.endorsement g₂) := by
    rw [hfs, look_put, look_put, if_neg hM]; exact if_pos hp.symm
  refine ⟨h1, h2, ?_⟩
  intro ⟨m, hm, _, _, _, hf⟩
  cases h1.symm.trans hm
  have := (hf ⟨basename c₁, g₁, t₁⟩ List.mem_cons_self).symm.trans h2
  exact hg (Content.endorsement.inj (Option.some.inj this)).symm

/-! ### concrete inputs of the witnesses and examples of the property file -/

def exDirs : Dirs := ⟨.join, "/R", "out"⟩
def exRun (cand dg t : String) (ow : Bool) : RunP := ⟨cand, dg, t, ow, "", "", false, false⟩
def exSnap (sdir img : String) : RunP := ⟨"x", "aa", "2", false, sdir, img, false, false⟩

def exNoTest1 : FS := (endorseRunNoTest exDirs [] (exRun "rc0" "aa" "1" false)).1
def exNoTest2 : FS := (endorseRunNoTest exDirs exNoTest1 (exRun "/rc0" "bb" "2" true)).1
def exNoTest3 : FS := (endorseRunNoTest exDirs exNoTest1 (exRun "../out/rc0" "bb" "2" true)).1

def exFs1 : FS := (endorseRunP exDirs [] (exRun "rc0" "aa" "1" false)).1
def exOverlapFile : FS := (endorseRunP exDirs exFs1 (exSnap "out" "rc0.binarypb")).1
def exOverlapManifest : FS := (endorseRunP exDirs exFs1 (exSnap "out" "manifest.textproto")).1

end GceTcb.Manifest
