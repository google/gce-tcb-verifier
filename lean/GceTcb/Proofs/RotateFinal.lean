import GceTcb.Proofs.RotateMem
/-
Glue between the step specifications and the property theorems of C10 (`rotate_run_facts`), the
executable form `primaryOKb` of `PrimaryOK`, and the concrete states used by the witness theorems and the
non-vacuity examples.
-/
namespace GceTcb.CA

theorem and_false_cases' {a b : Bool} (h : (a && !b) = false) : a = false ∨ b = true := by
  cases a <;> cases b <;> simp_all

theorem Triple.run {sc : Nat → Fault} {P : St → Prop} {m : Run String} {Q : String → St → Prop} {R E : St → Prop}
    (h : Triple sc P m Q R E) {s : St} (hP : P s) :
    match m sc s with
    | .ok k s' => Q k s'
    | .err s' => R s'
    | .crash s' => E s' := by
  have := h s hP
  cases hm : m sc s with
  | ok k s' => rw [hm] at this; exact this
  | err s' => rw [hm] at this; exact this
  | crash s' => rw [hm] at this; exact this

theorem Res.state_of {r : Res String} {Q : String → St → Prop} {R E X : St → Prop}
    (h : match r with
      | .ok k s' => Q k s'
      | .err s' => R s'
      | .crash s' => E s')
    (hQ : ∀ k s, Q k s → X s) (hR : ∀ s, R s → X s) (hE : ∀ s, E s → X s) : X r.state := by
  cases r with
  | ok k s => exact hQ k s h
  | err s => exact hR s h
  | crash s => exact hE s h

theorem Res.ok_of {r : Res String} {Q : String → St → Prop} {R E : St → Prop}
    (h : match r with
      | .ok k s' => Q k s'
      | .err s' => R s'
      | .crash s' => E s')
    (hR : ∀ s, ¬ R s) (hE : ∀ s, ¬ E s) : ∃ k s', r = .ok k s' ∧ Q k s' := by
  cases r with
  | ok k s => exact ⟨k, s, rfl, h⟩
  | err s => exact absurd h (hR s)
  | crash s => exact absurd h (hE s)

theorem rotate_run_facts (cfg : Cfg) (req : Req) (sc : Nat → Fault) (s : St)
    (hb : BumpOK cfg) (hi : Inv cfg s) (hf : Fresh cfg req s) :
    match rotateKey cfg req sc s.reload with
    | .ok k s' => Inv cfg s' ∧ DAC cfg s'.log ∧ primaryOf cfg s' = k ∧ k = cfg.bump (primaryOf cfg s) ∧ ¬ Claimed cfg req s
    | .err s' => (Inv cfg s' ∧ DAC cfg s'.log) ∧ (¬ NoFault sc ∨ cfg.overwrite = false ∨ Claimed cfg req s)
    | .crash s' => (Inv cfg s' ∧ DAC cfg s'.log) ∧ ¬ NoFault sc := by
  cases hca : cfg.ca with
  | gcsca =>
    obtain ⟨m0, r, c0, path0, h0⟩ := hi.gcs hca
    unfold Fresh at hf; rw [hca] at hf
    obtain ⟨ht1, ht2⟩ := hf m0 h0.man
    have hclaim := Claimed_iff (req := req) hca h0.man
    refine Triple.run ((rotateKey_gcs hca hb req ht1 ht2).conseq (fun _ h => h)
        (fun k s' ⟨hk, hcf, mat, hinv, hdac⟩ => ⟨hinv.inv hca, hdac, ?_, by rw [hk, primaryOf_gcs hca h0.man], ?_⟩)
        (fun s' h => ⟨h.1, h.2.imp_right fun h => (and_false_cases' h).imp_right hclaim.mpr⟩) (fun _ h => h))
      ⟨h0.transfer rfl rfl, Or.inl rfl, fun e he => (by cases he), fun _ _ e => (by cases e)⟩
    · rw [primaryOf_gcs hca hinv.man, hk]; exact rotatedManifest_signing req
    · rw [hclaim, hcf]; simp
  | memca =>
    unfold Inv at hi; rw [hca] at hi
    obtain ⟨r, c0, h0⟩ := hi
    have hnc : ¬ Claimed cfg req s := fun ⟨h, _⟩ => by rw [hca] at h; cases h
    have hp : ∀ s, primaryOf cfg s = s.memPrimary := fun s => by unfold primaryOf; rw [hca]
    exact Triple.run ((rotateKey_mem (ow := cfg.overwrite) (p0 := s.memPrimary) (root0 := s.memRoot) hca hb req).conseq (fun _ h => h)
        (fun k s' ⟨hk, hprim, mat, hinv, hdac⟩ => ⟨hinv.inv hca, hdac, by rw [hp, hprim, hk], by rw [hk, hp], hnc⟩)
        (fun s' h => ⟨h.1, h.2.imp_right Or.inl⟩) (fun _ h => h))
      ⟨h0.transfer rfl rfl rfl rfl, rfl, rfl, fun e he => (by cases he), fun _ _ e => (by cases e), fun _ _ e => (by cases e)⟩

theorem not_claimed_of_unclaimed {cfg : Cfg} {req : Req} {s : St} (hu : Unclaimed cfg req s) : ¬ Claimed cfg req s := by
  rintro ⟨hca, m, hm, hc⟩
  unfold Unclaimed at hu
  rw [hca] at hu
  rw [hu m hm] at hc
  cases hc

def Cfg.allowOverwrite (cfg : Cfg) : Cfg := { cfg with overwrite := true }

theorem Inv_allowOverwrite (cfg : Cfg) (s : St) : Inv cfg.allowOverwrite s ↔ Inv cfg s :=
  ⟨Inv.map rfl (fun _ _ _ _ h => h.rebump rfl h.broot) (fun _ _ h => h.rebump h.broot),
   Inv.map rfl (fun _ _ _ _ h => h.rebump rfl h.broot) (fun _ _ h => h.rebump h.broot)⟩

/-- `PrimaryOK` as a program (`primaryOKb_iff`); the examples of Props/C10.lean evaluate it -/
def primaryOKb (cfg : Cfg) (s : St) : Bool :=
  match cfg.ca with
  | .gcsca =>
    match lookup s.store manifestName, lookup s.store cfg.rootPath with
    | some (.manifest m), some (.pem r) =>
      match lookup m.entries m.signing with
      | some path =>
        match lookup s.store path with
        | some (.der c) => lookup s.keys m.signing == some c.pub && c.sigBy == r.pub
        | _ => false
      | none => false
    | _, _ => false
  | .memca =>
    match lookup s.memCerts s.memRoot, lookup s.memCerts s.memPrimary with
    | some r, some c => lookup s.keys s.memPrimary == some c.pub && c.sigBy == r.pub
    | _, _ => false

/-- the existential witnesses are what the lookups return -/
theorem primaryOKb_iff (cfg : Cfg) (s : St) : primaryOKb cfg s = true ↔ PrimaryOK cfg s := by
  unfold primaryOKb PrimaryOK
  cases cfg.ca <;> simp only
  · constructor
    · intro h
      split at h
      · rename_i r c hr hc
        simp only [Bool.and_eq_true, beq_iff_eq] at h
        exact ⟨r, c, hr, hc, h.1, h.2⟩
      · cases h
    · rintro ⟨r, c, h1, h2, h3, h4⟩
      simp [h1, h2, h3, h4]
  · constructor
    · intro h
      split at h
      · rename_i m r hm hr
        split at h
        · rename_i path hp
          split at h
          · rename_i c hc
            simp only [Bool.and_eq_true, beq_iff_eq] at h
            exact ⟨m, r, c, path, hm, hr, hp, hc, h.1, h.2⟩
          · cases h
        · cases h
      · cases h
    · rintro ⟨m, r, c, path, h1, h2, h3, h4, h5, h6⟩
      simp [h1, h2, h3, h4, h5, h6]

instance (cfg : Cfg) (s : St) : Decidable (PrimaryOK cfg s) := decidable_of_iff _ (primaryOKb_iff cfg s)

def demoBump (n : String) : String := n ++ "_n"

def demoCfg (ca : CAKind) : Cfg := ⟨ca, .memkm, "root.crt", "certs/", demoBump, 2, 1, false⟩

theorem demoBump_ok (ca : CAKind) : BumpOK ⟨ca, .memkm, "root.crt", "certs/", demoBump, 2, 1, false⟩ := by
  have hlen : ∀ n : String, (n ++ "_n").length = n.length + 2 := by
    intro n; rw [String.length_append]; rfl
  constructor
  · intro n e
    have := congrArg String.length e
    simp only [demoBump] at this
    rw [hlen] at this
    omega
  · intro n e
    have := congrArg String.length e
    simp only [demoBump] at this
    rw [hlen] at this
    simp at this

/-- a good durable state on the deferred authority: root key 0, signing key "sk" (material 1) with
    certificate sigcn-2, as left by a bootstrap -/
def demoG : St :=
  { St.init with
    keys := [("sk", 1), ("root", 0)], nextMat := 2,
    store := [(manifestName, .manifest ⟨[("root", "certs/rootcn-1.crt"), ("sk", "certs/sigcn-2.crt")], "root", "sk"⟩),
              ("root.crt", .pem ⟨"rootcn", 1, 0, 0⟩),
              ("certs/sigcn-2.crt", .der ⟨"sigcn", 2, 1, 0⟩),
              ("certs/rootcn-1.crt", .der ⟨"rootcn", 1, 0, 0⟩)] }

/-- the same on the immediate authority -/
def demoM : St :=
  { St.init with
    keys := [("sk", 1), ("root", 0)], nextMat := 2,
    memCerts := [("sk", ⟨"sigcn", 2, 1, 0⟩), ("root", ⟨"rootcn", 1, 0, 0⟩)], memRoot := "root", memPrimary := "sk" }

theorem demoBump_ne_root (n : String) : demoBump n ≠ "root" := by
  intro e
  have hl := congrArg (fun t : String => t.toList.getLast?) e
  simp [demoBump, String.toList_append] at hl

/- the test states are literals: their lookups are settled by comparing string literals -/
attribute [local simp] lookup demoG demoM manifestName demoCfg

theorem demoG_inv : Inv (demoCfg .gcsca) demoG := by
  refine ⟨⟨[("root", "certs/rootcn-1.crt"), ("sk", "certs/sigcn-2.crt")], "root", "sk"⟩, ⟨"rootcn", 1, 0, 0⟩,
    ⟨"sigcn", 2, 1, 0⟩, "certs/sigcn-2.crt", ?_⟩
  constructor
  case broot => exact demoBump_ne_root
  all_goals simp

theorem demoM_inv : Inv (demoCfg .memca) demoM := by
  refine ⟨⟨"rootcn", 1, 0, 0⟩, ⟨"sigcn", 2, 1, 0⟩, ?_⟩
  constructor
  case broot => exact demoBump_ne_root
  all_goals simp

theorem demoG_stored : lookup demoG.store manifestName =
    some (.manifest ⟨[("root", "certs/rootcn-1.crt"), ("sk", "certs/sigcn-2.crt")], "root", "sk"⟩) := by
  simp

theorem demoG_manifest {m : Manifest} (hm : lookup demoG.store manifestName = some (.manifest m)) :
    m = ⟨[("root", "certs/rootcn-1.crt"), ("sk", "certs/sigcn-2.crt")], "root", "sk"⟩ :=
  (Obj.manifest.inj (Option.some.inj (demoG_stored.symm.trans hm))).symm

/-- this admits ⟨"sigcn", 2⟩, the request that names the PRIMARY's certificate object -/
theorem demoG_fresh (req : Req) (h : objName (demoCfg .gcsca) req ≠ "root.crt") (h' : objName (demoCfg .gcsca) req ≠ manifestName) :
    Fresh (demoCfg .gcsca) req demoG := by
  intro m hm
  rw [demoG_manifest hm]
  exact ⟨h', h⟩

theorem demoG_unclaimed : Unclaimed (demoCfg .gcsca) ⟨"sig", 3⟩ demoG := by
  intro m hm
  rw [demoG_manifest hm]
  decide +kernel

def failAt (n : Nat) : Nat → Fault := fun i => if i = n then .fail else .ok

def crashAt (n : Nat) : Nat → Fault := fun i => if i = n then .crash else .ok

def Res.tag {α : Type} : Res α → String
  | .ok _ _ => "ok"
  | .err _ => "err"
  | .crash _ => "crash"

end GceTcb.CA
