import GceTcb.Proofs.RotateFinal
import GceTcb.Model.RotateKms
import Std.Data.String.ToNat
/-
C10 on the Cloud KMS stack (Model/RotateKms.lean): the naming scheme, the step specifications of
`rotateKeyKms` in the program logic of Proofs/Hoare.lean (reusing the specifications of the deferred
authority from Proofs/RotateGcs.lean), and the preservation of the key-service hygiene.

How the nonprod proofs are reused: they are parametric in `cfg.bump`, the function the nonprod managers
derive the new name with.  Cloud KMS derives the new name from its own state (`verName parent (count+1)`),
so a run that starts with `count = n0` is the run of the configuration `cfg.withNew K` whose `bump` is the
constant `K = verName parent (n0+1)`; `rotateKeyKms` never looks at `bump` (`rotateKeyKms_withNew`).
-/
namespace GceTcb.CA

variable {sc : Nat → Fault}

theorem verName_ne_empty (p : String) (n : Nat) : verName p n ≠ "" := by
  simp [verName, String.append_eq_empty_iff]

theorem verName_inj (p : String) (a b : Nat) (h : verName p a = verName p b) : a = b := by
  unfold verName at h
  have h1 := congrArg String.toList h
  simp only [String.toList_append] at h1
  have h2 := List.append_cancel_left h1
  have h3 : toString a = toString b := String.toList_inj.mp h2
  exact Nat.repr_injective h3

/-- Hygiene of the key service: no usable key carries a version number the cryptoKey has not handed out
    yet.  (True of Cloud KMS by construction; an invariant of every run — `rotateKeyKms_hyg`.) -/
def KHyg (env : KmsEnv) (s : St) : Prop :=
  ∀ n, s.kcount < n → lookup s.keys (verName env.parent n) = none

/-- the name the next CreateCryptoKeyVersion will hand out -/
def nextName (env : KmsEnv) (s : St) : String := verName env.parent (s.kcount + 1)

theorem KHyg.next_not_live {env : KmsEnv} {s : St} (h : KHyg env s) : lookup s.keys (nextName env s) = none :=
  h _ (Nat.lt_succ_self _)

def Cfg.withNew (cfg : Cfg) (K : String) : Cfg := { cfg with bump := fun _ => K }

/-- The configuration as the Cloud KMS stack sees it: `bump` plays no role; with the constant empty name
    the clause `broot` of the invariant says no more than `root_ne`. -/
def Cfg.kmsView (cfg : Cfg) : Cfg := cfg.withNew ""

theorem uploadAll_withNew (cfg : Cfg) (K : String) (l : List (String × Cert)) :
    uploadAll (cfg.withNew K) l = uploadAll cfg l := by
  induction l with
  | nil => rfl
  | cons h t ih =>
    obtain ⟨k, c⟩ := h
    show (upload (cfg.withNew K) k c >>= fun _ => uploadAll (cfg.withNew K) t) = (upload cfg k c >>= fun _ => uploadAll cfg t)
    rw [ih]; rfl

theorem caFinalize_withNew (cfg : Cfg) (K : String) (mu : Mut) (o : List (String × Cert)) :
    caFinalize (cfg.withNew K) mu o = caFinalize cfg mu o := by
  unfold caFinalize gcsFinalize
  simp only [uploadAll_withNew]
  rfl

theorem rotateKeyKms_withNew (cfg : Cfg) (K : String) (env : KmsEnv) (req : Req) :
    rotateKeyKms (cfg.withNew K) env req = rotateKeyKms cfg env req := by
  unfold rotateKeyKms
  simp only [caFinalize_withNew]
  rfl

theorem not_benign {ow : Bool} {env : KmsEnv}
    (h : env.final.isNone = false ∨ env.deadline = true ∨ env.corrupt = true ∨ env.created.good = false) :
    (ow && env.benign) = false := by
  unfold KmsEnv.benign
  rcases h with h | h | h | h <;> simp [h]

section leaf
variable {ow : Bool} {P : St → Prop}

/-- go: gcpkms.Signer.PublicKey -/
theorem sgPubK_spec (env : KmsEnv) (k : String) (mat : Nat) (hP : Stable P)
    (hk : ∀ s, P s → lookup s.keys k = some mat) :
    Tr sc ow P (sgPubK env k) (fun a s => a = mat ∧ P s) P := by
  unfold sgPubK kmsPub
  exact Tr.call (.sgPub k) (hP.logged rfl) (fun _ h => h)
    (Tr.get (Q := fun a _ => a = mat) (.kmsPub k) rfl hP fun s h => ⟨mat, by rw [hk s h]; rfl, rfl⟩)
    (fun _ _ h => h.2)

/-- go: gcpkms.Signer.Sign; a corrupted response is an error of the environment -/
theorem sgSignK_spec (env : KmsEnv) (k : String) (mat : Nat) (hP : Stable P)
    (hk : ∀ s, P s → lookup s.keys k = some mat) :
    Tr sc (ow && env.benign) P (sgSignK env k) (fun a s => a = mat ∧ P s) P := by
  unfold sgSignK kmsSign
  refine Tr.call (.sgSign k) (hP.logged rfl) (fun _ h => h) ?_ (fun _ _ h => h.2)
  refine Triple.bind (keyCall_spec (.kmsSign k) rfl k mat hP hk) fun a => ?_
  exact Triple.ite (fun hc => Triple.throw fun s h => ⟨h.2, Or.inr (not_benign (.inr (.inr (.inl hc))))⟩)
    (fun _ => Triple.pure _ (fun _ h => h))

/-- go: gcpkms.Manager.DestroyKeyVersion: the request to Cloud KMS is nested in the manager's call -/
theorem destroyOldK_spec {cfg : Cfg} {cur : String} (h0 : cur ≠ "") :
    DestroySpec sc ow cfg cur (destroyOldK cur)
      (fun s => lookup s.keys cur = none ∧ lookup s.kdead cur = some .scheduled) := by
  intro I mat hlog herase
  unfold destroyOldK kmDestroyK kmsDestroy
  rw [if_pos h0]
  refine Tr.call (.kmDestroy cur) (fun s f h => ⟨hlog s _ f h.1, h.2.1, h.2.2.snoc _⟩) (fun _ h => ⟨h.1, h.2.2⟩) ?_
    (fun _ _ h => h.1)
  refine Tr.call (.kmsDestroy cur) (fun s f h => ⟨hlog s _ f h.1, h.2.1, h.2.2.snoc _⟩) (fun _ h => ⟨h.1, h.2.2⟩) ?_
    (fun _ _ h => h.1)
  refine Triple.getSt_bind fun s0 h0 => ?_
  rw [h0.2.1]
  exact Triple.modSt _ fun s hs => by
    subst hs
    exact ⟨⟨herase s _ h0.1, h0.2.2⟩, lookup_erase_self _ _, lookup_cons_self⟩

end leaf

section gcs
variable {ow : Bool}
variable {cfg : Cfg} {m0 : Manifest} {r c0 : Cert} {path0 : String}

theorem ne_of_lookup {α : Type} {l : List (String × α)} {k q : String} {v : α} (hq : lookup l q = some v)
    (hk : lookup l k = none) : k ≠ q :=
  fun e => by rw [e, hq] at hk; cases hk

theorem Ph.add_fresh {b : Bool} {s s' : St} {K : String} (h : Ph cfg m0 r c0 path0 b none s)
    (hK : lookup s.keys K = none) (mat : Nat)
    (hf1 : s'.store = s.store) (hf2 : s'.keys = (K, mat) :: s.keys) (hf3 : s'.cache = s.cache)
    (hf4 : s'.log = s.log) :
    Ph cfg m0 r c0 path0 b (some (K, mat)) s' :=
  h.add_key (ne_of_lookup h.inv.kprim hK) (ne_of_lookup h.inv.kroot hK) mat hf1 hf2 hf3 hf4

theorem Ph.frame {b : Bool} {kk : Option (String × Nat)} {s s' : St} (h : Ph cfg m0 r c0 path0 b kk s)
    (h1 : s'.store = s.store) (h2 : s'.keys = s.keys) (h3 : s'.cache = s.cache) (h4 : s'.log = s.log) :
    Ph cfg m0 r c0 path0 b kk s' :=
  ⟨h.inv.transfer h1 h2, by rw [h3]; exact h.cache, by rw [h4]; exact h.nd, by rw [h2]; exact h.key⟩

def PhS (cfg : Cfg) (m0 : Manifest) (r c0 : Cert) (path0 : String) (K : String) (st : KState) (s : St) : Prop :=
  Ph cfg m0 r c0 path0 false none s ∧ lookup s.keys K = none ∧ lookup s.kdead K = some st

theorem PhS.stable (K : String) (st : KState) : Stable (PhS cfg m0 r c0 path0 K st) :=
  fun s c f hc h => ⟨Ph.stable false none s c f hc h.1, h.2.1, h.2.2⟩

/-- `PhS` at `.pending j`, by unfolding: `kmsWaitC_spec` passes the one for the other -/
def PhW (cfg : Cfg) (m0 : Manifest) (r c0 : Cert) (path0 : String) (K : String) (j : Nat) (s : St) : Prop :=
  Ph cfg m0 r c0 path0 false none s ∧ lookup s.keys K = none ∧ lookup s.kdead K = some (.pending j)

theorem PhW.stable (K : String) (j : Nat) : Stable (PhW cfg m0 r c0 path0 K j) :=
  PhS.stable K (.pending j)

/-- after CreateCryptoKeyVersion -/
def PhC (cfg : Cfg) (m0 : Manifest) (r c0 : Cert) (path0 : String) (env : KmsEnv) (K : String) (s : St) : Prop :=
  match env.created with
  | .pending => PhW cfg m0 r c0 path0 K env.gen s
  | .enabled => ∃ mat, Ph cfg m0 r c0 path0 false (some (K, mat)) s
  | .disabled => Ph cfg m0 r c0 path0 false none s ∧ lookup s.keys K = none ∧ lookup s.kdead K = some .disabled
  | .genFailed => Ph cfg m0 r c0 path0 false none s ∧ lookup s.keys K = none ∧ lookup s.kdead K = some .genFailed

theorem PhC.weaken {env : KmsEnv} {K : String} {s : St} (h : PhC cfg m0 r c0 path0 env K s) :
    Ph cfg m0 r c0 path0 false none s := by
  unfold PhC at h
  cases hc : env.created <;> rw [hc] at h
  · exact h.1
  · obtain ⟨mat, hm⟩ := h; exact hm.weaken
  · exact h.1
  · exact h.1

/-- before CreateCryptoKeyVersion -/
def PhN (cfg : Cfg) (m0 : Manifest) (r c0 : Cert) (path0 : String) (env : KmsEnv) (n0 : Nat) (s : St) : Prop :=
  Ph cfg m0 r c0 path0 false none s ∧ s.kcount = n0 ∧ lookup s.keys (verName env.parent (n0 + 1)) = none

theorem PhN.stable (env : KmsEnv) (n0 : Nat) : Stable (PhN cfg m0 r c0 path0 env n0) :=
  fun s c f hc h => ⟨Ph.stable false none s c f hc h.1, h.2⟩

/-- go: CreateCryptoKeyVersion -/
theorem kmsCreateVer_spec (env : KmsEnv) (n0 : Nat) :
    Tr sc ow (PhN cfg m0 r c0 path0 env n0)
      (kmsCreateVer env)
      (fun kv s => kv = verName env.parent (n0 + 1) ∧ PhC cfg m0 r c0 path0 env (verName env.parent (n0 + 1)) s)
      (Ph cfg m0 r c0 path0 false none) := by
  unfold kmsCreateVer
  refine Tr.call .kmsCreate ((PhN.stable env n0).logged rfl) (fun _ h => h.1) ?_ (fun a s h => h.2.weaken)
  refine Triple.getSt_bind fun s0 h0 => ?_
  rw [h0.2.1]
  refine Triple.bind (Q1 := fun _ s => PhC cfg m0 r c0 path0 env (verName env.parent (n0 + 1)) s)
    (Triple.modSt _ fun s hs => ?_) fun _ => Triple.pure _ (fun s h => ⟨rfl, h⟩)
  subst hs
  unfold PhC createVer
  cases env.created with
  | enabled => exact ⟨s.nextMat, h0.1.add_fresh h0.2.2 s.nextMat rfl rfl rfl rfl⟩
  | _ => exact ⟨h0.1.frame rfl rfl rfl rfl, h0.2.2, lookup_cons_self⟩

def GetPost (cfg : Cfg) (m0 : Manifest) (r c0 : Cert) (path0 : String) (env : KmsEnv) (K : String) (st : KState)
    (o : KObs) (s : St) : Prop :=
  match o with
  | .enabled => ∃ mat, Ph cfg m0 r c0 path0 false (some (K, mat)) s
  | .pending => ∃ j, st = .pending (j + 1) ∧ PhS cfg m0 r c0 path0 K (.pending j) s
  | .other => Ph cfg m0 r c0 path0 false none s ∧ ∀ j, st = .pending j → env.final.isNone = false

/-- go: GetCryptoKeyVersion on a version that is not usable -/
theorem kmsGet_spec (env : KmsEnv) (K : String) (st : KState) :
    Tr sc ow (PhS cfg m0 r c0 path0 K st) (kmsGet env K) (GetPost cfg m0 r c0 path0 env K st)
      (Ph cfg m0 r c0 path0 false none) := by
  unfold kmsGet
  refine Tr.call (.kmsGet K) ((PhS.stable K st).logged rfl) (fun _ h => h.1) ?_ ?_
  · refine Triple.getSt_bind fun s0 h0 => ?_
    rw [h0.2.1, h0.2.2]
    cases st with
    | pending j =>
      cases j with
      | zero =>
        show Triple sc _ (match env.final with
          | none => _
          | some st => _) _ _ _
        cases hfin : env.final with
        | none =>
          exact Triple.bind (Q1 := fun _ s => ∃ mat, Ph cfg m0 r c0 path0 false (some (K, mat)) s)
            (Triple.modSt _ fun s hs => by subst hs; exact ⟨s.nextMat, h0.1.add_fresh h0.2.1 s.nextMat rfl rfl rfl rfl⟩)
            fun _ => Triple.pure _ (fun s h => h)
        | some st' =>
          exact Triple.bind (Q1 := fun _ s => Ph cfg m0 r c0 path0 false none s)
            (Triple.modSt _ fun s hs => by subst hs; exact h0.1.frame rfl rfl rfl rfl)
            fun _ => Triple.pure _ (fun s h => ⟨h, fun _ _ => by rw [hfin]; rfl⟩)
      | succ j' =>
        exact Triple.bind (Q1 := fun _ s => PhS cfg m0 r c0 path0 K (.pending j') s)
          (Triple.modSt _ fun s hs => by subst hs; exact ⟨h0.1.frame rfl rfl rfl rfl, h0.2.1, lookup_cons_self⟩)
          fun _ => Triple.pure _ (fun s h => ⟨j', rfl, h⟩)
    | _ => exact Triple.pure _ (fun s hs => by subst hs; exact ⟨h0.1, fun _ e => by cases e⟩)
  · intro o s h
    cases o with
    | enabled => obtain ⟨mat, hm⟩ := h; exact hm.weaken
    | pending => obtain ⟨j', _, hw⟩ := h; exact hw.1
    | other => exact h.1

/-- go: waitForKeyVersionGen, with enough fuel for the countdown.  The last hypothesis: meeting a version that is
    neither usable nor in PENDING_GENERATION is the environment's doing. -/
theorem kmsWait_spec (env : KmsEnv) (K : String) :
    ∀ (fuel : Nat) (st : KState), (∀ j, st = .pending j → j < fuel) → 0 < fuel →
    ((∀ j, st ≠ .pending j) → (ow && env.benign) = false) →
    Tr sc (ow && env.benign) (PhS cfg m0 r c0 path0 K st) (kmsWait env K fuel)
      (fun kv s => kv = K ∧ ∃ mat, Ph cfg m0 r c0 path0 false (some (K, mat)) s)
      (Ph cfg m0 r c0 path0 false none) := by
  intro fuel
  induction fuel with
  | zero => intro _ _ h0; exact absurd h0 (Nat.lt_irrefl _)
  | succ fuel ih =>
    intro st hj _ hbl
    unfold kmsWait
    refine Triple.bind (kmsGet_spec env K st) fun o => ?_
    cases o with
    | enabled => exact Triple.pure _ (fun s h => ⟨rfl, h⟩)
    | pending =>
      show Triple sc _ (if env.deadline = true then throw else kmsWait env K fuel) _ _ _
      refine Triple.ite (fun hd => Triple.throw fun s ⟨_, _, hw⟩ => ⟨hw.1, Or.inr (not_benign (.inr (.inl hd)))⟩)
        fun _ => Triple.of_exists fun j' => Triple.of_fact fun hj' => ?_
      have := hj _ hj'
      exact ih (.pending j') (fun j e => by cases e; omega) (by omega) (fun h => absurd rfl (h j'))
    | other =>
      refine Triple.throw fun s h => ⟨h.1, Or.inr ?_⟩
      cases st with
      | pending j => exact not_benign (.inl (h.2 j rfl))
      | _ => exact hbl (fun _ e => by cases e)

/-- go: GetCryptoKeyVersion on a version that is ENABLED -/
theorem kmsGet_live (env : KmsEnv) (K : String) (mat : Nat) :
    Tr sc ow (Ph cfg m0 r c0 path0 false (some (K, mat))) (kmsGet env K)
      (fun o s => o = .enabled ∧ Ph cfg m0 r c0 path0 false (some (K, mat)) s)
      (Ph cfg m0 r c0 path0 false none) := by
  unfold kmsGet
  refine Tr.call (.kmsGet K) ((Ph.stable false _).logged rfl) (fun _ h => h.weaken) ?_ (fun o s h => h.2.weaken)
  refine Triple.getSt_bind fun s0 h0 => ?_
  rw [h0.key K mat rfl]
  exact Triple.pure _ (fun s hs => by subst hs; exact ⟨rfl, h0⟩)

/-- go: waitForKeyVersionGen after CreateCryptoKeyVersion, whatever state the version was created in -/
theorem kmsWaitC_spec (env : KmsEnv) (K : String) :
    Tr sc (ow && env.benign) (PhC cfg m0 r c0 path0 env K) (kmsWait env K (env.gen + 1))
      (fun kv s => kv = K ∧ ∃ mat, Ph cfg m0 r c0 path0 false (some (K, mat)) s)
      (Ph cfg m0 r c0 path0 false none) := by
  unfold PhC
  cases hc : env.created with
  | pending =>
    exact kmsWait_spec env K _ (.pending env.gen) (fun j e => by cases e; omega) (Nat.succ_pos _)
      (fun h => absurd rfl (h _))
  | enabled =>
    refine Triple.of_exists fun mat => ?_
    unfold kmsWait
    refine Triple.bind (kmsGet_live env K mat) fun o => Triple.of_fact fun ho => ?_
    subst ho
    exact Triple.pure _ (fun s h => ⟨rfl, mat, h⟩)
  | disabled =>
    exact kmsWait_spec env K _ .disabled (fun _ e => by cases e) (Nat.succ_pos _)
      (fun _ => not_benign (.inr (.inr (.inr (by rw [hc]; rfl)))))
  | genFailed =>
    exact kmsWait_spec env K _ .genFailed (fun _ e => by cases e) (Nat.succ_pos _)
      (fun _ => not_benign (.inr (.inr (.inr (by rw [hc]; rfl)))))

/-- go: gcpkms.Manager.CreateNewSigningKeyVersion; the state the response of CreateCryptoKeyVersion reports is not
    looked at -/
theorem kmCreateK_spec (env : KmsEnv) (n0 : Nat) :
    Tr sc (ow && env.benign) (PhN cfg m0 r c0 path0 env n0)
      (kmCreateK env)
      (fun kv s => kv = verName env.parent (n0 + 1) ∧
        ∃ mat, Ph cfg m0 r c0 path0 false (some (verName env.parent (n0 + 1), mat)) s)
      (Ph cfg m0 r c0 path0 false none) := by
  unfold kmCreateK kmsCreate
  refine Tr.call .kmCreate ((PhN.stable env n0).logged rfl) (fun _ h => h.1) ?_ (fun _ _ ⟨_, _, hm⟩ => hm.weaken)
  refine Triple.bind (Q1 := fun p s => p.1 = verName env.parent (n0 + 1) ∧
      PhC cfg m0 r c0 path0 env (verName env.parent (n0 + 1)) s)
    (Triple.bind (kmsCreateVer_spec env n0) fun k => Triple.pure _ (fun s h => h)) fun p => Triple.of_fact fun hk => ?_
  rw [hk]
  exact kmsWaitC_spec env _

/-- go: rotate.signCert for the new key version (the Cloud KMS template makes no call) -/
theorem signCertK_spec (hca : cfg.ca = .gcsca) (env : KmsEnv) (req : Req) (k : String) (mat : Nat) :
    Tr sc (ow && env.benign) (Ph cfg m0 r c0 path0 false (some (k, mat))) (signCertK cfg env req {} r k m0.root)
      (fun x s => x = ({ certs := [(k, ⟨req.cn, req.serial, mat, r.pub⟩)] }, ⟨req.cn, req.serial, mat, r.pub⟩) ∧
        Ph cfg m0 r c0 path0 false (some (k, mat)) s)
      (Ph cfg m0 r c0 path0 false (some (k, mat))) := by
  unfold signCertK
  refine Triple.bind (sgPubK_spec env k mat (Ph.stable false _) (fun s h => h.key k mat rfl))
    fun sp => Triple.of_fact fun hsp => ?_
  rw [hsp]
  refine Triple.bind (m := createCertificateK cfg env req mat m0.root (some r))
    (createWith_spec cfg req mat r (sgPubK_spec env m0.root r.pub (Ph.stable false _) (fun s h => h.inv.kroot))
      (sgSignK_spec env m0.root r.pub (Ph.stable false _) (fun s h => h.inv.kroot)))
    fun c => Triple.of_fact fun hc => ?_
  rw [mutAddCert_gcs hca, hc]
  exact Triple.pure _ (fun s h => ⟨rfl, h⟩)

theorem rotateKeyKms_eq (cfg : Cfg) (env : KmsEnv) (req : Req) :
    rotateKeyKms cfg env req = rotateWith cfg (kmCreateK env) (signCertK cfg env req {}) destroyOldK := rfl

/-- go: rotate.Key on the Cloud KMS stack with the deferred authority, for one arbitrary fault script and
    one arbitrary environment: a normal return means the durable state is the rotated one; an error or a
    crash leaves a durable state satisfying the invariant; every log satisfies destroy-after-commit at both
    levels; a crash needs a fault; an error needs a fault, `overwrite = false`, a target object that another
    key version holds (`claimed`), or an environment that is not benign. -/
theorem rotateKeyKms_gcs (hca : cfg.ca = .gcsca) (env : KmsEnv) (req : Req) (n0 : Nat)
    (hK : cfg.bump m0.signing = verName env.parent (n0 + 1))
    (ht1 : target cfg req m0 ≠ manifestName) (ht2 : target cfg req m0 ≠ cfg.rootPath) :
    Tr sc ((cfg.overwrite && !claimed cfg req m0) && env.benign) (PhN cfg m0 r c0 path0 env n0)
      (rotateKeyKms cfg env req)
      (fun kv s => kv = cfg.bump m0.signing ∧ claimed cfg req m0 = false ∧ ∃ mat, (InvG cfg (rotatedManifest cfg req m0) r
        ⟨req.cn, req.serial, mat, r.pub⟩ (target cfg req m0) s ∧ DAC cfg s.log ∧ DACK cfg s.log) ∧
        lookup s.keys m0.signing = none ∧ lookup s.kdead m0.signing = some .scheduled)
      (SafeK cfg) := by
  rw [rotateKeyKms_eq]
  refine Triple.have_fact (φ := cfg.bump m0.signing ≠ m0.signing)
    (fun s h => by rw [hK]; exact ne_of_lookup h.1.inv.kprim h.2.2) fun hb1 => ?_
  exact rotateWith_gcs hca req hb1 (by rw [hK]; exact verName_ne_empty _ _) ht1 ht2 (fun e => by rw [e]; rfl)
    ((kmCreateK_spec env n0).post fun _ _ h => by rw [hK]; exact h)
    (fun mat => signCertK_spec hca env req _ mat)
    destroyOldK_spec

end gcs

/-! ### hygiene of the key service is an invariant of every run

Only three calls touch the usable keys or the version counter: CreateCryptoKeyVersion, the poll that
completes generation, DestroyCryptoKeyVersion.  Everything else is framed out (`Frame`). -/

def KV (s : St) : List (String × Nat) × Nat := (s.keys, s.kcount)

structure Frame {α : Type} (m : Run α) : Prop where
  h : ∀ sc s, KV (m sc s).state = KV s

theorem Frame.triple {α : Type} {m : Run α} (hm : Frame m) (J : St → Prop)
    (hJ : ∀ s s', KV s' = KV s → J s → J s') : Triple sc J m (fun _ => J) J J := by
  intro s hs
  have := hm.h sc s
  cases hr : m sc s with
  | ok a s' => rw [hr] at this; exact hJ s s' this hs
  | err s' => rw [hr] at this; exact hJ s s' this hs
  | crash s' => rw [hr] at this; exact hJ s s' this hs

theorem Frame.pure {α : Type} (a : α) : Frame (Pure.pure a : Run α) := ⟨fun _ _ => rfl⟩
theorem Frame.throw {α : Type} : Frame (throw : Run α) := ⟨fun _ _ => rfl⟩
theorem Frame.getSt : Frame getSt := ⟨fun _ _ => rfl⟩
theorem Frame.modSt (f : St → St) (h : ∀ s, KV (f s) = KV s) : Frame (modSt f) := ⟨fun _ s => h s⟩

theorem Frame.bind {α β : Type} {m : Run α} {f : α → Run β} (h1 : Frame m) (h2 : ∀ a, Frame (f a)) :
    Frame (m >>= f) := by
  refine ⟨fun sc s => ?_⟩
  have := h1.h sc s
  show KV (match m sc s with
    | .ok a s' => f a sc s'
    | .err s' => .err s'
    | .crash s' => .crash s').state = KV s
  cases hm : m sc s with
  | ok a s' => rw [hm] at this; simp only []; rw [(h2 a).h sc s']; exact this
  | err s' => rw [hm] at this; exact this
  | crash s' => rw [hm] at this; exact this

theorem Frame.wrap {α : Type} (c : Call) {body : Run α} (h : Frame body) : Frame (wrap c body) := by
  refine ⟨fun sc s => ?_⟩
  unfold CA.wrap
  cases sc s.pos with
  | fail => rfl
  | ok => exact h.h sc (s.logged c .ok)
  | crash =>
    have := h.h sc (s.logged c .crash)
    cases hb : body sc (s.logged c .crash) with
    | ok a s' => rw [hb] at this; exact this
    | err s' => rw [hb] at this; exact this
    | crash s' => rw [hb] at this; exact this

theorem Frame.attempt {α : Type} {m : Run α} (h : Frame m) : Frame (attempt m) := by
  refine ⟨fun sc s => ?_⟩
  have := h.h sc s
  unfold CA.attempt
  cases hm : m sc s with
  | ok a s' => rw [hm] at this; exact this
  | err s' => rw [hm] at this; exact this
  | crash s' => rw [hm] at this; exact this

theorem Frame.ofOption {α : Type} (o : Option α) : Frame (ofOption o) := by
  cases o with
  | none => exact Frame.throw
  | some a => exact Frame.pure a

theorem Frame.repeatRun {α : Type} {m : Run α} (h : Frame m) (n : Nat) : Frame (repeatRun n m) := by
  induction n with
  | zero => exact Frame.pure _
  | succ n ih =>
    unfold CA.repeatRun
    exact Frame.bind h (fun a => Frame.bind ih (fun r => Frame.pure _))

theorem Frame.ite {α : Type} {c : Prop} [Decidable c] {m1 m2 : Run α} (h1 : Frame m1) (h2 : Frame m2) :
    Frame (if c then m1 else m2) := by
  split <;> assumption

/-- the shape of `stReader`, `stExists`, memca's `caPsk`, … -/
theorem Frame.read {α : Type} (c : Call) (g : St → α) : Frame (CA.wrap c (CA.getSt >>= fun s => Pure.pure (g s))) :=
  .wrap _ (.bind .getSt fun _ => .pure _)

theorem writeFile_frame (o : String) (d : Obj) : Frame (writeFile o d) :=
  .bind (.wrap _ (.pure _)) fun _ => .bind (.attempt (.wrap _ (.pure _))) fun w => by
    cases w with
    | none => exact .bind (.wrap _ (.pure _)) fun _ => .throw
    | some _ => exact .wrap _ (.modSt _ fun _ => rfl)

theorem getManifest_frame : Frame getManifest :=
  .bind .getSt fun s => by
    cases s.cache with
    | some m => exact .pure m
    | none =>
      refine .bind (.read _ _) fun r => .bind ?_ fun _ => .bind (.modSt _ fun _ => rfl) fun _ => .pure _
      cases r with
      | none => exact .pure _
      | some o => cases o with
        | der _ => exact .throw
        | pem _ => exact .throw
        | manifest m => exact .pure m

theorem writeIfAllowed_frame (cfg : Cfg) (o : String) (d : Obj) : Frame (writeIfAllowed cfg o d) :=
  .bind (.read _ _) fun _ => .ite .throw (.bind (writeFile_frame o d) fun _ => .pure _)

theorem upload_frame (cfg : Cfg) (k : String) (c : Cert) : Frame (upload cfg k c) :=
  .bind .getSt fun _ => .ite .throw (.bind (writeIfAllowed_frame _ _ _) fun _ => .modSt _ fun _ => rfl)

theorem uploadAll_frame (cfg : Cfg) : ∀ l : List (String × Cert), Frame (uploadAll cfg l)
  | [] => .pure _
  | (k, c) :: t => .bind (upload_frame cfg k c) fun _ => uploadAll_frame cfg t

theorem writeManifest_frame : Frame writeManifest := .bind .getSt fun _ => writeFile_frame _ _

theorem gcsFinalize_frame (cfg : Cfg) (mu : Mut) (o : List (String × Cert)) : Frame (gcsFinalize cfg mu o) :=
  .bind getManifest_frame fun m => .bind (.modSt _ fun _ => rfl) fun _ => .bind (uploadAll_frame cfg o) fun _ =>
    .bind (by
      cases mu.rootCert with
      | none => exact .pure _
      | some rc => exact .bind (writeIfAllowed_frame cfg cfg.rootPath (.pem rc)) fun _ => .pure _)
    fun _ => .ite writeManifest_frame (.pure _)

theorem caFinalize_frame (cfg : Cfg) (mu : Mut) (o : List (String × Cert)) : Frame (caFinalize cfg mu o) :=
  .wrap _ (by
    cases cfg.ca with
    | gcsca => exact gcsFinalize_frame cfg mu o
    | memca => exact .pure _)

theorem caRead_frame {α : Type} (cfg : Cfg) (c : Call) (g : Manifest → α) (g' : St → α) :
    Frame (wrap c (match cfg.ca with
      | .gcsca => do let m ← getManifest; pure (g m)
      | .memca => do let s ← getSt; pure (g' s))) :=
  .wrap _ (by
    cases cfg.ca with
    | gcsca => exact .bind getManifest_frame fun _ => .pure _
    | memca => exact .bind .getSt fun _ => .pure _)

theorem caIssuer_frame (cfg : Cfg) : Frame (caIssuer cfg) :=
  .wrap _ (by
    cases cfg.ca with
    | memca => exact .bind .getSt fun _ => .ofOption _
    | gcsca =>
      refine .bind (.read _ _) fun r => ?_
      cases r with
      | none => exact .throw
      | some o => cases o with
        | der _ => exact .throw
        | pem c => exact .pure c
        | manifest _ => exact .throw)

theorem getCurrentInfo_frame (cfg : Cfg) : Frame (getCurrentInfo cfg) :=
  .bind (caRead_frame cfg _ _ _) fun _ => .bind (caRead_frame cfg _ _ _) fun _ => .bind (caIssuer_frame cfg) fun _ => .pure _

theorem sgPubK_frame (env : KmsEnv) (k : String) : Frame (sgPubK env k) :=
  .wrap _ (.wrap _ (.bind .getSt fun s => by
    cases lookup s.keys k with
    | some m => exact .pure m
    | none =>
      cases lookup s.kdead k with
      | none => exact .throw
      | some st => cases st with
        | disabled => exact .ofOption _
        | _ => exact .throw))

theorem sgSignK_frame (env : KmsEnv) (k : String) : Frame (sgSignK env k) :=
  .wrap _ (.bind (.wrap _ (.bind .getSt fun _ => .ofOption _)) fun _ => .ite .throw (.pure _))

theorem createCertificateK_frame (cfg : Cfg) (env : KmsEnv) (req : Req) (p : Nat) (ik : String) (iss : Option Cert) :
    Frame (createCertificateK cfg env req p ik iss) :=
  .bind (.repeatRun (sgPubK_frame env ik) _) fun _ => .ite .throw
    (.bind (sgSignK_frame env ik) fun _ => .bind (.repeatRun (sgPubK_frame env ik) _) fun _ => .pure _)

theorem mutAddCert_frame (cfg : Cfg) (mu : Mut) (k : String) (c : Cert) : Frame (mutAddCert cfg mu k c) := by
  unfold mutAddCert
  cases cfg.ca with
  | gcsca => exact .pure _
  | memca => exact .bind (.modSt _ fun _ => rfl) fun _ => .pure _

theorem mutSetPrimary_frame (cfg : Cfg) (mu : Mut) (k : String) : Frame (mutSetPrimary cfg mu k) := by
  unfold mutSetPrimary
  cases cfg.ca with
  | gcsca => exact .pure _
  | memca => exact .bind (.modSt _ fun _ => rfl) fun _ => .pure _

theorem signCertK_frame (cfg : Cfg) (env : KmsEnv) (req : Req) (mu : Mut) (iss : Cert) (k ik : String) :
    Frame (signCertK cfg env req mu iss k ik) :=
  .bind (sgPubK_frame env k) fun _ => .bind (createCertificateK_frame _ _ _ _ _ _) fun _ =>
    .bind (mutAddCert_frame _ _ _ _) fun _ => .pure _

theorem KHyg.grow {env : KmsEnv} {s s' : St} (h : KHyg env s) (hc : s.kcount ≤ s'.kcount) (hk : s'.keys = s.keys) :
    KHyg env s' :=
  fun n hn => by rw [hk]; exact h n (Nat.lt_of_le_of_lt hc hn)

theorem KHyg.add {env : KmsEnv} {s s' : St} (h : KHyg env s) {n mat : Nat} (hn : n ≤ s'.kcount)
    (hc : s.kcount ≤ s'.kcount) (hk : s'.keys = (verName env.parent n, mat) :: s.keys) : KHyg env s' := by
  intro n' hn'
  rw [hk, lookup_cons_ne fun e => by have := verName_inj _ _ _ e; omega]
  exact h n' (by omega)

theorem KHyg.of_KV {env : KmsEnv} {s s' : St} (h : KV s' = KV s) (hs : KHyg env s) : KHyg env s' :=
  hs.grow (Nat.le_of_eq (congrArg Prod.snd h).symm) (congrArg Prod.fst h)

def KHygAt (env : KmsEnv) (k : String) (s : St) : Prop :=
  KHyg env s ∧ ∃ n, n ≤ s.kcount ∧ k = verName env.parent n

theorem kmsCreateVer_hyg (env : KmsEnv) :
    Triple sc (KHyg env) (kmsCreateVer env) (fun k s => KHygAt env k s) (KHyg env) (KHyg env) := by
  unfold kmsCreateVer
  refine Triple.wrap (P' := KHyg env) .kmsCreate (fun s f h => KHyg.of_KV rfl h) (fun s h _ => KHyg.of_KV rfl h)
    ?_ (fun a s _ h => h.1) (fun s _ h => h)
  refine Triple.getSt_bind fun s0 h0 => ?_
  refine Triple.bind (Q1 := fun _ s => KHygAt env (verName env.parent (s0.kcount + 1)) s)
    (Triple.modSt _ fun s hs => ?_) (fun _ => Triple.pure _ (fun s h => h))
  subst hs
  unfold createVer
  cases env.created with
  | enabled => exact ⟨h0.add (Nat.le_refl _) (Nat.le_succ _) rfl, _, Nat.le_refl _, rfl⟩
  | _ => exact ⟨h0.grow (Nat.le_succ _) rfl, _, Nat.le_refl _, rfl⟩

theorem kmsGet_hyg (env : KmsEnv) (k : String) :
    Triple sc (KHygAt env k) (kmsGet env k) (fun _ s => KHygAt env k s) (KHyg env) (KHyg env) := by
  unfold kmsGet
  -- all a poll does to the usable keys and the counter: `k` may become usable
  have hfr : ∀ {s s' : St}, KHygAt env k s → s'.kcount = s.kcount →
      (s'.keys = s.keys ∨ ∃ mat, s'.keys = (k, mat) :: s.keys) → KHygAt env k s' := by
    rintro s s' ⟨hh, n, hn, hk⟩ hc hkeys
    refine ⟨?_, n, by rw [hc]; exact hn, hk⟩
    rcases hkeys with e | ⟨mat, e⟩
    · exact hh.grow (Nat.le_of_eq hc.symm) e
    · exact hh.add (n := n) (by rw [hc]; exact hn) (Nat.le_of_eq hc.symm) (by rw [e, hk])
  have hmod : ∀ {s0 : St} (f : St → St) (o : KObs), KHygAt env k (f s0) →
      Triple sc (fun s => s = s0) (modSt f >>= fun _ => pure o) (fun _ s => KHygAt env k s) (KHyg env) (KHyg env) :=
    fun f o h => Triple.bind (Q1 := fun _ s => KHygAt env k s) (Triple.modSt _ fun s hs => by subst hs; exact h)
      (fun _ => Triple.pure _ (fun _ h => h))
  refine Triple.wrap (P' := KHygAt env k) (.kmsGet k) (fun s f h => hfr h rfl (.inl rfl))
    (fun s h _ => (hfr (s' := s.logged _ _) h rfl (.inl rfl)).1) ?_ (fun a s _ h => h.1) (fun s _ h => h)
  refine Triple.getSt_bind fun s0 h0 => ?_
  split
  · exact Triple.pure _ (fun s hs => by subst hs; exact h0)
  · split
    · exact Triple.throw (fun s hs => by subst hs; exact h0.1)
    · split
      · exact hmod _ _ (hfr h0 rfl (.inr ⟨_, rfl⟩))
      · exact hmod _ _ (hfr h0 rfl (.inl rfl))
    · exact hmod _ _ (hfr h0 rfl (.inl rfl))
    · exact Triple.pure _ (fun s hs => by subst hs; exact h0)

theorem kmsWait_hyg (env : KmsEnv) (k : String) (fuel : Nat) :
    Triple sc (KHygAt env k) (kmsWait env k fuel) (fun _ s => KHyg env s) (KHyg env) (KHyg env) := by
  induction fuel with
  | zero => exact Triple.throw (fun _ h => h.1)
  | succ fuel ih =>
    unfold kmsWait
    refine Triple.bind (kmsGet_hyg env k) ?_
    intro o
    cases o with
    | enabled => exact Triple.pure _ (fun _ h => h.1)
    | pending =>
      show Triple sc _ (if env.deadline = true then throw else kmsWait env k fuel) _ _ _
      exact Triple.ite (fun _ => Triple.throw (fun _ h => h.1)) (fun _ => ih)
    | other => exact Triple.throw (fun _ h => h.1)

theorem kmCreateK_hyg (env : KmsEnv) :
    Triple sc (KHyg env) (kmCreateK env) (fun _ s => KHyg env s) (KHyg env) (KHyg env) := by
  unfold kmCreateK kmsCreate
  refine Triple.wrap (P' := KHyg env) .kmCreate (fun s f h => KHyg.of_KV rfl h) (fun s h _ => KHyg.of_KV rfl h)
    ?_ (fun a s _ h => h) (fun s _ h => h)
  exact Triple.bind (Q1 := fun p s => KHygAt env p.1 s)
    (Triple.bind (kmsCreateVer_hyg env) fun k => Triple.pure _ (fun s h => h)) (fun p => kmsWait_hyg env p.1 _)

theorem lookup_erase_none {α : Type} (l : List (String × α)) (q k : String) (h : lookup l k = none) :
    lookup (erase l q) k = none := by
  by_cases e : k = q
  · rw [e]; exact lookup_erase_self l q
  · rw [lookup_erase_ne l q k e]; exact h

theorem kmDestroyK_hyg (env : KmsEnv) (k : String) :
    Triple sc (KHyg env) (kmDestroyK k) (fun _ s => KHyg env s) (KHyg env) (KHyg env) := by
  unfold kmDestroyK kmsDestroy
  refine Triple.wrap (P' := KHyg env) (.kmDestroy k) (fun s f h => KHyg.of_KV rfl h) (fun s h _ => KHyg.of_KV rfl h)
    ?_ (fun a s _ h => h) (fun s _ h => h)
  refine Triple.wrap (P' := KHyg env) (.kmsDestroy k) (fun s f h => KHyg.of_KV rfl h) (fun s h _ => KHyg.of_KV rfl h)
    ?_ (fun a s _ h => h) (fun s _ h => h)
  refine Triple.getSt_bind fun s0 h0 => ?_
  split
  · exact Triple.modSt _ fun s hs => by subst hs; exact fun n hn => lookup_erase_none _ _ _ (h0 n hn)
  · split
    · exact Triple.modSt _ fun s hs => by subst hs; exact KHyg.of_KV rfl h0
    · exact Triple.throw (fun s hs => by subst hs; exact h0)

theorem rotateKeyKms_hyg (cfg : Cfg) (env : KmsEnv) (req : Req) :
    Triple sc (KHyg env) (rotateKeyKms cfg env req) (fun _ s => KHyg env s) (KHyg env) (KHyg env) := by
  have fr : ∀ {α : Type} {m : Run α}, Frame m → Triple sc (KHyg env) m (fun _ => KHyg env) (KHyg env) (KHyg env) :=
    fun hm => hm.triple (KHyg env) (fun _ _ h hs => KHyg.of_KV h hs)
  unfold rotateKeyKms
  refine Triple.bind (kmCreateK_hyg env) fun kver => Triple.bind (fr (getCurrentInfo_frame cfg)) fun ⟨cur, root, issuer⟩ => ?_
  show Triple sc _ (if root = "" ∨ kver = "" then throw else _) _ _ _
  refine Triple.ite (fun _ => Triple.throw (fun _ h => h)) fun _ => ?_
  refine Triple.bind (fr (signCertK_frame cfg env req {} issuer kver root)) fun ⟨mu, c⟩ => ?_
  show Triple sc _ (mutSetPrimary cfg mu kver >>= fun mu2 => _) _ _ _
  refine Triple.bind (fr (mutSetPrimary_frame cfg mu kver)) fun mu2 => Triple.bind (fr (caFinalize_frame cfg mu2 mu2.certs)) fun _ => ?_
  refine Triple.bind (Q1 := fun _ s => KHyg env s) ?_ (fun _ => Triple.pure _ (fun _ h => h))
  unfold destroyOldK
  exact Triple.ite (fun _ => kmDestroyK_hyg env cur) (fun _ => Triple.pure _ (fun _ h => h))

theorem KHyg_reload (env : KmsEnv) (s : St) : KHyg env s.reload ↔ KHyg env s := Iff.rfl

/-- The invariant on the Cloud KMS stack: the invariant of the nonprod stacks read with `kmsView` (the
    recorded primary is an ENABLED version, certified for its key, chaining to the stored root; the root
    version is ENABLED and is the key of the stored root certificate; name hygiene) + the hygiene of the
    key service. -/
def InvKms (cfg : Cfg) (env : KmsEnv) (s : St) : Prop := Inv cfg.kmsView s ∧ KHyg env s

/-- Precondition on the request: the object the certificate of the NEXT version is written to (its
    manifest entry when that name is already listed, `<certDir><cn>-<serial>.crt` otherwise) is neither the
    manifest nor the root certificate object. -/
def FreshKms (cfg : Cfg) (env : KmsEnv) (req : Req) (s : St) : Prop :=
  Fresh (cfg.withNew (nextName env s)) req s

/-- the request does not name a certificate object that the stored manifest records for a key version
    other than the NEXT one (needed for a rotation to succeed, not for failure atomicity) -/
def UnclaimedKms (cfg : Cfg) (env : KmsEnv) (req : Req) (s : St) : Prop :=
  Unclaimed (cfg.withNew (nextName env s)) req s

/-- gcsca.upload will refuse the rotation's certificate -/
def ClaimedKms (cfg : Cfg) (env : KmsEnv) (req : Req) (s : St) : Prop :=
  Claimed (cfg.withNew (nextName env s)) req s

theorem InvKms.primaryOK {cfg : Cfg} {env : KmsEnv} {s : St} (h : InvKms cfg env s) : PrimaryOK cfg s :=
  h.1.primaryOK

theorem InvKms_reload (cfg : Cfg) (env : KmsEnv) (s : St) : InvKms cfg env s.reload ↔ InvKms cfg env s := by
  unfold InvKms
  rw [Inv_reload]
  exact Iff.rfl

theorem InvKms_allowOverwrite (cfg : Cfg) (env : KmsEnv) (s : St) :
    InvKms cfg.allowOverwrite env s ↔ InvKms cfg env s := by
  unfold InvKms
  exact and_congr_left' (Inv_allowOverwrite cfg.kmsView s)

theorem Inv_of_withNew {cfg : Cfg} {K : String} {s : St} (h : Inv (cfg.withNew K) s) : Inv cfg.kmsView s :=
  h.map (cfg := cfg.withNew K) (cfg' := cfg.kmsView) rfl (fun _ _ _ _ hi => hi.rebump rfl fun _ => Ne.symm hi.root_ne)
    (fun _ _ hi => hi.rebump fun _ => Ne.symm hi.root_ne)

theorem rotateKms_run_facts (cfg : Cfg) (env : KmsEnv) (req : Req) (sc : Nat → Fault) (s : St)
    (hca : cfg.ca = .gcsca) (hi : InvKms cfg env s) (hf : FreshKms cfg env req s) :
    match rotateKeyKms cfg env req sc s.reload with
    | .ok k s' => InvKms cfg env s' ∧ DAC cfg s'.log ∧ DACK cfg s'.log ∧ primaryOf cfg s' = k ∧ k = nextName env s ∧
        lookup s'.keys (primaryOf cfg s) = none ∧ lookup s'.kdead (primaryOf cfg s) = some .scheduled ∧
        ¬ ClaimedKms cfg env req s
    | .err s' => (InvKms cfg env s' ∧ DAC cfg s'.log ∧ DACK cfg s'.log) ∧
        (¬ NoFault sc ∨ cfg.overwrite = false ∨ ClaimedKms cfg env req s ∨ env.benign = false)
    | .crash s' => (InvKms cfg env s' ∧ DAC cfg s'.log ∧ DACK cfg s'.log) ∧ ¬ NoFault sc := by
  obtain ⟨hinv, hhyg⟩ := hi
  obtain ⟨m0, r, c0, path0, h0⟩ := hinv.gcs (cfg := cfg.kmsView) hca
  have hKn : lookup s.keys (nextName env s) = none := hhyg.next_not_live
  -- the run is that of the configuration whose `bump` is the constant next name
  have h0K : InvG (cfg.withNew (nextName env s)) m0 r c0 path0 s :=
    h0.rebump rfl fun _ => ne_of_lookup h0.kroot hKn
  unfold FreshKms Fresh at hf
  rw [show (cfg.withNew (nextName env s)).ca = CAKind.gcsca from hca] at hf
  obtain ⟨ht1, ht2⟩ := hf m0 h0.man
  have hclaim : ClaimedKms cfg env req s ↔ _ := Claimed_iff (cfg := cfg.withNew (nextName env s)) (req := req) hca h0.man
  have hp0 : primaryOf cfg s = m0.signing := primaryOf_gcs hca h0.man
  have main := (rotateKeyKms_gcs (cfg := cfg.withNew (nextName env s)) (r := r) (c0 := c0) (path0 := path0) (sc := sc)
      hca env req s.kcount rfl ht1 ht2).and
    (rotateKeyKms_hyg _ env req)
  rw [rotateKeyKms_withNew] at main
  refine Triple.run (main.conseq (fun _ h => h)
      (fun k s' ⟨⟨hk, hcf, mat, ⟨hinv', hdac, hdack⟩, hgone, hsched⟩, hyg⟩ =>
        ⟨⟨Inv_of_withNew (hinv'.inv hca), hyg⟩, hdac, hdack, ?_, hk, by rw [hp0]; exact hgone, by rw [hp0]; exact hsched, ?_⟩)
      (fun s' ⟨h, hyg⟩ => ⟨⟨⟨Inv_of_withNew h.1.1, hyg⟩, h.1.2⟩, h.2.imp_right fun h =>
        (Bool.and_eq_false_iff.mp h).elim (fun h => (and_false_cases' h).imp_right fun h => Or.inl (hclaim.mpr h))
          fun h => Or.inr (Or.inr h)⟩)
      (fun s' ⟨h, hyg⟩ => ⟨⟨⟨Inv_of_withNew h.1.1, hyg⟩, h.1.2⟩, h.2⟩))
    ⟨⟨⟨h0K.transfer rfl rfl, Or.inl rfl, fun e he => (by cases he), fun _ _ e => (by cases e)⟩, rfl, hKn⟩, hhyg⟩
  · rw [primaryOf_gcs hca hinv'.man, hk]; exact rotatedManifest_signing req
  · rw [hclaim, hcf]; simp

/-! ### the state reported by CreateCryptoKeyVersion's response plays no role

gcpkms.Manager.CreateNewSigningKeyVersion passes only `key.GetName()` on to waitForKeyVersionGen. -/

theorem kmsWait_resp (env : KmsEnv) (o : Option KObs) (k : String) (fuel : Nat) :
    kmsWait { env with resp := o } k fuel = kmsWait env k fuel := by
  induction fuel with
  | zero => rfl
  | succ n ih =>
    unfold kmsWait
    rw [ih]
    rfl

theorem bind_pure_bind {α β γ : Type} (m : Run α) (g : α → β) (f : β → Run γ) :
    ((m >>= fun a => (pure (g a) : Run β)) >>= f) = (m >>= fun a => f (g a)) := by
  funext sc s
  show (match (match m sc s with
      | .ok a s' => Res.ok (g a) s'
      | .err s' => .err s'
      | .crash s' => .crash s') with
    | .ok b s' => f b sc s'
    | .err s' => .err s'
    | .crash s' => .crash s') = (match m sc s with
    | .ok a s' => f (g a) sc s'
    | .err s' => .err s'
    | .crash s' => .crash s')
  cases m sc s <;> rfl

theorem kmCreateK_resp (env : KmsEnv) (o : Option KObs) : kmCreateK { env with resp := o } = kmCreateK env := by
  unfold kmCreateK kmsCreate
  rw [bind_pure_bind, bind_pure_bind]
  simp only [kmsWait_resp]
  rfl

theorem rotateKeyKms_resp (cfg : Cfg) (env : KmsEnv) (o : Option KObs) (req : Req) :
    rotateKeyKms cfg { env with resp := o } req = rotateKeyKms cfg env req := by
  unfold rotateKeyKms
  rw [kmCreateK_resp]
  rfl

theorem kmCreateKTrust_pending (env : KmsEnv) (h : env.respObs = .pending) : kmCreateKTrust env = kmCreateK env := by
  unfold kmCreateKTrust kmCreateK kmsCreate
  refine congrArg (wrap .kmCreate) ?_
  rw [bind_pure_bind, bind_pure_bind]
  simp only [h, if_true]

end GceTcb.CA
