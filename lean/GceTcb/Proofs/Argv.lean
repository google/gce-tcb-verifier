import GceTcb.Model.Argv
/-
Lemmas about Model/Argv.lean: the canonical rendering of a command line (`render`) and how `parseArgs` reads it back
step by step; a word that is no flag; cobra's scans `stripFlags` / `argsMinusFirstX` on a rendered command line and the
descent of `innerFind` along a command path; `lastOcc` of an append.  The last two lemmas are not about the model: they
read the first column of a table of string literals as characters, for the comparisons with the regenerated flag rows
in Props/CliArgv.lean.
-/
namespace GceTcb.Argv

/-- `--name=value` -/
def renderOcc (o : Occ) : Tok := '-' :: '-' :: (o.1 ++ '=' :: o.2)

/-- command words, every occurrence as `--name=value` in order, `--`, the positionals -/
def render (path : List Tok) (occs : List Occ) (pos : List Tok) : List Tok :=
  path ++ (occs.map renderOcc ++ ['-', '-'] :: pos)

/-- The side condition on an occurrence, decidable: the name is that of a flag of the set, is not empty, does not
    begin with `-` or `=` and has no `=` inside.  NOTHING is asked of the value text. -/
def renderable (fs : List FlagSpec) (o : Occ) : Bool :=
  (match lookupLong fs o.1 with
   | some f => f.name == o.1
   | none => false) &&
  (match o.1 with
   | [] => false
   | c :: _ => c != '-' && c != '=') &&
  !o.1.contains '='

theorem splitEq_prefix (n r : Tok) (h : n.contains '=' = false) :
    splitEq (n ++ r) = (n ++ (splitEq r).1, (splitEq r).2) := by
  induction n with
  | nil => rfl
  | cons c cs ih =>
    simp only [List.contains_cons, Bool.or_eq_false_iff] at h
    have hc : c ≠ '=' := by
      intro e; subst e; simp at h
    simp [splitEq, hc, ih h.2]

theorem splitEq_append (n v : Tok) (h : n.contains '=' = false) : splitEq (n ++ '=' :: v) = (n, some v) := by
  simp [splitEq_prefix n _ h, splitEq]

theorem splitEq_noEq (n : Tok) (h : n.contains '=' = false) : splitEq n = (n, none) := by
  simpa [splitEq] using splitEq_prefix n [] h

theorem lookupLong_name {fs : List FlagSpec} {n : Tok} {f : FlagSpec} (h : lookupLong fs n = some f) : f.name = n := by
  unfold lookupLong at h
  have := List.find?_some h
  simpa using this

/-- pflag: a bare `--name` sets the NoOptDefVal of a flag that has one and takes no word; any other takes exactly the
    next word, whatever it looks like. -/
theorem classify_long (fs : List FlagSpec) (n : Tok) (f : FlagSpec) (next : Option Tok)
    (hl : lookupLong fs n = some f) (hne : n ≠ [])
    (hh : ∀ c cs, n = c :: cs → c ≠ '-' ∧ c ≠ '=') (heq : n.contains '=' = false) :
    (∀ v, classify fs ('-' :: '-' :: (n ++ '=' :: v)) next = .flags [(n, v)] false) ∧
    classify fs ('-' :: '-' :: n) next =
      if f.noOpt ≠ [] then .flags [(n, f.noOpt)] false
      else match next with
        | some v => .flags [(n, v)] true
        | none => .err [] .needsArg := by
  have hn := lookupLong_name hl
  cases n with
  | nil => exact absurd rfl hne
  | cons c cs =>
    have hc := hh c cs rfl
    constructor
    · intro v
      have hs : splitEq (c :: (cs ++ '=' :: v)) = (c :: cs, some v) := splitEq_append (c :: cs) v heq
      simp [classify, parseLong, hc.1, hc.2, hs, hl, hn]
    · have hs := splitEq_noEq (c :: cs) heq
      by_cases hv : f.noOpt = [] <;> cases next <;> simp [classify, parseLong, hc.1, hc.2, hs, hl, hn, hv]

theorem classify_renderOcc (fs : List FlagSpec) (o : Occ) (next : Option Tok) (h : renderable fs o = true) :
    classify fs (renderOcc o) next = .flags [o] false := by
  obtain ⟨n, v⟩ := o
  simp only [renderable, Bool.and_eq_true, Bool.not_eq_true'] at h
  obtain ⟨⟨h1, h2⟩, h3⟩ := h
  cases hl : lookupLong fs n with
  | none => simp [hl] at h1
  | some f =>
    refine (classify_long fs n f next hl ?_ ?_ h3).1 v
    · rintro rfl; simp at h2
    · rintro c cs rfl; simpa using h2

theorem parseArgs_renderOcc (fs : List FlagSpec) (inter : Bool) (o : Occ) (rest : List Tok)
    (h : renderable fs o = true) :
    parseArgs fs inter (renderOcc o :: rest) = (parseArgs fs inter rest).addOccs [o] := by
  rw [parseArgs, classify_renderOcc fs o _ h]

theorem classify_dashdash (fs : List FlagSpec) (next : Option Tok) : classify fs ['-', '-'] next = .dashdash := by
  simp [classify]

theorem parseArgs_dashdash (fs : List FlagSpec) (inter : Bool) (rest : List Tok) :
    parseArgs fs inter (['-', '-'] :: rest) = { pos := rest } := by
  rw [parseArgs, classify_dashdash]

theorem parseArgs_render (fs : List FlagSpec) (inter : Bool) (occs : List Occ) (pos : List Tok)
    (h : ∀ o ∈ occs, renderable fs o = true) :
    parseArgs fs inter (occs.map renderOcc ++ ['-', '-'] :: pos) = { occs := occs, pos := pos, err := none } := by
  induction occs with
  | nil => simp [parseArgs_dashdash]
  | cons o os ih =>
    rw [List.forall_mem_cons] at h
    simp [parseArgs_renderOcc fs inter o _ h.1, ih h.2, Parse.addOccs]

theorem Step.cons_err {o : Occ} {s : Step} {os : List Occ} {e : Err} (h : s.cons o = .err os e) :
    ∃ os', s = .err os' e := by
  cases s <;> simp [Step.cons] at h
  exact ⟨_, congrArg _ h.2⟩

/-- pflag's own test: the empty word, a word that does not begin with `-`, and the lone `-`. -/
def plainWord : Tok → Bool
  | [] => true
  | ['-'] => true
  | '-' :: _ => false
  | _ => true

theorem classify_plain (fs : List FlagSpec) (s : Tok) (next : Option Tok) (h : plainWord s = true) :
    classify fs s next = .pos := by
  unfold classify
  split <;> simp_all [plainWord]

theorem parseArgs_plain (fs : List FlagSpec) (s : Tok) (rest : List Tok) (h : plainWord s = true) :
    parseArgs fs true (s :: rest) = (parseArgs fs true rest).addPos s := by
  rw [parseArgs, classify_plain fs s _ h]; simp

/-- A rendered occurrence has an `=`, so no next word is guessed to be its value. -/
theorem stripFlags_renderOcc (fs : List FlagSpec) (o : Occ) (rest : List Tok) :
    stripFlags fs (renderOcc o :: rest) = stripFlags fs rest := by
  rw [stripFlags.eq_def]; simp [renderOcc, takesNext, hasEq, hasDash]

theorem stripFlags_tail (fs : List FlagSpec) (occs : List Occ) (pos : List Tok) :
    stripFlags fs (occs.map renderOcc ++ ['-', '-'] :: pos) = [] := by
  induction occs with
  | nil => rw [List.map_nil, List.nil_append, stripFlags.eq_def]; simp
  | cons o os ih => simpa [stripFlags_renderOcc] using ih

def cmdWord (w : Tok) : Bool := w != [] && !hasDash w

theorem cmdWord_facts {w : Tok} (h : cmdWord w = true) :
    w ≠ [] ∧ hasDash w = false ∧ w ≠ ['-', '-'] ∧ ∀ fs, takesNext fs w = false := by
  cases w with
  | nil => simp [cmdWord] at h
  | cons c cs =>
    have hc : c ≠ '-' := by rintro rfl; simp [cmdWord, hasDash] at h
    simp [hasDash, hasDashDash, takesNext, hc]

theorem stripFlags_cmdWord (fs : List FlagSpec) {w : Tok} (rest : List Tok) (h : cmdWord w = true) :
    stripFlags fs (w :: rest) = w :: stripFlags fs rest := by
  have ⟨h1, h2, h3, h4⟩ := cmdWord_facts h
  rw [stripFlags.eq_def]
  simp [h1, h2, h3, h4]

theorem argsMinusFirstX_cmdWord (fs : List FlagSpec) {w : Tok} (rest : List Tok) (h : cmdWord w = true) :
    argsMinusFirstX fs w (w :: rest) = rest := by
  have ⟨_, h2, h3, h4⟩ := cmdWord_facts h
  rw [argsMinusFirstX.eq_def]
  simp [h2, h3, h4]

/-- The words `ws` name a chain of sub-commands below `p` (decidable; checked on the concrete trees). -/
def chain (T : Tree) : List Tok → List Tok → Bool
  | _, [] => true
  | p, w :: ws =>
    cmdWord w &&
    (match findNext T p w with
     | some c => c.path == p ++ [w] && chain T (p ++ [w]) ws
     | none => false)

/-- With the fuel `find` gives it, `innerFind` follows a chain of command words to its end. -/
theorem innerFind_chain (T : Tree) (ws : List Tok) :
    ∀ (p R : List Tok) (vis : List (List Tok)), chain T p ws = true → (∀ fs, stripFlags fs R = []) →
      (innerFind T ((ws ++ R).length + 1) p (ws ++ R) vis).1 = p ++ ws ∧
      (innerFind T ((ws ++ R).length + 1) p (ws ++ R) vis).2.1 = R := by
  induction ws with
  | nil => intro p R vis _ hR; simp [innerFind, hR]
  | cons w ws ih =>
    intro p R vis hc hR
    simp only [chain, Bool.and_eq_true] at hc
    obtain ⟨hw, hc2⟩ := hc
    cases hfn : findNext T p w with
    | none => simp [hfn] at hc2
    | some c =>
      simp only [hfn, Bool.and_eq_true, beq_iff_eq] at hc2
      have := ih (p ++ [w]) R (p :: vis) hc2.2 hR
      rw [List.cons_append, List.length_cons, innerFind]
      simp only [stripFlags_cmdWord _ _ hw, hfn, argsMinusFirstX_cmdWord _ _ hw, hc2.1]
      simpa using this

theorem lastOcc_append (n : Tok) (a b : List Occ) :
    lastOcc n (a ++ b) = match lastOcc n b with | some x => some x | none => lastOcc n a := by
  induction a with
  | nil => simp [lastOcc]; cases lastOcc n b <;> rfl
  | cons o os ih =>
    obtain ⟨m, v⟩ := o
    simp only [List.cons_append, lastOcc, ih]
    cases lastOcc n b <;> rfl

/-- One step of reading the first column of a table of string literals as characters: a literal unifies with
    `String.ofList` of its characters. -/
theorem map_fst_toList_cons {β : Type} (a : Tok) (x : β) (rest : List (String × β)) (t : List Tok)
    (h : rest.map (·.1.toList) = t) : ((String.ofList a, x) :: rest).map (·.1.toList) = a :: t := by
  simp [h]

/-- Counting the rows whose first column starts with `p` is counting on the characters (`String.startsWith` costs
    the kernel a pattern search on bytes per row). -/
theorem count_startsWith {β : Type} (l : List (String × β)) (p : String) :
    (l.filter fun r => r.1.startsWith p).length = ((l.map (·.1.toList)).filter p.toList.isPrefixOf).length := by
  rw [List.filter_map, List.length_map]
  congr 2
  funext r
  exact Bool.eq_iff_iff.mpr (by simp)

end GceTcb.Argv
