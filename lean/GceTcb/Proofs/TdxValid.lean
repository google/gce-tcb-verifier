import GceTcb.Model.Mrtd
/-
C05 / C08 — what `validateTDXMetadataSections` / `extractTDXMetadata` accept, stated declaratively
(`MetaValid`) and proved in BOTH directions: the section loop with its four accumulators
(found-TD-HOB, found-BFV, 32-bit firmware-volume size, 64-bit total memory) succeeds exactly on the
metadata that satisfies the list-level conditions; and it never panics.  Core-only.
-/
namespace GceTcb.TdxMeta
open GceTcb GceTcb.Codec GceTcb.Codecs GceTcb.GuidTable GceTcb.Intervals

/-- What validateTDXMetadataSections establishes for every section (with the repair). -/
def SecOK (fwLen : Nat) (s : TdxSection) : Prop :=
  s.memorySize ≤ maxInitialMemory ∧ s.memoryBase + s.memorySize ≤ 2 ^ 52 ∧ s.sectionType ≤ 3 ∧
  ((s.sectionType = 0 ∨ s.sectionType = 1) →
    s.memorySize = s.dataSize ∧ s.dataOffset + s.dataSize ≤ fwLen ∧ s.dataSize ≠ 0)

instance (n : Nat) (s : TdxSection) : Decidable (SecOK n s) := by unfold SecOK; exact inferInstance

theorem Outcome.isPanic_ok {α : Type} (a : α) : (Outcome.ok a).isPanic = false := rfl
theorem Outcome.isPanic_err {α : Type} (c : String) : (Outcome.err c : Outcome α).isPanic = false := rfl

/-- every leaf of the step (and of the closure `cfvCheck`) is a value or an error -/
theorem validateStep_no_panic (fwLen : Nat) (s : TdxSection) (st : VState) : ¬ (validateStep fwLen s st).isPanic := by
  simp only [validateStep, cfvCheck, apply_ite Outcome.isPanic, Outcome.isPanic_ok, Outcome.isPanic_err, ite_self,
    Bool.false_eq_true, not_false_eq_true]

theorem validateLoop_no_panic (fwLen : Nat) : ∀ (ss : List TdxSection) (st : VState), ¬ (validateLoop fwLen ss st).isPanic := by
  intro ss
  induction ss with
  | nil => intro st; simp [validateLoop, Outcome.isPanic]
  | cons s ss ih =>
    intro st
    unfold validateLoop
    have := validateStep_no_panic fwLen s st
    cases hs : validateStep fwLen s st with
    | ok st1 => exact ih st1
    | err c => simp [Outcome.isPanic]
    | panic p => rw [hs] at this; simp [Outcome.isPanic] at this

theorem validate_no_panic (fwLen : Nat) (md : TdxMetadata) : ¬ (validateTDXMetadataSections fwLen md).isPanic := by
  unfold validateTDXMetadataSections
  cases h : validateLoop fwLen md.sections {} with
  | panic p => have := validateLoop_no_panic fwLen md.sections {}; rw [h] at this; exact absurd rfl this
  | err c =>
    simp only [apply_ite Outcome.isPanic, Outcome.isPanic_err, ite_self, Bool.false_eq_true, not_false_eq_true]
  | ok st =>
    simp only [apply_ite Outcome.isPanic, Outcome.isPanic_ok, Outcome.isPanic_err, ite_self, Bool.false_eq_true,
      not_false_eq_true]

/-- go: ovmf.extractTDXMetadata up to and including abi.TDXMetadataFromBytes — where the image says its
    TDVF metadata is, decoded, NOT yet validated.  `extract_iff` : extractTDXMetadata = this, then
    validateTDXMetadataSections. -/
def readTDXMetadata (fw : Bytes) : Outcome TdxMetadata :=
  match getFwGUIDToBlockMap fw with
  | .ok m =>
    match m.lookup tdxOffsetUuid with
    | none => .err "noblock"
    | some block =>
      match locateMetadata fw block with
      | .ok desc =>
        match tdxMetadataFromBytes desc with
        | .ok md => .ok md
        | .err _ => .err "short"
        | .panic p => .panic p
      | .err c => .err c
      | .panic p => .panic p
  | .err _ => .err "guidtable"
  | .panic p => .panic p

/-- extractTDXMetadata is readTDXMetadata followed by validateTDXMetadataSections -/
theorem extract_eq (fw : Bytes) :
    extractTDXMetadata fw =
      match readTDXMetadata fw with
      | .ok md =>
        match validateTDXMetadataSections (fw.length % 2 ^ 32) md with
        | .ok _ => .ok md
        | .err c => .err c
        | .panic p => .panic p
      | .err c => .err c
      | .panic p => .panic p := by
  unfold extractTDXMetadata readTDXMetadata decodeAndValidate
  cases getFwGUIDToBlockMap fw with
  | ok m =>
    simp only []
    cases m.lookup tdxOffsetUuid with
    | some block =>
      simp only []
      cases locateMetadata fw block with
      | ok desc => simp only []; cases tdxMetadataFromBytes desc <;> rfl
      | _ => rfl
    | none => rfl
  | _ => rfl

theorem extract_iff (fw : Bytes) (md : TdxMetadata) :
    extractTDXMetadata fw = .ok md ↔
      readTDXMetadata fw = .ok md ∧ validateTDXMetadataSections (fw.length % 2 ^ 32) md = .ok () := by
  rw [extract_eq]
  cases readTDXMetadata fw with
  | ok md' =>
    simp only []
    refine ⟨fun h => ?_, fun ⟨h1, h2⟩ => by cases h1; rw [h2]⟩
    split at h
    · cases h; exact ⟨rfl, by assumption⟩
    · cases h
    · cases h
  | _ => exact ⟨(fun h => nomatch h), fun h => nomatch h.1⟩

/-! ### the section loop of validateTDXMetadataSections, both directions -/

def isFv (s : TdxSection) : Bool := decide (s.sectionType = 0 ∨ s.sectionType = 1)
def isHob (s : TdxSection) : Bool := decide (s.sectionType = 2)
def isBfv (s : TdxSection) : Bool := decide (s.sectionType = 0)

/-- the raw-data sizes of the firmware-volume sections, added up (no wrap) -/
def fvSum (ss : List TdxSection) : Nat := ((ss.filter isFv).map (·.dataSize)).sum
/-- the declared memory of all sections, added up (no wrap) -/
def memSum (ss : List TdxSection) : Nat := (ss.map (·.memorySize)).sum
/-- number of TD_HOB sections -/
def hobCount (ss : List TdxSection) : Nat := ss.countP isHob

/-- the accumulators after one accepted section -/
def stepState (s : TdxSection) (st : VState) : VState :=
  { foundHob := st.foundHob || isHob s, foundBfv := st.foundBfv || isBfv s,
    fvSize := if isFv s then (st.fvSize + s.dataSize) % 2 ^ 32 else st.fvSize,
    total := st.total + s.memorySize }

theorem cfvCheck_iff (fwLen : Nat) (s : TdxSection) (st st' : VState) :
    cfvCheck fwLen s st = .ok st' ↔
      (s.memorySize = s.dataSize ∧ s.dataOffset + s.dataSize ≤ fwLen ∧ s.dataSize ≠ 0) ∧
      st' = { st with fvSize := (st.fvSize + s.dataSize) % 2 ^ 32 } := by
  unfold cfvCheck
  by_cases h1 : s.dataOffset > fwLen ∨ s.dataSize = 0 ∨ fwLen - s.dataOffset < s.dataSize
  · rw [if_pos h1]
    constructor
    · intro h; cases h
    · rintro ⟨⟨_, _, _⟩, _⟩; omega
  · rw [if_neg h1]
    by_cases h2 : s.memorySize ≠ s.dataSize
    · rw [if_pos h2]
      constructor
      · intro h; cases h
      · rintro ⟨⟨a, _, _⟩, _⟩; exact absurd a h2
    · rw [if_neg h2]
      constructor
      · intro h; injection h with h
        exact ⟨⟨by omega, by omega, by omega⟩, h.symm⟩
      · rintro ⟨_, h⟩; rw [h]

theorem validateStep_iff (fwLen : Nat) (s : TdxSection) (st st' : VState) :
    validateStep fwLen s st = .ok st' ↔
      SecOK fwLen s ∧ st.total + s.memorySize ≤ maxInitialMemory ∧
      (s.sectionType = 2 → st.foundHob = false) ∧ st' = stepState s st := by
  have hphys : (2 : Nat) ^ maxPhysBits = 2 ^ 52 := rfl
  have hmax : maxInitialMemory ≤ 2 ^ 52 := by decide
  unfold validateStep
  by_cases h1 : s.memorySize > maxInitialMemory ∨ st.total > maxInitialMemory - s.memorySize ∨
      s.memoryBase > 2 ^ maxPhysBits - s.memorySize
  · rw [if_pos h1]
    constructor
    · intro h; cases h
    · rintro ⟨⟨a, b, _, _⟩, c, _, _⟩; rw [hphys] at h1; omega
  · rw [if_neg h1]
    rw [hphys] at h1
    simp only []
    by_cases t0 : s.sectionType = 0
    · rw [if_pos t0, cfvCheck_iff]
      constructor
      · rintro ⟨f, h⟩
        refine ⟨⟨by omega, by omega, by omega, fun _ => f⟩, by omega, by omega, ?_⟩
        rw [h]; simp [stepState, isHob, isBfv, isFv, t0]
      · rintro ⟨⟨_, _, _, f⟩, _, _, h⟩
        refine ⟨f (Or.inl t0), ?_⟩
        rw [h]; simp [stepState, isHob, isBfv, isFv, t0]
    · rw [if_neg t0]
      by_cases t1 : s.sectionType = 1
      · rw [if_pos t1, cfvCheck_iff]
        constructor
        · rintro ⟨f, h⟩
          refine ⟨⟨by omega, by omega, by omega, fun _ => f⟩, by omega, by omega, ?_⟩
          rw [h]; simp [stepState, isHob, isBfv, isFv, t1]
        · rintro ⟨⟨_, _, _, f⟩, _, _, h⟩
          refine ⟨f (Or.inr t1), ?_⟩
          rw [h]; simp [stepState, isHob, isBfv, isFv, t1]
      · rw [if_neg t1]
        by_cases t2 : s.sectionType = 2
        · rw [if_pos t2]
          by_cases hh : st.foundHob = true
          · rw [if_pos hh]
            constructor
            · intro h; cases h
            · rintro ⟨_, _, c, _⟩; rw [c t2] at hh; cases hh
          · rw [if_neg hh]
            have hf : st.foundHob = false := by cases h : st.foundHob <;> simp_all
            constructor
            · intro h; injection h with h
              refine ⟨⟨by omega, by omega, by omega, fun hc => by omega⟩, by omega, fun _ => hf, ?_⟩
              rw [← h]; simp [stepState, isHob, isBfv, isFv, t2, hf]
            · rintro ⟨_, _, _, h⟩
              rw [h]; simp [stepState, isHob, isBfv, isFv, t2, hf]
        · rw [if_neg t2]
          by_cases t3 : s.sectionType = 3
          · rw [if_pos t3]
            constructor
            · intro h; injection h with h
              refine ⟨⟨by omega, by omega, by omega, fun hc => by omega⟩, by omega, fun hc => by omega, ?_⟩
              rw [← h]; simp [stepState, isHob, isBfv, isFv, t3]
            · rintro ⟨_, _, _, h⟩
              rw [h]; simp [stepState, isHob, isBfv, isFv, t3]
          · rw [if_neg t3]
            constructor
            · intro h; cases h
            · rintro ⟨⟨_, _, c, _⟩, _⟩; omega

/-- the accumulators after a run of accepted sections -/
def runState (ss : List TdxSection) (st : VState) : VState := ss.foldl (fun a s => stepState s a) st

theorem hobCount_cons (s : TdxSection) (ss : List TdxSection) :
    hobCount (s :: ss) = hobCount ss + (if isHob s then 1 else 0) := by
  unfold hobCount; rw [List.countP_cons]

theorem validateLoop_iff (fwLen : Nat) : ∀ (ss : List TdxSection) (st st' : VState),
    st.total ≤ maxInitialMemory →
    (validateLoop fwLen ss st = .ok st' ↔
      (∀ s ∈ ss, SecOK fwLen s) ∧ st.total + memSum ss ≤ maxInitialMemory ∧
      (st.foundHob = true → hobCount ss = 0) ∧ hobCount ss ≤ 1 ∧ st' = runState ss st) := by
  intro ss
  induction ss with
  | nil =>
    intro st st' hst
    simp only [validateLoop, runState, List.foldl_nil, memSum, hobCount, List.map_nil, List.sum_nil,
      List.countP_nil, List.not_mem_nil, false_imp_iff, implies_true, true_and, Nat.add_zero, Nat.zero_le]
    constructor
    · intro h; injection h with h
      exact ⟨hst, h.symm⟩
    · rintro ⟨_, h⟩; rw [h]
  | cons s ss ih =>
    intro st st' hst
    unfold validateLoop
    have hms : memSum (s :: ss) = s.memorySize + memSum ss := by simp [memSum]
    have hrs : runState (s :: ss) st = runState ss (stepState s st) := rfl
    cases hs : validateStep fwLen s st with
    | err c =>
      simp only []
      constructor
      · intro h; cases h
      · rintro ⟨a, b, c1, d, _⟩
        have : validateStep fwLen s st = .ok (stepState s st) := by
          rw [validateStep_iff]
          refine ⟨a s (List.mem_cons_self ..), by omega, ?_, rfl⟩
          intro t2
          cases hf : st.foundHob with
          | false => rfl
          | true =>
            have := c1 hf
            rw [hobCount_cons] at this
            have : isHob s = true := by simp [isHob, t2]
            simp_all
        rw [hs] at this; cases this
    | panic p =>
      exact absurd hs (by have := validateStep_no_panic fwLen s st; intro h; rw [h] at this; simp [Outcome.isPanic] at this)
    | ok st1 =>
      simp only []
      obtain ⟨a1, a2, a3, a4⟩ := (validateStep_iff fwLen s st st1).mp hs
      rw [ih st1 st' (by rw [a4]; exact a2), hms, hrs, hobCount_cons, a4]
      have htot : (stepState s st).total = st.total + s.memorySize := rfl
      have hfh : (stepState s st).foundHob = (st.foundHob || isHob s) := rfl
      rw [htot, hfh]
      have hiff : isHob s = true ↔ s.sectionType = 2 := by simp [isHob]
      constructor
      · rintro ⟨b1, b2, b3, b4, b5⟩
        refine ⟨?_, by omega, ?_, ?_, b5⟩
        · intro x hx
          rcases List.mem_cons.mp hx with rfl | hx
          · exact a1
          · exact b1 x hx
        · intro hf
          have h2 : ¬ s.sectionType = 2 := fun t2 => by rw [a3 t2] at hf; cases hf
          have : isHob s = false := by cases h : isHob s <;> simp_all
          have := b3 (by rw [hf]; rfl)
          simp_all
        · cases h : isHob s with
          | false => simp; exact b4
          | true =>
            have := b3 (by rw [h]; simp)
            simp; omega
      · rintro ⟨b1, b2, b3, b4, b5⟩
        refine ⟨fun x hx => b1 x (List.mem_cons_of_mem _ hx), by omega, ?_, ?_, b5⟩
        · intro hf
          cases h : isHob s with
          | false =>
            rw [h] at hf
            have := b3 (by simpa using hf)
            simp [h] at this; exact this
          | true => rw [h] at b4; simp at b4; omega
        · cases h : isHob s <;> simp [h] at b4 <;> omega

theorem runState_cons (s : TdxSection) (ss : List TdxSection) (st : VState) :
    runState (s :: ss) st = runState ss (stepState s st) := rfl

theorem runState_foundHob : ∀ (ss : List TdxSection) (st : VState),
    (runState ss st).foundHob = (st.foundHob || decide (0 < hobCount ss)) := by
  intro ss
  induction ss with
  | nil => intro st; simp [runState, hobCount]
  | cons s ss ih =>
    intro st
    rw [runState_cons, ih, hobCount_cons]
    have : (stepState s st).foundHob = (st.foundHob || isHob s) := rfl
    rw [this]
    cases st.foundHob <;> cases isHob s <;> simp

theorem runState_foundBfv : ∀ (ss : List TdxSection) (st : VState),
    (runState ss st).foundBfv = (st.foundBfv || ss.any isBfv) := by
  intro ss
  induction ss with
  | nil => intro st; simp [runState]
  | cons s ss ih =>
    intro st
    rw [runState_cons, ih, List.any_cons]
    have : (stepState s st).foundBfv = (st.foundBfv || isBfv s) := rfl
    rw [this, Bool.or_assoc]

theorem fvSum_cons (s : TdxSection) (ss : List TdxSection) :
    fvSum (s :: ss) = (if isFv s then s.dataSize else 0) + fvSum ss := by
  unfold fvSum
  rw [List.filter_cons]
  cases isFv s <;> simp

theorem runState_fvSize : ∀ (ss : List TdxSection) (st : VState), st.fvSize < 2 ^ 32 →
    (runState ss st).fvSize = (st.fvSize + fvSum ss) % 2 ^ 32 := by
  intro ss
  induction ss with
  | nil => intro st h; simp only [runState, List.foldl_nil, fvSum, List.filter_nil, List.map_nil, List.sum_nil]; omega
  | cons s ss ih =>
    intro st h
    rw [runState_cons, fvSum_cons]
    have hf : (stepState s st).fvSize = if isFv s then (st.fvSize + s.dataSize) % 2 ^ 32 else st.fvSize := rfl
    have hlt : (stepState s st).fvSize < 2 ^ 32 := by rw [hf]; split <;> omega
    rw [ih _ hlt, hf]
    cases isFv s
    · simp
    · simp only [if_true]; omega

/-- **Declarative validity of TDVF metadata** for an image whose length is `fwLen` as a uint32 — what
    validateTDXMetadataSections (with the repair) demands, as conditions on the descriptor and the
    section LIST: magic, version, the length field, every section in range (`SecOK`: memory size at most
    4 GiB, range inside the 52-bit space, a known type; firmware volumes: non-empty raw data inside the
    image, memory size = raw size), at most 4 GiB declared in total, exactly one TD_HOB section, a boot
    firmware volume, and the firmware volumes' raw sizes adding up (as uint32) to the image length. -/
structure MetaValid (fwLen : Nat) (md : TdxMetadata) : Prop where
  signature : md.header.signature = tdvfMagic
  version : md.header.version = 1
  length : md.header.length = (16 + 32 * md.header.sectionCount) % 2 ^ 32
  secs : ∀ s ∈ md.sections, SecOK fwLen s
  total : memSum md.sections ≤ maxInitialMemory
  oneHob : hobCount md.sections = 1
  hasBfv : ∃ s ∈ md.sections, s.sectionType = 0
  fvSize : fvSum md.sections % 2 ^ 32 = fwLen

theorem any_isBfv (ss : List TdxSection) : ss.any isBfv = true ↔ ∃ s ∈ ss, s.sectionType = 0 := by
  simp [List.any_eq_true, isBfv]

/-- validateTDXMetadataSections accepts exactly the declaratively valid metadata. -/
theorem validate_iff (fwLen : Nat) (md : TdxMetadata) :
    validateTDXMetadataSections fwLen md = .ok () ↔ MetaValid fwLen md := by
  unfold validateTDXMetadataSections
  by_cases c1 : md.header.signature ≠ tdvfMagic
  · rw [if_pos c1]; exact ⟨(fun h => by cases h), fun h => absurd h.signature c1⟩
  rw [if_neg c1]
  by_cases c2 : md.header.version ≠ 1
  · rw [if_pos c2]; exact ⟨(fun h => by cases h), fun h => absurd h.version c2⟩
  rw [if_neg c2]
  by_cases c3 : md.header.length ≠ (16 + 32 * md.header.sectionCount) % 2 ^ 32
  · rw [if_pos c3]; exact ⟨(fun h => by cases h), fun h => absurd h.length c3⟩
  rw [if_neg c3]
  have h0 : ({} : VState).total ≤ maxInitialMemory := Nat.zero_le _
  have hloop := fun st' => validateLoop_iff fwLen md.sections {} st' h0
  have hz : ({} : VState).total + memSum md.sections = memSum md.sections := Nat.zero_add _
  have hfH : (runState md.sections {}).foundHob = decide (0 < hobCount md.sections) := by
    rw [runState_foundHob]; rfl
  have hfB : (runState md.sections {}).foundBfv = md.sections.any isBfv := by
    rw [runState_foundBfv]; rfl
  have hfS : (runState md.sections {}).fvSize = fvSum md.sections % 2 ^ 32 := by
    rw [runState_fvSize _ _ (by decide)]
    have : ({} : VState).fvSize = 0 := rfl
    rw [this, Nat.zero_add]
  -- a valid list passes the loop
  have hpass : MetaValid fwLen md → validateLoop fwLen md.sections {} = .ok (runState md.sections {}) := by
    intro hv
    rw [hloop]
    exact ⟨hv.secs, by rw [hz]; exact hv.total, (fun h => by cases h), by rw [hv.oneHob]; exact Nat.le_refl _, rfl⟩
  cases hl : validateLoop fwLen md.sections {} with
  | err c => exact ⟨(fun h => by cases h), fun hv => by rw [hpass hv] at hl; cases hl⟩
  | panic p => exact ⟨(fun h => by cases h), fun hv => by rw [hpass hv] at hl; cases hl⟩
  | ok st =>
    obtain ⟨l1, l2, _, l4, l5⟩ := (hloop st).mp hl
    rw [hz] at l2
    subst l5
    simp only []
    by_cases d1 : ¬ (runState md.sections {}).foundHob = true
    · rw [if_pos d1]
      refine ⟨(fun h => by cases h), fun hv => ?_⟩
      rw [hfH, hv.oneHob] at d1; simp at d1
    rw [if_neg d1]
    by_cases d2 : ¬ (runState md.sections {}).foundBfv = true
    · rw [if_pos d2]
      refine ⟨(fun h => by cases h), fun hv => ?_⟩
      rw [hfB] at d2; exact absurd ((any_isBfv _).mpr hv.hasBfv) d2
    rw [if_neg d2]
    by_cases d3 : (runState md.sections {}).fvSize ≠ fwLen
    · rw [if_pos d3]
      refine ⟨(fun h => by cases h), fun hv => ?_⟩
      rw [hfS] at d3; exact absurd hv.fvSize d3
    rw [if_neg d3]
    refine ⟨fun _ => ?_, fun _ => rfl⟩
    rw [hfH] at d1; rw [hfB] at d2; rw [hfS] at d3
    have hpos : 0 < hobCount md.sections := by simp at d1; omega
    exact ⟨by simpa using c1, by simpa using c2, by simpa using c3, l1, l2, by omega,
      (any_isBfv _).mp (by simpa using d2), by simpa using d3⟩

/-- extractTDXMetadata returns `md` exactly when the image carries `md` at the advertised place and
    `md` is declaratively valid. -/
theorem extract_iff_valid (fw : Bytes) (md : TdxMetadata) :
    extractTDXMetadata fw = .ok md ↔ readTDXMetadata fw = .ok md ∧ MetaValid (fw.length % 2 ^ 32) md := by
  rw [extract_iff, validate_iff]

end GceTcb.TdxMeta
