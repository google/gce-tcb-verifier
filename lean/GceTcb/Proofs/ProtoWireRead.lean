import GceTcb.Model.ProtoWire
/-
Reading arbitrary bytes with the wire codec of `Model/ProtoWire.lean`. Every reader (`decodeVarint`, `decodeLen`,
`readField`, …) consumes a non-empty prefix of its input and looks at nothing else (`Reader`). Progress follows: the
fuel `number of bytes` of the two loops (`parseFields`, `skipGroups`) is never exhausted, `none` always means
"malformed input". So does locality: the loop over `a ++ b`, `a` a sequence of fields, yields the fields of `a` then
those of `b` (`parseFields_append`), and unmarshalling a concatenation is unmarshalling `b` INTO the message
unmarshalled from `a` (`decodeInto_append`), protobuf's merge semantics. Core-only.
-/
namespace GceTcb.ProtoWire
open GceTcb

def Reader {α : Type} (rd : Bytes → Option (α × Bytes)) : Prop :=
  ∀ a x r, rd a = some (x, r) → ∃ pre, pre ≠ [] ∧ a = pre ++ r ∧ ∀ b, rd (pre ++ b) = some (x, b)

theorem Reader.lt {α : Type} {rd : Bytes → Option (α × Bytes)} (hrd : Reader rd) {a r : Bytes} {x : α}
    (h : rd a = some (x, r)) : r.length < a.length := by
  obtain ⟨pre, hne, rfl, _⟩ := hrd a x r h
  have := List.length_pos_iff.mpr hne
  rw [List.length_append]; omega

theorem Reader.append {α : Type} {rd : Bytes → Option (α × Bytes)} (hrd : Reader rd) {a r : Bytes} {x : α}
    (h : rd a = some (x, r)) (b : Bytes) : rd (a ++ b) = some (x, r ++ b) := by
  obtain ⟨pre, _, rfl, hp⟩ := hrd a x r h
  rw [List.append_assoc, hp]

theorem decodeVarintF_cons (f : Nat) (x : UInt8) (xs : Bytes) (v : Nat) (r : Bytes) :
    decodeVarintF (f + 1) (x :: xs) = some (v, r) ↔
      if x.toNat < 128 then ¬ (f = 0 ∧ 2 ≤ x.toNat) ∧ x.toNat = v ∧ xs = r
      else f ≠ 0 ∧ ∃ v', x.toNat - 128 + 128 * v' = v ∧ decodeVarintF f xs = some (v', r) := by
  rw [decodeVarintF]
  split
  · split <;> simp [*]
  · split
    · simp [*]
    · rcases decodeVarintF f xs with _ | ⟨v', r'⟩
      · simp [*]
      · simp [*, and_left_comm]

theorem decodeVarintF_reader (f : Nat) : Reader (decodeVarintF f) := by
  induction f with
  | zero => intro a v r h; cases h
  | succ f ih =>
    intro a v r h
    cases a with
    | nil => cases h
    | cons x xs =>
      rw [decodeVarintF_cons] at h
      split at h
      · next hx =>
        obtain ⟨h2, rfl, rfl⟩ := h
        exact ⟨[x], by simp, rfl,
          fun b => (decodeVarintF_cons ..).mpr (by rw [if_pos hx]; exact ⟨h2, rfl, rfl⟩)⟩
      · next hx =>
        obtain ⟨h0, v', rfl, hd⟩ := h
        obtain ⟨pre, _, rfl, hp⟩ := ih xs v' r hd
        exact ⟨x :: pre, by simp, rfl,
          fun b => (decodeVarintF_cons ..).mpr (by rw [if_neg hx]; exact ⟨h0, v', rfl, hp b⟩)⟩

theorem decodeVarint_reader : Reader decodeVarint := decodeVarintF_reader 10

theorem decodeVarint_lt (b : Bytes) (v : Nat) (r : Bytes) (h : decodeVarint b = some (v, r)) :
    r.length < b.length := decodeVarint_reader.lt h

/-- at most `f + 1` bytes of seven bits each, and byte `f + 1` must be 0 or 1 -/
theorem decodeVarintF_bound (f : Nat) : ∀ (b : Bytes) (v : Nat) (r : Bytes),
    decodeVarintF (f + 1) b = some (v, r) → v < 2 * 128 ^ f := by
  induction f with
  | zero =>
    intro b v r h
    cases b with
    | nil => cases h
    | cons x xs =>
      rw [decodeVarintF_cons] at h
      split at h
      · omega
      · exact absurd rfl h.1
  | succ f ih =>
    intro b v r h
    cases b with
    | nil => cases h
    | cons x xs =>
      rw [decodeVarintF_cons] at h
      have hp : 0 < 128 ^ f := Nat.pow_pos (by decide)
      rw [Nat.pow_succ]
      split at h
      · omega
      · obtain ⟨_, v', rfl, hd⟩ := h
        have := ih xs v' r hd
        have := x.toNat_lt
        omega

theorem decodeVarint_bound (b : Bytes) (v : Nat) (r : Bytes) (h : decodeVarint b = some (v, r)) :
    v < 2 ^ 64 := by
  have := decodeVarintF_bound 9 b v r h
  have e : 2 * 128 ^ 9 = 2 ^ 64 := by decide
  omega

theorem decodeLen_reader : Reader decodeLen := by
  intro a p r h
  unfold decodeLen at h
  split at h
  · cases h
  · next m r1 hd =>
    obtain ⟨pre, hne, rfl, hp⟩ := decodeVarint_reader _ _ _ hd
    split at h
    · cases h
    · cases h
      have hl : (r1.take m).length = m := by rw [List.length_take]; omega
      refine ⟨pre ++ r1.take m, by simp [hne], by simp, fun b => ?_⟩
      unfold decodeLen
      rw [List.append_assoc, hp]
      simp [hl, List.take_left', List.drop_left']

theorem decodeLen_lt (b p r : Bytes) (h : decodeLen b = some (p, r)) : r.length < b.length :=
  decodeLen_reader.lt h

theorem consumed_append (a r : Bytes) : consumed (a ++ r) r = a := by
  simp [consumed]

/-- `Reader` spelled out: `consumeTag` returns a triple, not a pair with the rest -/
theorem consumeTag_reader {a r : Bytes} {n t : Nat} (h : consumeTag a = some (n, t, r)) :
    ∃ pre, pre ≠ [] ∧ a = pre ++ r ∧ ∀ b, consumeTag (pre ++ b) = some (n, t, b) := by
  unfold consumeTag at h
  split at h
  · cases h
  · next v r1 hd =>
    obtain ⟨pre, hne, rfl, hp⟩ := decodeVarint_reader _ _ _ hd
    split at h
    · cases h
    · next hc =>
      cases h
      exact ⟨pre, hne, rfl, fun b => by unfold consumeTag; rw [hp]; simp only [hc, if_false]⟩

/-- a fixed-width value (wire types 1 and 5) -/
theorem fixed_prefix {k : Nat} {b1 : Bytes} (h : ¬ b1.length < k) (b : Bytes) :
    ¬ (b1.take k ++ b).length < k ∧ (b1.take k ++ b).take k = b1.take k ∧ (b1.take k ++ b).drop k = b := by
  have hl : (b1.take k).length = k := by rw [List.length_take]; omega
  exact ⟨by rw [List.length_append]; omega, List.take_left' hl, List.drop_left' hl⟩

theorem skipGroups_nil (n : Nat) (b : Bytes) : skipGroups n [] b = some b := by cases n <;> rfl

theorem skipGroups_consumes (n : Nat) : ∀ (st : List Nat) (a r : Bytes), skipGroups n st a = some r →
    ∃ pre, a = pre ++ r ∧ ∀ m b, pre.length ≤ m → skipGroups m st (pre ++ b) = some b := by
  induction n with
  | zero =>
    intro st a r h
    cases st with
    | nil => cases h; exact ⟨[], rfl, fun m b _ => skipGroups_nil m b⟩
    | cons g gs => cases h
  | succ n ih =>
    intro st a r h
    cases st with
    | nil => rw [skipGroups_nil] at h; cases h; exact ⟨[], rfl, fun m b _ => skipGroups_nil m b⟩
    | cons g gs =>
      rw [skipGroups] at h
      split at h
      · cases h
      · next num2 typ2 b1 hc =>
        obtain ⟨p0, hne, rfl, h0⟩ := consumeTag_reader hc
        -- every exit of the iteration: it consumed `p0 ++ p1` and goes on with stack `st'` on `a'`
        suffices ∃ p1 st' a', b1 = p1 ++ a' ∧ skipGroups n st' a' = some r ∧
            ∀ m b, skipGroups (m + 1) (g :: gs) (p0 ++ (p1 ++ b)) = skipGroups m st' b by
          obtain ⟨p1, st', a', rfl, hrec, hstep⟩ := this
          obtain ⟨p2, rfl, h2⟩ := ih _ _ _ hrec
          refine ⟨p0 ++ (p1 ++ p2), by simp, fun m b hm => ?_⟩
          have := List.length_pos_iff.mpr hne
          simp only [List.length_append] at hm
          obtain ⟨m, rfl⟩ : ∃ k, m = k + 1 := ⟨m - 1, by omega⟩
          rw [List.append_assoc, List.append_assoc, hstep]
          exact h2 m b (by omega)
        split at h
        · split at h
          · cases h
          · next hd =>
            obtain ⟨p1, _, rfl, h1⟩ := decodeVarint_reader _ _ _ hd
            exact ⟨p1, _, _, rfl, h, fun m b => by rw [skipGroups, h0]; simp only [h1]⟩
        · split at h
          · cases h
          · next hl =>
            exact ⟨b1.take 8, _, _, (List.take_append_drop 8 b1).symm, h, fun m b => by
              rw [skipGroups, h0]; simp only [fixed_prefix hl b, if_false]⟩
        · split at h
          · cases h
          · next hd =>
            obtain ⟨p1, _, rfl, h1⟩ := decodeLen_reader _ _ _ hd
            exact ⟨p1, _, _, rfl, h, fun m b => by rw [skipGroups, h0]; simp only [h1]⟩
        · split at h
          · cases h
          · next hg => exact ⟨[], _, _, rfl, h, fun m b => by rw [skipGroups, h0]; simp only [hg, if_false]; rfl⟩
        · split at h
          · next hg => exact ⟨[], _, _, rfl, h, fun m b => by rw [skipGroups, h0]; simp only [hg, if_true]; rfl⟩
          · cases h
        · split at h
          · cases h
          · next hl =>
            exact ⟨b1.take 4, _, _, (List.take_append_drop 4 b1).symm, h, fun m b => by
              rw [skipGroups, h0]; simp only [fixed_prefix hl b, if_false]⟩
        · cases h

theorem skipGroups_le (n : Nat) (st : List Nat) (b r : Bytes) (h : skipGroups n st b = some r) :
    r.length ≤ b.length := by
  obtain ⟨pre, rfl, _⟩ := skipGroups_consumes n st b r h
  simp

theorem skipGroups_fuel (n m : Nat) (st : List Nat) (b : Bytes) (hn : b.length ≤ n) (hm : b.length ≤ m) :
    skipGroups n st b = skipGroups m st b := by
  have raise : ∀ n m r, b.length ≤ m → skipGroups n st b = some r → skipGroups m st b = some r := by
    intro n m r hm h
    obtain ⟨pre, rfl, hp⟩ := skipGroups_consumes n st b r h
    exact hp m r (by rw [List.length_append] at hm; omega)
  cases h1 : skipGroups n st b with
  | some r => exact (raise n m r hm h1).symm
  | none =>
    cases h2 : skipGroups m st b with
    | none => rfl
    | some r => rw [raise m n r hn h2] at h1; cases h1

theorem readField_reader : Reader readField := by
  intro a f r h
  unfold readField at h
  split at h
  · cases h
  · next tag b1 hd =>
    obtain ⟨p0, hne, rfl, h0⟩ := decodeVarint_reader _ _ _ hd
    split at h
    · cases h
    · next hn =>
      -- in every exit: the bytes `p1` of the value, and the same exit on `p0 ++ p1 ++ b`
      suffices ∃ p1, b1 = p1 ++ r ∧ ∀ b, readField (p0 ++ (p1 ++ b)) = some (f, b) by
        obtain ⟨p1, rfl, hp⟩ := this
        exact ⟨p0 ++ p1, by simp [hne], by simp, fun b => by rw [List.append_assoc, hp]⟩
      generalize ht : tag % 8 = wt at h
      split at h
      · split at h
        · cases h
        · next hv =>
          cases h
          obtain ⟨p1, _, rfl, h1⟩ := decodeVarint_reader _ _ _ hv
          exact ⟨p1, rfl, fun b => by unfold readField; rw [h0]; simp only [hn, if_false, ht, h1, consumed_append]⟩
      · split at h
        · cases h
        · next hl =>
          cases h
          exact ⟨b1.take 8, (List.take_append_drop 8 b1).symm, fun b => by
            unfold readField; rw [h0]; simp only [hn, if_false, ht, fixed_prefix hl b]⟩
      · split at h
        · cases h
        · next hv =>
          cases h
          obtain ⟨p1, _, rfl, h1⟩ := decodeLen_reader _ _ _ hv
          exact ⟨p1, rfl, fun b => by unfold readField; rw [h0]; simp only [hn, if_false, ht, h1, consumed_append]⟩
      · split at h
        · cases h
        · next hv =>
          cases h
          obtain ⟨p1, rfl, h1⟩ := skipGroups_consumes _ _ _ _ hv
          exact ⟨p1, rfl, fun b => by
            unfold readField; rw [h0]
            simp only [hn, if_false, ht, h1 (p1 ++ b).length b (by simp), consumed_append]⟩
      · split at h
        · cases h
        · next hl =>
          cases h
          exact ⟨b1.take 4, (List.take_append_drop 4 b1).symm, fun b => by
            unfold readField; rw [h0]; simp only [hn, if_false, ht, fixed_prefix hl b]⟩
      · cases h

theorem readField_lt (b : Bytes) (f : Field) (r : Bytes) (h : readField b = some (f, r)) :
    r.length < b.length := readField_reader.lt h

theorem readField_append (a : Bytes) (f : Field) (r b : Bytes) (h : readField a = some (f, r)) :
    readField (a ++ b) = some (f, r ++ b) := readField_reader.append h b

theorem parseFieldsF_nil (n : Nat) : parseFieldsF n [] = some [] := by
  cases n <;> rfl

theorem parseFieldsF_fuel (n : Nat) : ∀ (m : Nat) (b : Bytes), b.length ≤ n → b.length ≤ m →
    parseFieldsF n b = parseFieldsF m b := by
  induction n with
  | zero =>
    intro m b hn _
    obtain rfl : b = [] := List.eq_nil_of_length_eq_zero (by omega)
    rw [parseFieldsF_nil, parseFieldsF_nil]
  | succ n ih =>
    intro m b hn hm
    cases b with
    | nil => rw [parseFieldsF_nil, parseFieldsF_nil]
    | cons x xs =>
      rw [List.length_cons] at hn hm
      obtain ⟨m, rfl⟩ : ∃ k, m = k + 1 := ⟨m - 1, by omega⟩
      rw [parseFieldsF, parseFieldsF]
      cases hr : readField (x :: xs) with
      | none => rfl
      | some q =>
        have := readField_lt _ _ _ hr
        rw [List.length_cons] at this
        dsimp only
        rw [ih m q.2 (by omega) (by omega)]

theorem parseFields_nil : parseFields [] = some [] := rfl

theorem parseFields_cons (b : Bytes) (hne : b ≠ []) :
    parseFields b = (readField b).bind fun q => (parseFields q.2).map (q.1 :: ·) := by
  cases b with
  | nil => exact absurd rfl hne
  | cons x xs =>
    unfold parseFields
    rw [List.length_cons, parseFieldsF]
    cases hr : readField (x :: xs) with
    | none => rfl
    | some q =>
      have := readField_lt _ _ _ hr
      rw [List.length_cons] at this
      dsimp only [Option.bind_some]
      rw [parseFieldsF_fuel xs.length q.2.length q.2 (by omega) (Nat.le_refl _)]
      cases parseFieldsF q.2.length q.2 <;> rfl

theorem parseFields_step {b rest : Bytes} {f : Field} (h : readField b = some (f, rest)) :
    parseFields b = (parseFields rest).map (f :: ·) := by
  rw [parseFields_cons b (fun hb => by subst hb; cases h), h]
  rfl

theorem parseFields_some {a : Bytes} {fa : List Field} (h : parseFields a = some fa) :
    (a = [] ∧ fa = []) ∨ ∃ f rest fs, readField a = some (f, rest) ∧ parseFields rest = some fs ∧ fa = f :: fs := by
  cases a with
  | nil => cases h; exact Or.inl ⟨rfl, rfl⟩
  | cons x xs =>
    rw [parseFields_cons _ (List.cons_ne_nil x xs), Option.bind_eq_some_iff] at h
    obtain ⟨⟨f, rest⟩, hr, hm⟩ := h
    obtain ⟨fs, hp, rfl⟩ := Option.map_eq_some_iff.mp hm
    exact Or.inr ⟨f, rest, fs, hr, hp, rfl⟩

theorem parseFields_length (fs : List Field) : ∀ (b : Bytes), parseFields b = some fs → fs.length ≤ b.length := by
  induction fs with
  | nil => intro b _; exact Nat.zero_le _
  | cons f fs ih =>
    intro b h
    obtain ⟨_, h0⟩ | ⟨f', rest, fs', hr, hp, h0⟩ := parseFields_some h
    · cases h0
    · cases h0
      have := readField_lt _ _ _ hr
      have := ih rest hp
      rw [List.length_cons]; omega

theorem parseFields_append (a : Bytes) (fa : List Field) (b : Bytes) (h : parseFields a = some fa) :
    parseFields (a ++ b) = (parseFields b).map (fa ++ ·) := by
  induction fa generalizing a with
  | nil =>
    obtain ⟨rfl, _⟩ | ⟨_, _, _, _, _, h0⟩ := parseFields_some h
    · rw [List.nil_append]; cases parseFields b <;> rfl
    · cases h0
  | cons f fs ih =>
    obtain ⟨_, h0⟩ | ⟨f', rest, fs', hr, hp, h0⟩ := parseFields_some h
    · cases h0
    · cases h0
      rw [parseFields_step (readField_append _ _ _ b hr), ih rest hp]
      cases parseFields b <;> rfl

theorem parseFields_append_none (a b : Bytes) (fa : List Field) (ha : parseFields a = some fa)
    (hb : parseFields b = none) : parseFields (a ++ b) = none := by
  rw [parseFields_append a fa b ha, hb]; rfl

theorem foldFields_append {M : Type} (step : M → Field → Option M) (s : M) (a b : List Field) :
    foldFields step s (a ++ b) =
      match foldFields step s a with
      | none => none
      | some s' => foldFields step s' b := by
  induction a generalizing s with
  | nil => rfl
  | cons f fs ih =>
    simp only [List.cons_append, foldFields]
    cases step s f with
    | none => rfl
    | some s' => exact ih s'

theorem decodeInto_parses {M : Type} (step : M → Field → Option M) (init m : M) (a : Bytes)
    (h : decodeInto step init a = some m) : ∃ fa, parseFields a = some fa ∧ foldFields step init fa = some m := by
  unfold decodeInto at h
  cases hp : parseFields a with
  | none => rw [hp] at h; cases h
  | some fa => rw [hp] at h; exact ⟨fa, rfl, h⟩

theorem decodeInto_append {M : Type} (step : M → Field → Option M) (init m : M) (a b : Bytes) (fa : List Field)
    (hp : parseFields a = some fa) (ha : decodeInto step init a = some m) :
    decodeInto step init (a ++ b) = decodeInto step m b := by
  unfold decodeInto at ha ⊢
  rw [hp] at ha
  dsimp only at ha
  rw [parseFields_append a fa b hp]
  cases parseFields b with
  | none => rfl
  | some fb => exact (foldFields_append step init fa fb).trans (by rw [ha])

end GceTcb.ProtoWire
