import GceTcb.Model.Verify
/-
For C01 (core-only): `Authentic`, and for each entry point of Model/Verify.lean the lemma that acceptance implies it.
-/
namespace GceTcb.Verify
open GceTcb

variable {Cert Roots Time : Type}

/-- The endorsement `e` is authentic for trust roots `roots` at time `now`: its payload unmarshals to a
    golden measurement whose certificate is non-empty, parses, chains to `roots` at `now`, and whose key
    made an RSA-PSS/SHA-256 signature `e.signature` over exactly the payload bytes `e.payload`. -/
def Authentic (P : Prims Cert Roots Time) (e : Endorsement) (roots : Roots) (now : Time) : Prop :=
  ∃ g c, P.unmarshalGolden e.payload = some g ∧ g.cert ≠ [] ∧ P.parseCert g.cert = some c ∧
    P.verifyChain c roots now = true ∧ P.checkSigPss256 c e.payload e.signature = true

theorem checkCertificate_ok (P : Prims Cert Roots Time) (d : Bytes) (roots : Option Roots) (now : Time)
    (c : Cert) (h : checkCertificate P d roots now = .ok c) :
    d ≠ [] ∧ ∃ r, roots = some r ∧ P.parseCert d = some c ∧ P.verifyChain c r now = true := by
  unfold checkCertificate at h
  split at h
  · cases h
  · rename_i hne
    refine ⟨by intro hd; simp [hd] at hne, ?_⟩
    split at h
    · cases h
    · rename_i r
      split at h
      · cases h
      · rename_i c' hp
        split at h
        · rename_i hv
          cases h
          exact ⟨r, rfl, hp, hv⟩
        · cases h

theorem beforeSignature_ok (P : Prims Cert Roots Time) (ts : Option Timestamp) (cl : Nat) (cm d : Bytes)
    (o : Options Roots Time) (c : Cert) (h : beforeSignature P ts cl cm d o = .ok c) :
    checkCertificate P d o.roots o.now = .ok c := by
  unfold beforeSignature at h
  split at h
  · cases h
  · cases h
  · split at h
    · cases h
    · split at h
      · cases h
      · rename_i c' hc
        cases h
        exact hc

theorem verifySigned_ok (P : Prims Cert Roots Time) (e : Endorsement) (o : Options Roots Time) (g : Golden)
    (h : verifySigned P e o = .ok g) :
    P.unmarshalGolden e.payload = some g ∧ ∃ r c, o.roots = some r ∧ g.cert ≠ [] ∧
      P.parseCert g.cert = some c ∧ P.verifyChain c r o.now = true ∧
      P.checkSigPss256 c e.payload e.signature = true := by
  unfold verifySigned at h
  split at h
  · cases h
  · rename_i g' hg
    split at h
    · cases h
    · cases h
    · rename_i cert hb
      split at h
      · cases h
      · rename_i hs
        cases h
        obtain ⟨hne, r, hr, hp, hv⟩ := checkCertificate_ok P _ _ _ _ (beforeSignature_ok P _ _ _ _ _ _ hb)
        exact ⟨hg, r, cert, hr, hne, hp, hv, by simpa using hs⟩

theorem endorsementProto_ok (P : Prims Cert Roots Time) (e : Endorsement) (o : Options Roots Time)
    (h : endorsementProto P e o = accept) : ∃ g, verifySigned P e o = .ok g ∧ afterSignature g o = accept := by
  unfold endorsementProto at h
  split at h
  · cases h
  · cases h
  · next g hg => exact ⟨g, hg, h⟩

theorem endorsementProto_accept (P : Prims Cert Roots Time) (e : Endorsement) (o : Options Roots Time)
    (h : endorsementProto P e o = accept) : ∃ r, o.roots = some r ∧ Authentic P e r o.now := by
  obtain ⟨g, hg, _⟩ := endorsementProto_ok P e o h
  obtain ⟨hu, r, c, hr, hne, hp, hv, hs⟩ := verifySigned_ok P e o g hg
  exact ⟨r, hr, g, c, hu, hne, hp, hv, hs⟩

theorem endorsement_accept (P : Prims Cert Roots Time) (ser : Bytes) (o : Options Roots Time)
    (h : endorsement P ser o = accept) :
    ∃ e r, P.unmarshalEndorsement ser = some e ∧ o.roots = some r ∧ Authentic P e r o.now := by
  unfold endorsement at h
  split at h
  · cases h
  · rename_i e he
    obtain ⟨r, hr, ha⟩ := endorsementProto_accept P e o h
    exact ⟨e, r, he, hr, ha⟩

@[simp] theorem closureCallOpts_roots (o : Options Roots Time) (m : Bytes) :
    (closureCallOpts o m).roots = o.roots := rfl
@[simp] theorem closureCallOpts_now (o : Options Roots Time) (m : Bytes) :
    (closureCallOpts o m).now = o.now := rfl
@[simp] theorem closureCallOpts_endorsement (o : Options Roots Time) (m : Bytes) :
    (closureCallOpts o m).endorsement = o.endorsement := rfl

/-- The endorsement the closure selects: the pre-supplied one, else the serialized argument, else the fetched blob. -/
theorem snpClosure_accept (P : Prims Cert Roots Time) (fam : String) (o : Options Roots Time)
    (att : Option Attestation) (ser : Option Bytes) (h : snpClosure P fam o att ser = accept) :
    ∃ a e, att = some a ∧ endorsementProto P e (closureCallOpts o a.measurement) = accept ∧
      ((o.endorsement = some e) ∨
       (o.endorsement = none ∧ ∃ s, closureSerialized P fam o a.measurement ser = .ok s ∧
          P.unmarshalEndorsement (s.getD []) = some e)) := by
  unfold snpClosure at h
  split at h
  · cases h
  · next a =>
    split at h
    · cases h
    · split at h
      · cases h
      · next s hs =>
        simp only [closureCallOpts_endorsement] at h
        split at h
        · next e he => exact ⟨a, e, rfl, h, Or.inl he⟩
        · next he =>
          unfold endorsement at h
          split at h
          · cases h
          · next e hu => exact ⟨a, e, rfl, h, Or.inr ⟨he, s, hs, hu⟩⟩

theorem certTableOptions_require_single (att : Option Attestation) (guid : String)
    (v : Option Attestation → Option Bytes → Res)
    (h : certTableOptions att [(guid, ⟨.require, v⟩)] = accept) :
    v att (lookupStr ((att.map (·.extras)).getD []) guid) = accept := by
  simp only [certTableOptions] at h
  split at h
  · rename_i u hu
    cases u
    exact hu
  · cases h
  · cases h

theorem sevValidate_accept (P : Prims Cert Roots Time) (att : Option Attestation)
    (o : SevValidateOptions Roots Time) (h : sevValidate P att o = accept) :
    ∃ e r, sevEndorsement P att o = .ok e ∧ o.roots = some r ∧ Authentic P e r o.now := by
  unfold sevValidate at h
  split at h
  · cases h
  · rename_i e he
    split at h
    · cases h
    · split at h
      · cases h
      · have hc := certTableOptions_require_single _ _ _ h
        obtain ⟨a, e', _, hacc, hsel⟩ := snpClosure_accept P _ _ _ _ hc
        obtain ⟨r, hr, ha⟩ := endorsementProto_accept P e' _ hacc
        -- `sevClosureOpts` pre-supplies `e`, so that is the endorsement the closure selected
        rcases hsel with hsel | ⟨hn, _⟩
        · cases hsel
          exact ⟨e, r, he, hr, ha⟩
        · cases hn

theorem tdxValidate_accept (P : Prims Cert Roots Time) (parse : Bytes → Option TeeAttestation)
    (bytes : Bytes) (o : TdxValidateOptions Roots Time) (h : tdxValidate P parse bytes o = accept) :
    ∃ e r, tdxEndorsement P bytes o = .ok e ∧ o.roots = some r ∧ Authentic P e r o.now := by
  unfold tdxValidate at h
  split at h
  · cases h
  · split at h
    · cases h
    · rename_i e he
      split at h
      · cases h
      · cases h
      · rename_i u hu
        cases u
        obtain ⟨r, hr, ha⟩ := endorsementProto_accept P e _ hu
        exact ⟨e, r, he, hr, ha⟩
  · cases h

theorem cliVerify_accept (P : Prims Cert Roots Time) (b : Backend Time) (path root : String)
    (h : cliVerify P b path root = accept) :
    ∃ e r, readEndorsement P b path = .ok e ∧ rootOfTrust P b root = .ok r ∧ Authentic P e r b.now := by
  unfold cliVerify at h
  split at h
  · cases h
  · rename_i e he
    split at h
    · cases h
    · rename_i rot hrot
      obtain ⟨r, hr, ha⟩ := endorsementProto_accept P e _ h
      cases hr
      exact ⟨e, rot, he, hrot, ha⟩

theorem cliSevValidate_accept (P : Prims Cert Roots Time) (parse : Bytes → Option TeeAttestation) (b : Backend Time)
    (a : CliValidateArgs) (h : cliSevValidate P parse b a = accept) :
    ∃ content oe rot sa, b.readFile a.attestationPath = some content ∧
      cliEndorsement P b a.endorsementPath = .ok oe ∧ rootOfTrust P b a.root = .ok rot ∧
      parse content = some (.sevSnp sa) ∧
      sevValidate P (some sa)
        { endorsement := oe, basePolicy := a.basePolicy, overwrite := a.overwrite, roots := some rot,
          now := b.now, getter := b.getter, expectedLaunchVmsas := 0,
          testonlyForceGCS := a.testonlyForceGCS } = accept := by
  unfold cliSevValidate at h
  split at h
  · cases h
  · rename_i content hcontent
    split at h
    · cases h
    · rename_i oe hoe
      split at h
      · cases h
      · rename_i rot hrot
        split at h
        · cases h
        · rename_i sa hsa
          exact ⟨content, oe, rot, sa, hcontent, hoe, hrot, hsa, h⟩
        · cases h

theorem cliTdxValidate_accept (P : Prims Cert Roots Time) (parse : Bytes → Option TeeAttestation) (b : Backend Time)
    (a : CliValidateArgs) (h : cliTdxValidate P parse b a = accept) :
    ∃ content oe rot, b.readFile a.attestationPath = some content ∧
      cliEndorsement P b a.endorsementPath = .ok oe ∧ rootOfTrust P b a.root = .ok rot ∧
      tdxValidate P parse content
        { endorsement := oe, basePolicy := a.basePolicy, overwrite := a.overwrite, roots := some rot,
          now := b.now, expectedRAMGiB := 0 } = accept := by
  unfold cliTdxValidate at h
  split at h
  · cases h
  · rename_i content hcontent
    split at h
    · cases h
    · rename_i oe hoe
      split at h
      · cases h
      · rename_i rot hrot
        exact ⟨content, oe, rot, hcontent, hoe, hrot, h⟩

/-! ### A concrete world for the non-vacuity examples and witnesses of the Props module -/

namespace Example
def goodGolden : Golden :=
  { timestamp := some ⟨1725148800, 0⟩, clSpec := 1234, commit := [], cert := [0xC0], digest := [0xD1],
    sevSnp := some ⟨[], [(1, List.replicate 48 7)]⟩, tdx := some ⟨[(0, List.replicate 48 9)]⟩, other := [] }

/-- certificates and times are numbers, root sets are names; certificate 1 chains to "caller-roots" at times 100 to 200 -/
def P : Prims Nat String Nat :=
  { unmarshalEndorsement := fun b => if b == [0xE0] then some ⟨[0xA0], [0x5A]⟩ else none
    unmarshalGolden := fun b => if b == [0xA0] then some goodGolden else none
    timeFromNil := none
    parseCert := fun b => if b == [0xC0] then some 1 else none
    verifyChain := fun c r t => c == 1 && r == "caller-roots" && decide (100 ≤ t ∧ t ≤ 200)
    checkSigPss256 := fun c m s => c == 1 && m == [0xA0] && s == [0x5A]
    objectURL := fun f _ => f
    loadRootPool := fun b => if b == [0x52] then some "caller-roots" else none
    sevPolicyOptions := fun _ _ _ _ => some 1
    snpBaseChecks := fun _ _ => true
    tdxPolicyOptions := fun _ _ _ _ => some 1
    tdxQuoteChecks := fun _ _ => true
    tdxExtractEndorsement := fun _ => none }

def opts (now : Nat) : Options String Nat :=
  { snp := none, roots := some "caller-roots", expectedUefiSha384 := [], now := now, endorsement := none,
    getter := none }

def att : Attestation := ⟨1, List.replicate 48 7, [(gceFwCertGUID, [0xE0])]⟩
end Example

end GceTcb.Verify
