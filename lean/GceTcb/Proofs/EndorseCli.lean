import GceTcb.Model.EndorseCli
import GceTcb.Proofs.VirtualFirmware
/-
Helper lemmas about the model of the `endorse` command line (Model/EndorseCli.lean): flag parsing, PersistentPreRunE
and InitContext refuse with an error value — never a panic — or accept, under the conditions `Accepted` and with the
explicit endorse.Context `ecFinal` (`ecOf_cases`); the conditions suffice (`ecOf_accepted`); a refused command line has
no effect, an accepted one is the pipeline on its request (`cliRun_cases`).
-/
namespace GceTcb.EndorseCli
open GceTcb GceTcb.Endorse GceTcb.VF

def numericOk (fl : CliFlags) : Prop :=
  fl.clspec < 2 ^ 64 ∧ fl.snpLaunchVmsas < 2 ^ 32 ∧ -(2 ^ 63) ≤ fl.commitRetries ∧ fl.commitRetries < 2 ^ 63

variable (P : Params) (U : String → Option Bytes) (E : Env) (fl : CliFlags)

/-- One link of a chain `match o with | .ok a => … | .err e => .err e | .panic s => .panic s` when `o` does not
    panic: only the continuation is left to look at. -/
@[elab_as_elim]
theorem noPanic_step {α : Type} {motive : Outcome α → Prop} {o : Outcome α} (ho : ∀ s, o ≠ .panic s)
    (ok : ∀ a, o = .ok a → motive (.ok a)) (err : ∀ e, motive (.err e)) : motive o := by
  cases o with
  | ok a => exact ok a rfl
  | err e => exact err e
  | panic s => exact absurd rfl (ho s)

theorem timeSetAll_no_panic : ∀ (l : List String) (cur : Int × Nat) (s : String), timeSetAll P cur l ≠ .panic s := by
  intro l
  induction l with
  | nil => exact fun _ => nofun
  | cons v vs ih =>
    intro cur
    unfold timeSetAll timeSet
    by_cases h1 : cur = zeroTime
    · simp only [h1, if_true]
      by_cases h2 : v = ""
      · simp only [h2, if_true]
        exact ih zeroTime
      · simp only [h2, if_false]
        cases P.parseTime v with
        | none => exact nofun
        | some t => exact ih t
    · simp only [h1, if_false]
      exact nofun

theorem productSetAll_no_panic : ∀ (l : List String) (cur : Nat) (s : String), productSetAll P cur l ≠ .panic s := by
  intro l
  induction l with
  | nil => exact fun _ => nofun
  | cons v vs ih =>
    intro cur
    unfold productSetAll productSet
    by_cases h2 : v = ""
    · simp only [h2, if_true]
      exact ih cur
    · simp only [h2, if_false]
      cases P.parseProduct v with
      | none => exact nofun
      | some t => exact ih t

theorem productSetAll_ok_mem : ∀ (l : List String) (cur p : Nat), productSetAll P cur l = .ok p →
    ∀ x ∈ l, x ≠ "" → P.parseProduct x ≠ none := by
  intro l
  induction l with
  | nil => intro _ _ _ x hx; cases hx
  | cons y ys ih =>
    intro cur p hp x hx hxne
    unfold productSetAll productSet at hp
    by_cases hy : y = ""
    · simp only [hy, if_true] at hp
      rcases List.mem_cons.mp hx with rfl | hx'
      · exact absurd hy hxne
      · exact ih cur p hp x hx' hxne
    · simp only [hy, if_false] at hp
      cases hpy : P.parseProduct y with
      | none => rw [hpy] at hp; cases hp
      | some q =>
        rw [hpy] at hp
        rcases List.mem_cons.mp hx with rfl | hx'
        · rw [hpy]; simp
        · exact ih q p hp x hx' hxne

theorem idOk_unparsed {U : String → Option Bytes} {id : String} (hne : id ≠ "") (hp : U id = none) :
    idOk U id = false := by
  simp [idOk, hne, hp]

theorem validateSnpFlags_ok_iff (r : SnpRequest) :
    validateSnpFlags U r = .ok () ↔ idOk U r.familyId = true ∧ idOk U r.imageId = true := by
  unfold validateSnpFlags
  cases h1 : idOk U r.familyId <;> cases h2 : idOk U r.imageId <;> simp

theorem scrtmMain_no_panic (path : String) : ∀ s, scrtmMain P E path ≠ .panic s := by
  intro s h
  unfold scrtmMain at h
  split at h
  · cases h
  · split at h <;> cases h

theorem snpCheck_no_panic (a : Bool) (r : SnpRequest) : ∀ s, snpCheck U a r ≠ .panic s := by
  intro s h
  unfold snpCheck validateSnpFlags at h
  split at h
  · split at h
    · cases h
    · split at h <;> cases h
  · cases h

theorem readSvsm_no_panic (p : String) : ∀ s, readSvsm E p ≠ .panic s := by
  intro s h
  unfold readSvsm at h
  split at h
  · cases h
  · split at h <;> cases h

theorem readSvsmMeasurement_no_panic (p : String) : ∀ s, readSvsmMeasurement P E p ≠ .panic s := by
  intro s h
  unfold readSvsmMeasurement at h
  split at h
  · cases h
  · split at h
    · cases h
    · split at h
      · cases h
      · split at h <;> cases h

/-- The endorse.Context an accepted command line hands to the pipeline, from the command line `fl`, the
    three decoded flag values, the side-file result `(ok, v)` and the three file contents. -/
def ecFinal (E : Env) (fl : CliFlags) (commit : Bytes) (ts : Int × Nat) (prod : Nat) (ok : Bool) (v : Nat)
    (img svsm m : Bytes) : EC :=
  { snp := if fl.addSnp then some (snpWithSvn ⟨0, fl.snpFamilyId, fl.snpImageId, fl.snpLaunchVmsas, prod⟩ ok v) else none,
    tdx := if fl.addTdx then some (tdxWithSvn ⟨0, fl.tdxIncludeEarlyAccept, fl.tdxMachineShapes⟩ ok v) else none,
    image := img, clSpec := fl.clspec, commit := commit, candidateName := fl.candidateName,
    releaseBranch := fl.releaseBranch, timestamp := if ts == zeroTime then E.now else ts,
    commitRetries := fl.commitRetries, outDir := fl.outDir, dryRun := fl.dryRun,
    measurementOnly := fl.measurementOnly, snapshotDir := fl.snapshotDir, imageName := pathBase fl.uefi,
    svsmImage := svsm, svsmSnpMeasurement := m }

structure Accepted (P : Params) (U : String → Option Bytes) (E : Env) (fl : CliFlags)
    (commit : Bytes) (ts : Int × Nat) (prod : Nat) (ok : Bool) (v : Nat) (img svsm m : Bytes) : Prop where
  numeric : numericOk fl
  commitHex : hexDecode fl.commit = some commit
  time : timeSetAll P zeroTime fl.timestamp = .ok ts
  product : productSetAll P defaultProduct fl.snpProduct = .ok prod
  globalPre : E.globalPre = true
  uefiGiven : fl.uefi ≠ ""
  uefiSuffix : hasFdSuffix fl.uefi = true
  sideFile : scrtmMain P E fl.uefi = .ok (ok, v)
  ids : snpCheck U fl.addSnp ⟨0, fl.snpFamilyId, fl.snpImageId, fl.snpLaunchVmsas, prod⟩ = .ok ()
  commitLen : commitLenOk commit.length = true
  appPre : E.appPre = true
  globalInit : E.globalInit = true
  image : E.readFile fl.uefi = some img
  svsmImage : readSvsm E fl.svsmPath = .ok svsm
  svsmMeasurement : readSvsmMeasurement P E fl.svsmSnpMeasurementPath = .ok m
  appInit : E.appInit = true

/-- `ecOf` read from top to bottom: every refusal an error value, every check passed a field of `Accepted`. -/
theorem ecOf_cases :
    (∃ e, ecOf P U E fl = .err e) ∨
    ∃ commit ts prod ok v img svsm m, Accepted P U E fl commit ts prod ok v img svsm m ∧
      ecOf P U E fl = .ok (ecFinal E fl commit ts prod ok v img svsm m, fl.overwrite) := by
  unfold ecOf parseFlags
  by_cases h1 : 2 ^ 64 ≤ fl.clspec
  · rw [if_pos h1]; exact Or.inl ⟨_, rfl⟩
  rw [if_neg h1]
  by_cases h2 : 2 ^ 32 ≤ fl.snpLaunchVmsas
  · rw [if_pos h2]; exact Or.inl ⟨_, rfl⟩
  rw [if_neg h2]
  by_cases h3 : fl.commitRetries < -(2 ^ 63) ∨ 2 ^ 63 ≤ fl.commitRetries
  · rw [if_pos h3]; exact Or.inl ⟨_, rfl⟩
  rw [if_neg h3]
  cases hc : hexDecode fl.commit with
  | none => exact Or.inl ⟨_, rfl⟩
  | some commit =>
    dsimp only
    refine noPanic_step (timeSetAll_no_panic P fl.timestamp zeroTime) (fun ts ht => ?_) fun _ => Or.inl ⟨_, rfl⟩
    refine noPanic_step (productSetAll_no_panic P fl.snpProduct defaultProduct) (fun prod hp => ?_) fun _ => Or.inl ⟨_, rfl⟩
    dsimp only [composedPreRun, preRunE]
    cases hg : E.globalPre with
    | false => exact Or.inl ⟨_, rfl⟩
    | true =>
      simp only [Bool.not_true, Bool.false_eq_true, if_false]
      by_cases h4 : (fl.uefi == "") = true
      · rw [if_pos h4]; exact Or.inl ⟨_, rfl⟩
      rw [if_neg h4]
      by_cases h5 : (!hasFdSuffix fl.uefi) = true
      · rw [if_pos h5]; exact Or.inl ⟨_, rfl⟩
      rw [if_neg h5]
      refine noPanic_step (scrtmMain_no_panic P E fl.uefi) (fun ⟨ok, v⟩ hsm => ?_) fun _ => Or.inl ⟨_, rfl⟩
      refine noPanic_step (snpCheck_no_panic U fl.addSnp _) (fun _ hid => ?_) fun _ => Or.inl ⟨_, rfl⟩
      dsimp only
      by_cases h6 : (!commitLenOk commit.length) = true
      · rw [if_pos h6]; exact Or.inl ⟨_, rfl⟩
      rw [if_neg h6]
      cases ha : E.appPre with
      | false => exact Or.inl ⟨_, rfl⟩
      | true =>
        dsimp only [composedInit, initContext]
        cases hgi : E.globalInit with
        | false => exact Or.inl ⟨_, rfl⟩
        | true =>
          simp only [Bool.not_true, Bool.false_eq_true, if_false]
          cases hr : E.readFile fl.uefi with
          | none => exact Or.inl ⟨_, rfl⟩
          | some img =>
            dsimp only
            refine noPanic_step (readSvsm_no_panic E fl.svsmPath) (fun svsm hsv => ?_) fun _ => Or.inl ⟨_, rfl⟩
            refine noPanic_step (readSvsmMeasurement_no_panic P E fl.svsmSnpMeasurementPath) (fun m hm => ?_)
              fun _ => Or.inl ⟨_, rfl⟩
            dsimp only
            cases hai : E.appInit with
            | false => exact Or.inl ⟨_, rfl⟩
            | true =>
              exact Or.inr ⟨commit, ts, prod, ok, v, img, svsm, m,
                ⟨by unfold numericOk; omega, hc, ht, hp, hg, by simpa using h4, by simpa using h5, hsm, hid,
                  by simpa using h6, ha, hgi, hr, hsv, hm, hai⟩, rfl⟩

theorem ecOf_accepted {P : Params} {U : String → Option Bytes} {E : Env} {fl : CliFlags} {commit : Bytes}
    {ts : Int × Nat} {prod : Nat} {ok : Bool} {v : Nat} {img svsm m : Bytes}
    (A : Accepted P U E fl commit ts prod ok v img svsm m) :
    ecOf P U E fl = .ok (ecFinal E fl commit ts prod ok v img svsm m, fl.overwrite) := by
  obtain ⟨h1, h2, h3, h4⟩ := A.numeric
  have h5 : ¬ (fl.commitRetries < -(2 ^ 63) ∨ 2 ^ 63 ≤ fl.commitRetries) := by omega
  have hu : (fl.uefi == "") = false := by simpa using A.uefiGiven
  simp only [ecOf, parseFlags, composedPreRun, preRunE, composedInit, initContext, Nat.not_le.mpr h1, Nat.not_le.mpr h2, h5,
    A.commitHex, A.time, A.product, A.globalPre, hu, A.uefiSuffix, A.sideFile, A.ids, A.commitLen, A.appPre,
    A.globalInit, A.image, A.svsmImage, A.svsmMeasurement, A.appInit, if_false, Bool.not_true, Bool.false_eq_true]
  rfl

theorem ecOf_ok_explicit (ec : EC) (ow : Bool) :
    ecOf P U E fl = .ok (ec, ow) ↔
      ∃ commit ts prod ok v img svsm m, Accepted P U E fl commit ts prod ok v img svsm m ∧
        ec = ecFinal E fl commit ts prod ok v img svsm m ∧ ow = fl.overwrite := by
  constructor
  · intro h
    rcases ecOf_cases P U E fl with ⟨e, he⟩ | ⟨commit, ts, prod, ok, v, img, svsm, m, A, he⟩
    · rw [he] at h; cases h
    · rw [he] at h; cases h
      exact ⟨commit, ts, prod, ok, v, img, svsm, m, A, rfl, rfl⟩
  · rintro ⟨commit, ts, prod, ok, v, img, svsm, m, A, rfl, rfl⟩
    exact ecOf_accepted A

section
variable (commit : Bytes) (ts : Int × Nat) (prod : Nat) (ok : Bool) (v : Nat) (img svsm m : Bytes)

theorem ecFinal_snp :
    (ecFinal E fl commit ts prod ok v img svsm m).snp =
      if fl.addSnp = true then
        some ⟨if ok = true then v else 0, fl.snpFamilyId, fl.snpImageId, fl.snpLaunchVmsas, prod⟩
      else none := by
  cases ok <;> rfl

theorem ecFinal_tdx :
    (ecFinal E fl commit ts prod ok v img svsm m).tdx =
      if fl.addTdx = true then
        some ⟨if ok = true then v else 0, fl.tdxIncludeEarlyAccept, fl.tdxMachineShapes⟩
      else none := by
  cases ok <;> rfl

theorem ecFinal_timestamp :
    (ecFinal E fl commit ts prod ok v img svsm m).timestamp = if ts = zeroTime then E.now else ts := by
  show (if (ts == zeroTime) = true then E.now else ts) = _
  by_cases h : ts = zeroTime
  · simp [h]
  · simp [h]

end

section
variable (P : Params) (Pr : Prims) (T : Tables) (E : Env) (fl : CliFlags) (keys : Option Keys)
  (vcs : Option (List Commit.Attempt)) (vcss : List (List Commit.Attempt))

theorem cliRun_accepted (ec : EC) (ow : Bool) (h : ecOf P Pr.parseUuid E fl = .ok (ec, ow)) :
    cliRun P Pr T E fl keys vcs vcss =
      virtualFirmware false Pr T (ctxOf E ec) keys ec.timestamp
        ⟨ec.measurementOnly, launchVmsasOf ec.snp, ec.commitRetries, cfgOf E ow ec⟩ vcs vcss := by
  unfold cliRun contextOf
  rw [h]
  rfl

theorem cliRun_cases :
    ((ecOf P Pr.parseUuid E fl).isOk = false ∧ (cliRun P Pr T E fl keys vcs vcss).effects = [] ∧
      ∃ e, (cliRun P Pr T E fl keys vcs vcss).result = .err e) ∨
    ∃ commit ts prod ok v img svsm m, Accepted P Pr.parseUuid E fl commit ts prod ok v img svsm m ∧
      ecOf P Pr.parseUuid E fl = .ok (ecFinal E fl commit ts prod ok v img svsm m, fl.overwrite) ∧
      cliRun P Pr T E fl keys vcs vcss =
        virtualFirmware false Pr T (ctxOf E (ecFinal E fl commit ts prod ok v img svsm m)) keys
          (ecFinal E fl commit ts prod ok v img svsm m).timestamp
          ⟨fl.measurementOnly, launchVmsasOf (ecFinal E fl commit ts prod ok v img svsm m).snp, fl.commitRetries,
            cfgOf E fl.overwrite (ecFinal E fl commit ts prod ok v img svsm m)⟩ vcs vcss := by
  rcases ecOf_cases P Pr.parseUuid E fl with ⟨e, he⟩ | ⟨commit, ts, prod, ok, v, img, svsm, m, A, he⟩
  · exact Or.inl ⟨by rw [he]; rfl, by unfold cliRun contextOf; rw [he]; exact ⟨rfl, e, rfl⟩⟩
  · exact Or.inr ⟨commit, ts, prod, ok, v, img, svsm, m, A, he, cliRun_accepted P Pr T E fl keys vcs vcss _ _ he⟩

end

/-! ### definitions used in the statements and examples of Props/C06Cli and Props/C15Cli -/

/-- What the side files say: the version in the first spelling that can be read, 0 when neither can or that file
    is empty (an empty file IS the encoding of version 0). -/
def sideSvn (P : Params) (E : Env) (uefi : String) : Nat :=
  match scrtmMain P E uefi with
  | .ok (true, v) => v
  | _ => 0

theorem scrtmMain_read (uefi : String) (b : Bytes) (hb : readFirst E (scrtmPaths uefi) = b) :
    (b = [] → scrtmMain P E uefi = .ok (false, 0) ∧ sideSvn P E uefi = 0) ∧
    (b ≠ [] →
      (∀ v, P.unmarshalScrtm b = some v → scrtmMain P E uefi = .ok (true, v) ∧ sideSvn P E uefi = v) ∧
      (P.unmarshalScrtm b = none → scrtmMain P E uefi = .err "prerun:scrtm")) := by
  unfold sideSvn scrtmMain
  rw [hb]
  cases b with
  | nil => exact ⟨fun _ => ⟨rfl, rfl⟩, fun h => absurd rfl h⟩
  | cons x xs =>
    refine ⟨nofun, fun _ => ⟨fun v hv => ?_, fun hv => ?_⟩⟩
    · rw [hv]; exact ⟨rfl, rfl⟩
    · rw [hv]; rfl

def sidePath1 (uefi : String) : String := String.ofList (trimSuffix ".fd".toList uefi.toList) ++ "_scrtm_ver.pb"
def sidePath2 (uefi : String) : String := uefi ++ ".scrtm.pb"

/-! #### the command lines of the non-vacuity examples: `exParams`, `exEnv`, `exFlags` for Props/C06Cli, the `…15` ones for
Props/C15Cli and Props/CliArgv -/

def exParams : Params :=
  { parseProduct := fun s => (productTable.find? (fun q => q.1 == s)).map (·.2)
    parseTime := fun s => if s == "T" then some (1700000000, 5) else none
    unmarshalScrtm := unmarshalScrtmWire
    decodeHexText := fun b => some b }

def exEnv : Env :=
  { readFile := fun p =>
      if p == "d.fd.x/fw.fd" then some [0xAA]
      else if p == "d.fd.x/fw_scrtm_ver.pb" then some [8, 5]
      else if p == "d.fd.x/fw.fd.scrtm.pb" then some [8, 9]
      else none
    now := (42, 0), rndImageId := "$", root := "R" }

def exFlags : CliFlags :=
  { addSnp := true, addTdx := true, uefi := "d.fd.x/fw.fd", snpProduct := ["", "Genoa"], snpLaunchVmsas := 2,
    tdxMachineShapes := ["c3-standard-4"], clspec := 77, timestamp := [], outDir := "out", commit := "" }

def errClass (o : Outcome (EC × Bool)) : String :=
  match o with
  | .err e => e
  | .ok _ => "accepted"
  | .panic _ => "panic"

def exParams15 : Params :=
  { parseProduct := fun s => (productTable.find? (fun q => q.1 == s)).map (·.2)
    parseTime := fun _ => none
    unmarshalScrtm := unmarshalScrtmWire
    decodeHexText := fun b => some b }

def exEnv15 : Env :=
  { readFile := fun p => if p == "fw.fd" then some [9] else if p == "fw_scrtm_ver.pb" then some [8, 3] else none
    now := (5, 0), rndImageId := "87654321-dead-beef-c0de-123456789abc", root := "R" }

def exFlags15 (dry mo : Bool) : CliFlags :=
  { addSnp := true, addTdx := true, uefi := "fw.fd", tdxMachineShapes := ["c3-standard-4"], outDir := "out",
    candidateName := "rc0", dryRun := dry, measurementOnly := mo }

end GceTcb.EndorseCli
