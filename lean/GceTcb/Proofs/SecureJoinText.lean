import GceTcb.Proofs.SecureJoin
/-
C16 (confinement clause): the line-by-line transcription of SecureJoinVFS on path texts (`sjText`,
`secureJoinText`) computes what the component model (`sj`, `secureJoin`) computes. Core-only.
-/
namespace GceTcb.SecureJoin

theorem cutSlash_noslash (r : PathStr) : '/' ∉ (cutSlash r).1 := by
  induction r with
  | nil => simp [cutSlash]
  | cons c cs ih =>
    by_cases hc : c = '/'
    · simp [cutSlash, hc]
    · simp [cutSlash, hc, ih, Ne.symm hc]

theorem splitSlash_cutSlash (r : PathStr) :
    (cutSlash r = (r, []) ∧ splitSlash r = [r]) ∨ splitSlash r = (cutSlash r).1 :: splitSlash (cutSlash r).2 := by
  induction r with
  | nil => exact .inl ⟨rfl, rfl⟩
  | cons c cs ih =>
    by_cases hc : c = '/'
    · exact .inr (by simp [cutSlash, splitSlash, hc])
    · rcases ih with ⟨h, hs⟩ | hs
      · exact .inl (by simp [cutSlash, splitSlash, hc, h, hs])
      · exact .inr (by simp [cutSlash, splitSlash, hc, hs])

theorem sj_turn (fs : FS) (klim : Nat) (cwd : List Name) (root : PathStr) (b : Nat) (cur : List Name)
    (rem : PathStr) (hrem : rem ≠ []) :
    sj fs klim cwd root b cur (splitSlash rem) =
      match sjStep fs klim cwd root (applyPart cur (cutSlash rem).1) with
      | .fail e => .err e
      | .go cur' => sj fs klim cwd root b cur' (splitSlash (cutSlash rem).2)
      | .symlink => onLinkOf fs klim cwd root b cur (applyPart cur (cutSlash rem).1) (splitSlash (cutSlash rem).2) := by
  rw [sj_eq]
  rcases splitSlash_cutSlash rem with ⟨hc, hs⟩ | hs
  · -- no separator: the last turn, with "" remaining
    rw [hs, hc, sjList, if_neg fun h => hrem h.1]
    cases sjStep fs klim cwd root (applyPart cur rem) <;> rfl
  · have hne := splitSlash_ne_nil (cutSlash rem).2
    rw [hs, sjList]
    simp only [hne, and_false, if_false]
    cases sjStep fs klim cwd root (applyPart cur (cutSlash rem).1) <;> rfl

def mapSJ : SJ → SJT
  | .ok c => .ok (curText c)
  | .err e => .err e

theorem renderAbs_eq_slash (nx : List Name) (hn : AllNormal nx) : renderAbs nx = ['/'] ↔ nx = [] :=
  ⟨fun h => by rw [← cleanStack_renderAbs nx hn, h]; rfl, fun h => by rw [h]; rfl⟩

/-- Outer induction on the expansions left, inner on the length of the remaining text, which `cutSlash`
    shortens; a symbolic link restarts the inner induction on `dest + "/" + rest` with one expansion fewer. -/
theorem sjText_eq (fs : FS) (klim : Nat) (cwd : List Name) (root : PathStr) :
    ∀ (b : Nat) (rem : PathStr) (cur : List Name), AllNormal cur →
      sjText fs klim cwd root b (curText cur) rem = mapSJ (sj fs klim cwd root b cur (splitSlash rem)) := by
  intro b
  induction b using Nat.strongRecOn with
  | _ b ihb =>
  intro rem
  induction hlen : rem.length using Nat.strongRecOn generalizing rem with
  | _ n ih =>
  intro cur hn
  by_cases hrem : rem = []
  · subst hrem
    rw [sjText.eq_def, dif_pos rfl, sj_eq]
    rfl
  · have hlt := cutSlash_length rem hrem
    have hp := cutSlash_noslash rem
    have hnx := applyPart_normal cur (cutSlash rem).1 hn hp
    rw [sjText.eq_def, dif_neg hrem, sj_turn fs klim cwd root b cur rem hrem, join_nextPath cur hn _ hp]
    simp only [renderAbs_eq_slash _ hnx]
    unfold sjStep
    by_cases h0 : applyPart cur (cutSlash rem).1 = []
    · simp only [h0, if_true]
      exact ih _ (hlen ▸ hlt) _ rfl [] AllNormal.nil
    · simp only [h0, if_false]
      have hih := ih _ (hlen ▸ hlt) _ rfl _ hnx
      rw [curText, if_neg h0] at hih
      unfold fullPath
      cases resolve fs klim cwd false (root ++ '/' :: renderAbs (applyPart cur (cutSlash rem).1)) with
      | err e =>
        cases e with
        | noent => exact hih
        | notdir => exact hih
        | loop => rfl
        | fault => rfl
      | ok loc e l =>
        cases e with
        | file i => exact hih
        | dir => exact hih
        | link t =>
          cases b with
          | zero => rfl
          | succ b =>
            simp only [onLinkOf, fullPath]
            cases readlink fs klim cwd (root ++ '/' :: renderAbs (applyPart cur (cutSlash rem).1)) with
            | err e => rfl
            | ok dest =>
              have := ihb b (Nat.lt_succ_self b) (dest ++ '/' :: (cutSlash rem).2)
                (if isAbs dest then [] else cur) (by split; exact AllNormal.nil; exact hn)
              rw [splitSlash_append_slash, apply_ite curText] at this
              exact this

theorem secureJoinText_eq (fs : FS) (klim lim : Nat) (cwd : List Name) (root p : PathStr) :
    secureJoinText fs klim lim cwd root p = secureJoin fs klim lim cwd root p := by
  unfold secureJoinText secureJoin
  rw [show sjText fs klim cwd root lim [] p = _ from sjText_eq fs klim cwd root lim p [] AllNormal.nil]
  cases hs : sj fs klim cwd root lim [] (splitSlash p) with
  | err e => rfl
  | ok fin =>
    have hn := sj_normal (splitSlash_no_slash p) hs
    simp only [mapSJ]
    rw [join_finalPath fin hn, goJoin_eq_joinElems root _ (renderAbs_ne_nil fin)]

end GceTcb.SecureJoin
