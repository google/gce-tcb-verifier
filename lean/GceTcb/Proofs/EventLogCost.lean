import GceTcb.Model.EventLogCost
import GceTcb.Proofs.EventLog
import GceTcb.Proofs.ExtractLocal
/-
C07 (event-log half) — lemmas: the checked, cost-instrumented model refines the C18 model of the
repaired readers (hence never panics), and its allocation + ticks are linear in the input.
Reader by reader: `x…_sim` is the refinement (`res = lift (C18 reader)`), `x…_lin` the cost bound.
-/
namespace GceTcb.EvlCost
open GceTcb GceTcb.Codec GceTcb.Codecs GceTcb.EventLog

variable {α β : Type}

theorem andThen_res (s : Step α) (f : α → Bytes → Step β) :
    (s.andThen f).res = match s.res with
      | .ok a r => (f a r).res | .eof => .eof | .fail => .fail | .panic p => .panic p := by
  unfold Step.andThen; cases s.res <;> rfl

theorem sim_no_panic {s : Step α} {r : Res α} (hs : s.res = lift r) (p : String) : s.res ≠ .panic p := by
  rw [hs]; cases r <;> nofun

theorem lift_ok_inv {r : Res α} {a : α} {rest : Bytes} (h : lift r = .ok a rest) : r = .ok a rest := by
  cases r with
  | ok _ _ => cases h; rfl
  | eof | fail => cases h

theorem sim_andThen {s : Step α} {r : Res α} {f : α → Bytes → Step β} {g : α → Bytes → Res β}
    (hs : s.res = lift r) (hf : ∀ a rest, r = .ok a rest → (f a rest).res = lift (g a rest)) :
    (s.andThen f).res = lift (r.andThen g) := by
  rw [andThen_res, hs]
  cases r with
  | ok a rest => exact hf a rest rfl
  | eof | fail => rfl

theorem sim_map {s : Step α} {r : Res α} (f : α → β) (hs : s.res = lift r) : (s.map f).res = lift (r.map f) := by
  unfold Step.map; rw [hs]; cases r <;> rfl

theorem sim_noEof {s : Step α} {r : Res α} (hs : s.res = lift r) : s.noEof.res = lift r.noEof := by
  unfold Step.noEof; rw [hs]; cases r <;> simp [lift, Res.noEof, hs]

@[simp] theorem charge_res (a t : Nat) (s : Step α) : (s.charge a t).res = s.res := rfl
@[simp] theorem charge_alloc (a t : Nat) (s : Step α) : (s.charge a t).alloc = s.alloc + a := rfl
@[simp] theorem charge_ticks (a t : Nat) (s : Step α) : (s.charge a t).ticks = s.ticks + t := rfl

/-- `Lin A K E m s b`: step `s` over input `b` — when it succeeds it consumed at least `m` bytes and
    cost at most `A·consumed + K`; in every case it cost at most `A·|b| + E`. -/
structure Lin (A K E m : Nat) (s : Step α) (b : Bytes) : Prop where
  ok : ∀ a rest, s.res = .ok a rest → rest.length + m ≤ b.length ∧ s.total + A * rest.length ≤ A * b.length + K
  any : s.total ≤ A * b.length + E

theorem andThen_cases (s : Step α) (f : α → Bytes → Step β) :
    (∃ a r, s.res = .ok a r ∧ (s.andThen f).res = (f a r).res ∧ (s.andThen f).total = s.total + (f a r).total) ∨
    ((∀ a r, (s.andThen f).res ≠ .ok a r) ∧ (s.andThen f).total = s.total) := by
  unfold Step.andThen Step.total
  cases s.res with
  | ok a r => exact .inl ⟨a, r, rfl, rfl, by simp only; omega⟩
  | eof | fail | panic _ => exact .inr ⟨fun _ _ => nofun, rfl⟩

theorem total_andThen_le {s : Step α} {f : α → Bytes → Step β} {B : Nat} (hnot : s.total ≤ B)
    (hok : ∀ a r, s.res = .ok a r → s.total + (f a r).total ≤ B) : (s.andThen f).total ≤ B := by
  rcases andThen_cases s f with ⟨a, r, hs, _, ht⟩ | ⟨_, ht⟩
  · rw [ht]; exact hok a r hs
  · rw [ht]; exact hnot

/-- what the continuation consumes and costs is accounted against the whole input `b` -/
theorem Lin.bind {A1 K1 E1 m1 A K E m : Nat} {s : Step α} {f : α → Bytes → Step β} {b : Bytes} (h1 : Lin A1 K1 E1 m1 s b)
    (hnot : A1 * b.length + E1 ≤ A * b.length + E)
    (hok : ∀ a r, s.res = .ok a r → r.length + m1 ≤ b.length → s.total + A1 * r.length ≤ A1 * b.length + K1 →
      s.total + (f a r).total ≤ A * b.length + E ∧
      ∀ a' r', (f a r).res = .ok a' r' →
        r'.length + m ≤ b.length ∧ s.total + (f a r).total + A * r'.length ≤ A * b.length + K) :
    Lin A K E m (s.andThen f) b := by
  have hok := fun a r hs => hok a r hs (h1.ok a r hs).1 (h1.ok a r hs).2
  refine ⟨fun a' r' h' => ?_, total_andThen_le (Nat.le_trans h1.any hnot) fun a r hs => (hok a r hs).1⟩
  rcases andThen_cases s f with ⟨a, r, hs, hr, ht⟩ | ⟨hn, _⟩
  · rw [ht]; exact (hok a r hs).2 a' r' (hr ▸ h')
  · exact absurd h' (hn a' r')

theorem Lin.mono {A K E m A' K' E' m' : Nat} {s : Step α} {b : Bytes} (h : Lin A K E m s b)
    (hA : A ≤ A') (hK : K ≤ K') (hE : E ≤ E') (hm : m' ≤ m) : Lin A' K' E' m' s b := by
  obtain ⟨d, rfl⟩ := Nat.exists_eq_add_of_le hA
  refine ⟨fun a r hr => ?_, by have := h.any; rw [Nat.add_mul]; omega⟩
  obtain ⟨o1, o2⟩ := h.ok a r hr
  have : d * r.length ≤ d * b.length := Nat.mul_le_mul_left d (by omega)
  rw [Nat.add_mul, Nat.add_mul]
  omega

/-- the constant of a success is paid by the `m` bytes it consumed, at a slope higher by `d` -/
theorem Lin.absorb {A K E m : Nat} (d : Nat) {s : Step α} {b : Bytes} (h : Lin A K E m s b) (hK : K ≤ d * m) :
    Lin (A + d) 0 E m s b := by
  refine ⟨fun a r hr => ?_, by have := h.any; rw [Nat.add_mul]; omega⟩
  obtain ⟨o1, o2⟩ := h.ok a r hr
  have : d * (r.length + m) ≤ d * b.length := Nat.mul_le_mul_left d o1
  rw [Nat.mul_add] at this
  rw [Nat.add_mul, Nat.add_mul]
  exact ⟨o1, by omega⟩

/-- a field of a record read before the others, at its own slope and failure constant -/
theorem Lin.seq {A1 E1 A E m1 m2 : Nat} {s : Step α} {f : α → Bytes → Step β} {b : Bytes}
    (h1 : Lin A1 0 E1 m1 s b) (h2 : ∀ a rest, s.res = .ok a rest → Lin A 0 E m2 (f a rest) rest)
    (hA : A1 ≤ A := by decide) (hE : E1 ≤ E := by decide) : Lin A 0 E (m1 + m2) (s.andThen f) b := by
  have h1 := h1.mono hA (Nat.le_refl 0) hE (Nat.le_refl m1)
  refine h1.bind (Nat.le_refl _) fun a r hs o1 o2 => ?_
  refine ⟨by have := (h2 a r hs).any; omega, fun a' r' h => ?_⟩
  obtain ⟨p1, p2⟩ := (h2 a r hs).ok a' r' h
  omega

theorem map_total (f : α → β) (s : Step α) : (s.map f).total = s.total := by
  unfold Step.map Step.total; cases s.res <;> rfl

theorem Lin.map {A K E m : Nat} {s : Step α} {b : Bytes} (f : α → β) (h : Lin A K E m s b) : Lin A K E m (s.map f) b := by
  unfold Step.map
  cases hs : s.res with
  | ok a r => exact ⟨fun _ _ hx => by cases hx; exact h.ok a r hs, h.any⟩
  | eof | fail | panic _ => exact ⟨nofun, h.any⟩

theorem Lin.noEof {A K E m : Nat} {s : Step α} {b : Bytes} (h : Lin A K E m s b) : Lin A K E m s.noEof b := by
  unfold Step.noEof
  cases s.res with
  | eof => exact ⟨nofun, h.any⟩
  | ok _ _ | fail | panic _ => exact h

theorem charge_total (a t : Nat) (s : Step α) : (s.charge a t).total = s.total + (a + t) := by
  unfold Step.charge Step.total; simp only; omega

theorem Lin.charge {A K E m : Nat} {s : Step α} {b : Bytes} (a t : Nat) (h : Lin A K E m s b) :
    Lin A (K + (a + t)) (E + (a + t)) m (s.charge a t) b := by
  refine ⟨fun x r hr => ?_, by have := h.any; rw [charge_total]; omega⟩
  obtain ⟨o1, o2⟩ := h.ok x r hr
  rw [charge_total]
  omega

theorem pure_lin (A E : Nat) (v : α) (b : Bytes) : Lin A 0 E 0 (Step.pure v b) b :=
  ⟨fun _ _ h => by cases h; simp [Step.pure, Step.total], by simp [Step.pure, Step.total]⟩

theorem nextLen_le (size len : Nat) : nextLen size len ≤ 2 * len ∧ nextLen size len ≤ max size (2 * len) := by
  unfold nextLen; split <;> omega

theorem nextLen_lt {size len : Nat} (h1 : 1 ≤ len) (h2 : len < size) :
    len < nextLen size len ∧ nextLen size len ≤ size ∧ nextLen size len ≤ 2 * len ∧
    (nextLen size len = size ∨ nextLen size len = 2 * len) := by
  unfold nextLen; split <;> omega

/-- The loop of readExact under its invariant (`1 ≤ len ≤ size`, `read ≤ len`): it never panics, reads everything iff
    `size ≤ avail`, and the memory `a` it allocates AFTER the current buffer is at most `3·size − 2·len`, at most
    `4·avail − 2·len` (nothing when the current buffer cannot be filled), and nothing when the buffer is complete. -/
theorem exactLoop_spec (size avail : Nat) (hsz : size < 2 ^ 63) :
    ∀ fuel read len, 1 ≤ len → len ≤ size → read ≤ len → size - len < fuel →
      ∃ a t, exactLoop size avail fuel read len = ⟨if size ≤ avail then .full else .short avail, a, t⟩ ∧
        a + 2 * len ≤ 3 * size ∧ a ≤ 4 * avail - 2 * len ∧ (len < size ∨ a = 0) ∧ t ≤ 1 + a := by
  intro fuel
  induction fuel with
  | zero => intro read len _ _ _ h; exact absurd h (Nat.not_lt_zero _)
  | succ f ih =>
    intro read len h1 h2 h3 h4
    rw [exactLoop, if_neg (Nat.not_lt.mpr h3)]
    by_cases c2 : avail < len
    · rw [if_pos c2, if_neg (by omega : ¬ size ≤ avail)]
      exact ⟨0, 1, rfl, by omega⟩
    · by_cases c3 : len = size
      · rw [if_neg c2, if_pos c3, if_pos (by omega : size ≤ avail)]
        exact ⟨0, 1, rfl, by omega⟩
      · obtain ⟨n1, n2, n3, n4⟩ := nextLen_lt h1 (Nat.lt_of_le_of_ne h2 c3)
        obtain ⟨a, t, e, i⟩ := ih len (nextLen size len) (by omega) n2 (by omega) (by omega)
        rw [if_neg c2, if_neg c3, if_neg (by omega : ¬ ¬ nextLen size len < 2 ^ 63), e]
        exact ⟨nextLen size len + a, 1 + t, rfl, by omega⟩

theorem xReadExact_spec (k : RKind) (zf : Bool) (size : Nat) (rest : Bytes) (hsz : size < 2 ^ 63) :
    (xReadExact size rest).res = lift (readBody ⟨true, k⟩ zf size rest) ∧
    (xReadExact size rest).alloc ≤ 3 * size ∧
    (xReadExact size rest).alloc ≤ 4 * rest.length + maxPrealloc ∧
    (xReadExact size rest).ticks ≤ (xReadExact size rest).alloc := by
  unfold xReadExact
  by_cases h0 : size = 0
  · subst h0
    simp [readBody, Step.pure, lift]
  · have hL : 1 ≤ min size maxPrealloc ∧ min size maxPrealloc ≤ size ∧ min size maxPrealloc ≤ maxPrealloc :=
      ⟨by have : 1 ≤ maxPrealloc := by decide
          omega, Nat.min_le_left _ _, Nat.min_le_right _ _⟩
    generalize min size maxPrealloc = L at hL ⊢
    obtain ⟨a, t, e, s2, s3, _, s5⟩ := exactLoop_spec size rest.length hsz (size + 1) 0 L hL.1 hL.2.1 (Nat.zero_le L)
      (by omega)
    rw [if_neg h0, if_neg (by omega : ¬ ¬ L < 2 ^ 63), e]
    have hc : L + a ≤ 3 * size ∧ L + a ≤ 4 * rest.length + maxPrealloc ∧ t ≤ L + a := by omega
    by_cases hf : size ≤ rest.length
    · simp only [if_pos hf]
      exact ⟨by simp [readBody, readFull, h0, hf, lift], hc⟩
    · simp only [if_neg hf]
      refine ⟨?_, hc⟩
      by_cases he : rest = []
      · subst he; simp [readBody, readFull, h0, lift]
      · simp [readBody, readFull, h0, hf, he, lift]

/-- a size read from at most four bytes fits Go's `int` -/
theorem readLE_int {n v : Nat} {b rest : Bytes} (hn : n ≤ 4) (h : readLE n b = .ok v rest) : v < 2 ^ 63 := by
  have h1 := (readLE_ok_inv h).2
  have h2 : 256 ^ n ≤ 256 ^ 4 := Nat.pow_le_pow_right (by decide) hn
  have h3 : (256 : Nat) ^ 4 < 2 ^ 63 := by decide
  omega

theorem xReadLE_sim (n : Nat) (b : Bytes) : (xReadLE n b).res = lift (readLE n b) := rfl
theorem xReadFull_sim (a n : Nat) (b : Bytes) : (xReadFull a n b).res = lift (readFull n b) := rfl

/-- a read of `n ≥ 1` bytes into `a ≤ n` fresh bytes -/
theorem prim_lin {q : Res α} {a n : Nat} {b : Bytes} (hn : 1 ≤ n) (ha : a ≤ n)
    (hq : ∀ v rest, q = .ok v rest → b.length = n + rest.length) : Lin 8 0 (a + 1) n ⟨lift q, a, 1⟩ b := by
  refine ⟨fun v rest h => ?_, by unfold Step.total; simp only; omega⟩
  have := hq v rest (lift_ok_inv h)
  unfold Step.total; simp only
  omega

theorem xReadFull_lin (a n : Nat) (hn : 1 ≤ n) (ha : a ≤ n) (b : Bytes) : Lin 8 0 (a + 1) n (xReadFull a n b) b :=
  prim_lin hn ha fun _ _ h => by rw [(readFull_ok_inv h).1, List.length_append, (readFull_ok_inv h).2]

theorem xReadLE_lin (n : Nat) (hn : 1 ≤ n) (b : Bytes) : Lin 8 0 (n + 1) n (xReadLE n b) b :=
  prim_lin hn (Nat.le_refl n) fun _ _ h => by rw [(readLE_ok_inv h).1, List.length_append, leBytes_length]

/-- Slope 8: allocation is at most `3·size` when all `size` bytes are there and at most `4·|rest| + maxPrealloc` in
    every case (`xReadExact_spec`), and ticks are at most the allocation. -/
theorem xReadExact_lin (size : Nat) (rest : Bytes) (hsz : size < 2 ^ 63) :
    Lin 8 0 8193 size (xReadExact size rest) rest := by
  obtain ⟨s1, s2, s3, s4⟩ := xReadExact_spec .buffer false size rest hsz
  have hP : maxPrealloc = 4096 := rfl
  refine ⟨fun v r h => ?_, by unfold Step.total; omega⟩
  obtain ⟨hb, hlen⟩ := readBody_ok_inv (Or.inl rfl) (lift_ok_inv (s1.symm.trans h))
  have hl : rest.length = size + r.length := by rw [hb, List.length_append, hlen]
  unfold Step.total
  omega

theorem xReadSizedArray_sim (k : RKind) (w : Nat) (hw : w ≤ 4) (b : Bytes) :
    (xReadSizedArray w b).res = lift (readSizedArray ⟨true, k⟩ w b) :=
  sim_andThen (xReadLE_sim w b) fun size rest h => (xReadExact_spec k true size rest (readLE_int hw h)).1

theorem xReadSizedArray_lin (w : Nat) (hw1 : 1 ≤ w) (hw : w ≤ 4) (b : Bytes) :
    Lin 8 0 8193 w (xReadSizedArray w b) b :=
  Lin.seq (xReadLE_lin w hw1 b) (hE := by omega) fun size rest h =>
    (xReadExact_lin size rest (readLE_int hw (lift_ok_inv h))).mono (Nat.le_refl _) (Nat.le_refl _) (Nat.le_refl _)
      (Nat.zero_le _)

theorem xReadSizedArray_ok_length {w : Nat} (hw : w ≤ 4) {b d rest : Bytes} (h : (xReadSizedArray w b).res = .ok d rest) :
    b.length = w + d.length + rest.length := by
  rw [(readSizedArray_canon (cfg := ⟨true, .buffer⟩) rfl
    (lift_ok_inv ((xReadSizedArray_sim .buffer w hw b).symm.trans h))).1]
  simp [encSized, Nat.add_assoc]

/-- What ByteSizedCStr.Unmarshal does with the array it has read: the continuation in `xReadCStr`, word for word, so
    that `xReadCStr b` is `(xReadSizedArray 1 b).andThen cstrTail` by unfolding (`digestTail`, `edTail` likewise). -/
def cstrTail (data rest : Bytes) : Step Bytes :=
  if data.length = 0 then .failed
  else (xIndex data (data.length - 1) "eventlog.ByteSizedCStr.Unmarshal#1:index" rest).andThen fun last rest =>
    if last != 0 then .failed
    else ((xSlice data 0 (data.length - 1) "eventlog.ByteSizedCStr.Unmarshal#2:slice" rest).charge (data.length - 1) 0)

/-- the tail costs the string's bytes, which the array's pay for; `data` is empty or some bytes followed by a last one -/
theorem cstrTail_spec (data rest : Bytes) :
    (cstrTail data rest).res =
      lift (if data.isEmpty || data.getLast? != some 0 then .fail else .ok data.dropLast rest) ∧
    (cstrTail data rest).total ≤ data.length - 1 ∧ ∀ v r, (cstrTail data rest).res = .ok v r → r = rest := by
  rcases List.eq_nil_or_concat data with rfl | ⟨xs, l, rfl⟩
  · simp [cstrTail, Step.failed, Step.total, lift]
  · by_cases hz : l = 0 <;>
      simp [cstrTail, xIndex, xSlice, Step.andThen, Step.pure, Step.charge, Step.failed, Step.total, lift, hz]

theorem xReadCStr_sim (k : RKind) (b : Bytes) : (xReadCStr b).res = lift (readCStr ⟨true, k⟩ b) :=
  sim_andThen (xReadSizedArray_sim k 1 (by decide) b) fun data rest _ => (cstrTail_spec data rest).1

theorem xReadCStr_lin (b : Bytes) : Lin 9 0 8193 1 (xReadCStr b) b := by
  have hS := xReadSizedArray_lin 1 (by decide) (by decide) b
  refine hS.bind (f := cstrTail) (by omega) fun data rest hs o1 o2 => ?_
  have hl := xReadSizedArray_ok_length (by decide) hs
  obtain ⟨_, c1, c2⟩ := cstrTail_spec data rest
  refine ⟨by omega, fun v r h => ?_⟩
  cases c2 v r h
  omega

theorem xReadGuid_sim (b : Bytes) : (xReadGuid b).res = lift (readGuid b) :=
  sim_map _ (xReadFull_sim 16 16 b)

theorem xReadGuid_lin (b : Bytes) : Lin 8 0 17 16 (xReadGuid b) b := by
  unfold xReadGuid
  exact (xReadFull_lin 16 16 (by decide) (by decide) b).map _

theorem tpmAlgoSize_small {alg sz : Nat} (h : tpmAlgoSize alg = some sz) : sz < 2 ^ 63 := by
  have := (tpmAlgoSize_lt h).2.2
  omega

theorem xMake_andThen {n : Nat} (h : n < 2 ^ 63) (site : String) (rest : Bytes) (f : Unit → Bytes → Step β) :
    (xMake n site rest).andThen f = (f () rest).charge n 0 := by
  simp [xMake, h, Step.andThen, Step.charge, Nat.add_comm]

theorem xReadDigest_sim (b : Bytes) : (xReadDigest b).res = lift (readDigest b) := by
  unfold xReadDigest readDigest
  refine sim_andThen (xReadLE_sim 2 b) fun alg rest _ => ?_
  cases ha : tpmAlgoSize alg with
  | none => rfl
  | some sz =>
    simp only [xMake_andThen (tpmAlgoSize_small ha)]
    exact sim_map _ (sim_noEof (xReadFull_sim 0 sz rest))

theorem xReadDigests_sim (n : Nat) (b : Bytes) : (xReadDigests n b).res = lift (readDigests n b) := by
  induction n generalizing b with
  | zero => rfl
  | succ n ih => exact sim_andThen (sim_noEof (xReadDigest_sim b)) fun d rest _ => sim_map _ (ih rest)

theorem xReadDigestArray_sim (rt : Runtime) (b : Bytes) : (xReadDigestArray rt b).res = lift (readDigestArray b) :=
  sim_andThen (sim_noEof (xReadLE_sim 4 b)) fun n rest _ => by
    rw [charge_res, xReadDigests_sim]; cases n <;> rfl

/-- what TaggedDigest.Unmarshal does after the algorithm id -/
def digestTail (alg : Nat) (rest : Bytes) : Step Digest :=
  match tpmAlgoSize alg with
  | none => .failed
  | some sz =>
    (xMake sz "eventlog.TaggedDigest.Unmarshal#1:make" rest).andThen fun _ rest =>
      ((xReadFull 0 sz rest).noEof).map fun d => ⟨alg, d⟩

/-- the digest's `make` is paid by the digest's bytes -/
theorem digestTail_lin (alg : Nat) (rest : Bytes) : Lin 9 0 49 20 (digestTail alg rest) rest := by
  unfold digestTail
  cases ha : tpmAlgoSize alg with
  | none => exact ⟨nofun, by simp [Step.failed, Step.total]⟩
  | some sz =>
    obtain ⟨_, h20, h48⟩ := tpmAlgoSize_lt ha
    simp only [xMake_andThen (tpmAlgoSize_small ha)]
    have hF := ((xReadFull_lin 0 sz (by omega) (by omega) rest).noEof).map fun d => (⟨alg, d⟩ : Digest)
    exact ((hF.charge sz 0).absorb 1 (by omega)).mono (Nat.le_refl _) (Nat.le_refl _) (by omega) h20

theorem xReadDigest_lin (b : Bytes) : Lin 9 0 49 22 (xReadDigest b) b :=
  Lin.seq (xReadLE_lin 2 (by decide) b) fun alg rest _ => digestTail_lin alg rest

theorem readDigest_consumes {b rest : Bytes} {d : Digest} (h : readDigest b = .ok d rest) : rest.length + 22 ≤ b.length :=
  ((xReadDigest_lin b).ok d rest ((xReadDigest_sim b).trans (congrArg lift h))).1

theorem digestsRead_le (n : Nat) (b : Bytes) : 22 * digestsRead n b ≤ b.length := by
  induction n generalizing b with
  | zero => simp [digestsRead]
  | succ n ih =>
    unfold digestsRead
    cases h : readDigest b with
    | ok d rest => have := readDigest_consumes h; have := ih rest; simp only; omega
    | eof => simp
    | fail => simp

theorem digestsRead_ok {n : Nat} {b rest : Bytes} {ds : List Digest} (h : readDigests n b = .ok ds rest) :
    22 * digestsRead n b + rest.length ≤ b.length := by
  induction n generalizing b ds with
  | zero => simp only [readDigests] at h; injection h with _ e; subst e; simp [digestsRead]
  | succ n ih =>
    simp only [readDigests] at h
    obtain ⟨d, r1, h1, h2⟩ := andThen_ok_inv h
    have h1' := noEof_ok_inv h1
    obtain ⟨tl, h3, _⟩ := map_ok_inv h2
    have := readDigest_consumes h1'
    have := ih h3
    unfold digestsRead
    rw [h1']
    simp only; omega

theorem xReadDigests_lin (n : Nat) (b : Bytes) : Lin 11 0 85 0 (xReadDigests n b) b := by
  induction n generalizing b with
  | zero => exact pure_lin 11 85 [] b
  | succ n ih =>
    unfold xReadDigests
    -- one element costs at most 9·consumed + 33 ≤ 11·consumed (it consumes at least 22 bytes)
    have helem := (((xReadDigest_lin b).noEof).charge sizeofTaggedDigest 1).absorb 2 (by decide)
    exact (Lin.seq helem fun d rest _ => (ih rest).map (d :: ·)).mono (Nat.le_refl _) (Nat.le_refl _) (Nat.le_refl _)
      (Nat.zero_le _)

theorem xReadDigestArray_lin (rt : Runtime) (hrt : rt.Lawful) (b : Bytes) : Lin 14 0 90 4 (xReadDigestArray rt b) b := by
  unfold xReadDigestArray
  have hL := (xReadLE_lin 4 (by decide) b).noEof
  refine hL.bind (by omega) fun n rest hs o1 o2 => ?_
  have hD := xReadDigests_lin n rest
  have hap := hrt.1 (digestsRead n rest)
  have hc := digestsRead_le n rest
  -- `append` grows by at most 64 bytes per element read (`hap`) and an element is at least 22 bytes (`hc`): 3 per byte
  rw [charge_total]
  refine ⟨by have := hD.any; omega, fun ds r h => ?_⟩
  obtain ⟨p1, p2⟩ := hD.ok ds r h
  have hc2 := digestsRead_ok (lift_ok_inv ((xReadDigests_sim n rest).symm.trans h))
  omega

theorem xReadEvent3Fields_sim (k : RKind) (b : Bytes) :
    (xReadEvent3Fields b).res = lift (readEvent3Fields ⟨true, k⟩ b) :=
  sim_andThen (xReadLE_sim 4 b) fun _ b _ => sim_andThen (xReadGuid_sim b) fun _ b _ =>
  sim_andThen (xReadCStr_sim k b) fun _ b _ => sim_andThen (xReadCStr_sim k b) fun _ b _ =>
  sim_andThen (xReadCStr_sim k b) fun _ b _ => sim_andThen (xReadCStr_sim k b) fun _ b _ =>
  sim_andThen (xReadLE_sim 4 b) fun _ b _ => sim_andThen (xReadCStr_sim k b) fun _ b _ =>
  sim_andThen (xReadLE_sim 4 b) fun _ b _ => sim_andThen (xReadSizedArray_sim k 4 (by decide) b) fun _ b _ =>
  sim_andThen (xReadLE_sim 4 b) fun _ b _ => sim_andThen (xReadSizedArray_sim k 4 (by decide) b) fun _ b _ => rfl

theorem xUnmarshalEvent3_sim (rt : Runtime) (data : Bytes) :
    (xUnmarshalEvent3 rt data).res = lift (unmarshalEvent3 true data) :=
  sim_andThen (xReadEvent3Fields_sim .buffer data) fun e rest _ => by
    by_cases h : allZero rest <;> simp [h, lift]

theorem xReadEvent3Fields_lin (b : Bytes) : Lin 9 0 8193 45 (xReadEvent3Fields b) b :=
  Lin.seq (xReadLE_lin 4 (by decide) b) fun _ b _ => Lin.seq (xReadGuid_lin b) fun _ b _ =>
  Lin.seq (xReadCStr_lin b) fun _ b _ => Lin.seq (xReadCStr_lin b) fun _ b _ =>
  Lin.seq (xReadCStr_lin b) fun _ b _ => Lin.seq (xReadCStr_lin b) fun _ b _ =>
  Lin.seq (xReadLE_lin 4 (by decide) b) fun _ b _ => Lin.seq (xReadCStr_lin b) fun _ b _ =>
  Lin.seq (xReadLE_lin 4 (by decide) b) fun _ b _ => Lin.seq (xReadSizedArray_lin 4 (by decide) (by decide) b) fun _ b _ =>
  Lin.seq (xReadLE_lin 4 (by decide) b) fun _ b _ => Lin.seq (xReadSizedArray_lin 4 (by decide) (by decide) b) fun _ b _ =>
  pure_lin 9 8193 _ b

theorem padTicks_le (rest : Bytes) : padTicks rest ≤ rest.length + 1 := by
  unfold padTicks
  have := (List.takeWhile_sublist (fun x : UInt8 => x == 0) (l := rest)).length_le
  split <;> omega

theorem xUnmarshalEvent3_lin (rt : Runtime) (hrt : rt.Lawful) (data : Bytes) :
    Lin 9 1065 8233 45 (xUnmarshalEvent3 rt data) data := by
  unfold xUnmarshalEvent3
  have hF := (xReadEvent3Fields_lin data).charge sizeofBytesBuffer 0
  have hb : sizeofBytesBuffer = 40 := rfl
  refine hF.bind (by omega) fun e rest hs o1 o2 => ?_
  have hra := hrt.2 rest.length
  have hp := padTicks_le rest
  simp only [Step.total] at *
  refine ⟨by omega, fun e' r' h => ?_⟩
  split at h <;> cases h
  simp only [List.length_nil]
  omega

/-- what TCGEventData.Unmarshal does with the chunk it has read -/
def edTail (rt : Runtime) (size : Nat) (chunk rest : Bytes) : Step EventData :=
  if size ≥ 16 then
    (xSlice chunk 0 16 "eventlog.TCGEventData.Unmarshal#1:slice" rest).andThen fun sig rest =>
      if sig == event3Signature then
        ((xSlice chunk 16 chunk.length "eventlog.TCGEventData.Unmarshal#4:slice" rest).charge
            (hexKeyAlloc + sizeofSP800155Event3) 0).andThen fun payload rest =>
          match (xUnmarshalEvent3 rt payload).res with
          | .ok e _ => ⟨.ok (.event3 e) rest, (xUnmarshalEvent3 rt payload).alloc, (xUnmarshalEvent3 rt payload).ticks⟩
          | .eof => ⟨.eof, (xUnmarshalEvent3 rt payload).alloc, (xUnmarshalEvent3 rt payload).ticks⟩
          | .fail => ⟨.fail, (xUnmarshalEvent3 rt payload).alloc, (xUnmarshalEvent3 rt payload).ticks⟩
          | .panic p => ⟨.panic p, (xUnmarshalEvent3 rt payload).alloc, (xUnmarshalEvent3 rt payload).ticks⟩
      else ⟨.ok (.raw chunk) rest, hexKeyAlloc + sizeofUnknownEvent, 0⟩
  else ⟨.ok (.raw chunk) rest, sizeofUnknownEvent, 0⟩

/-- the success bound 26·size + 131 uses that an accepted Event3 payload has at least 45 bytes -/
theorem edTail_spec (rt : Runtime) (size : Nat) (chunk rest : Bytes) (hl : chunk.length = size) :
    (edTail rt size chunk rest).res = lift (if size ≥ 16 && chunk.take 16 == event3Signature then
        match unmarshalEvent3 true (chunk.drop 16) with
        | .ok e _ => .ok (.event3 e) rest
        | .eof => .eof
        | .fail => .fail
      else .ok (.raw chunk) rest) ∧
    (rt.Lawful → (edTail rt size chunk rest).total ≤ 9 * size + 8473 ∧
      ∀ v r, (edTail rt size chunk rest).res = .ok v r →
        r = rest ∧ (edTail rt size chunk rest).total ≤ 26 * size + 131) := by
  unfold edTail hexKeyAlloc sizeofSP800155Event3 sizeofUnknownEvent
  by_cases h16 : size ≥ 16
  · have hc : 0 ≤ 16 ∧ 16 ≤ chunk.length := by omega
    have hc2 : 16 ≤ chunk.length ∧ chunk.length ≤ chunk.length := by omega
    simp only [h16, xSlice, hc, hc2, and_self, if_true, Step.pure, Step.andThen, Step.charge, Step.total,
      List.drop_zero, List.take_length, decide_true, Bool.true_and]
    by_cases hsig : (chunk.take 16 == event3Signature) = true
    · simp only [hsig, if_true]
      have hs := xUnmarshalEvent3_sim rt (chunk.drop 16)
      have hU := fun hrt => xUnmarshalEvent3_lin rt hrt (chunk.drop 16)
      have hpl : (chunk.drop 16).length = size - 16 := by rw [List.length_drop, hl]
      generalize unmarshalEvent3 true (chunk.drop 16) = q at hs
      generalize xUnmarshalEvent3 rt (chunk.drop 16) = u at hs hU
      cases q with
      | ok e r =>
        simp only [hs, lift]
        refine ⟨trivial, fun hrt => ?_⟩
        obtain ⟨v1, v2⟩ := (hU hrt).ok e r hs
        simp only [Step.total] at v2
        exact ⟨by omega, fun v r' h => by cases h; exact ⟨rfl, by omega⟩⟩
      | eof | fail =>
        simp only [hs, lift]
        refine ⟨trivial, fun hrt => ?_⟩
        have u1 := (hU hrt).any
        simp only [Step.total] at u1
        exact ⟨by omega, nofun⟩
    · simp only [hsig, if_false, Bool.false_eq_true, lift]
      exact ⟨trivial, fun _ => ⟨by omega, fun v r' h => by cases h; exact ⟨rfl, by omega⟩⟩⟩
  · simp only [h16, if_false, decide_false, Bool.false_and, Bool.false_eq_true, lift, Step.total]
    exact ⟨trivial, fun _ => ⟨by omega, fun v r' h => by cases h; exact ⟨rfl, by omega⟩⟩⟩

theorem xReadEventData_sim (rt : Runtime) (k : RKind) (b : Bytes) :
    (xReadEventData rt b).res = lift (readEventData ⟨true, k⟩ b) :=
  sim_andThen (xReadLE_sim 4 b) fun size rest h =>
    sim_andThen (xReadExact_spec k false size rest (readLE_int (by decide) h)).1 fun chunk rest' hb =>
      (edTail_spec rt size chunk rest' (readBody_ok_inv (Or.inl rfl) hb).2).1

theorem edBody_lin (rt : Runtime) (hrt : rt.Lawful) (size : Nat) (rest : Bytes) (hsz : size < 2 ^ 63) :
    Lin 34 131 8473 0 ((xReadExact size rest).andThen (edTail rt size)) rest := by
  have hX := xReadExact_lin size rest hsz
  refine hX.bind (by omega) fun chunk rest' hx p1 p2 => ?_
  have hb := lift_ok_inv ((xReadExact_spec .buffer false size rest hsz).1.symm.trans hx)
  obtain ⟨t1, t2⟩ := (edTail_spec rt size chunk rest' (readBody_ok_inv (Or.inl rfl) hb).2).2 hrt
  refine ⟨by omega, fun v r h => ?_⟩
  obtain ⟨e1, e2⟩ := t2 v r h
  subst e1
  omega

/-- the 5 of the size prefix and the 131 of the tail are paid by the prefix's four bytes at slope 34 -/
theorem xReadEventData_lin (rt : Runtime) (hrt : rt.Lawful) (b : Bytes) : Lin 34 0 8478 4 (xReadEventData rt b) b := by
  have hL := xReadLE_lin 4 (by decide) b
  have hle5 : (xReadLE 4 b).total = 5 := rfl
  refine hL.bind (f := fun size rest => (xReadExact size rest).andThen (edTail rt size)) (by omega)
    fun size rest hs o1 o2 => ?_
  have hI := edBody_lin rt hrt size rest (readLE_int (by decide) (lift_ok_inv hs))
  refine ⟨by have := hI.any; omega, fun v r h => ?_⟩
  obtain ⟨p1, p2⟩ := hI.ok v r h
  omega

theorem xReadPcrEvent_sim (rt : Runtime) (k : RKind) (b : Bytes) :
    (xReadPcrEvent rt b).res = lift (readPcrEvent ⟨true, k⟩ b) :=
  sim_andThen (xReadLE_sim 4 b) fun _ b _ => sim_andThen (xReadLE_sim 4 b) fun _ b _ =>
  sim_andThen (xReadFull_sim 0 20 b) fun _ b _ => sim_andThen (xReadEventData_sim rt k b) fun _ b _ => rfl

theorem xReadEvent2_sim (rt : Runtime) (k : RKind) (b : Bytes) :
    (xReadEvent2 rt b).res = lift (readEvent2 ⟨true, k⟩ b) :=
  sim_andThen (xReadLE_sim 4 b) fun _ b _ => sim_andThen (xReadLE_sim 4 b) fun _ b _ =>
  sim_andThen (xReadDigestArray_sim rt b) fun _ b _ => sim_andThen (xReadEventData_sim rt k b) fun _ b _ => rfl

theorem xReadPcrEvent_lin (rt : Runtime) (hrt : rt.Lawful) (b : Bytes) : Lin 34 0 8478 32 (xReadPcrEvent rt b) b :=
  Lin.seq (xReadLE_lin 4 (by decide) b) fun _ b _ => Lin.seq (xReadLE_lin 4 (by decide) b) fun _ b _ =>
  Lin.seq (xReadFull_lin 0 20 (by decide) (by decide) b) fun _ b _ => Lin.seq (xReadEventData_lin rt hrt b) fun _ b _ =>
  pure_lin 34 8478 _ b

theorem xReadEvent2_lin (rt : Runtime) (hrt : rt.Lawful) (b : Bytes) : Lin 34 0 8478 16 (xReadEvent2 rt b) b :=
  Lin.seq (xReadLE_lin 4 (by decide) b) fun _ b _ => Lin.seq (xReadLE_lin 4 (by decide) b) fun _ b _ =>
  Lin.seq (xReadDigestArray_lin rt hrt b) fun _ b _ => Lin.seq (xReadEventData_lin rt hrt b) fun _ b _ =>
  pure_lin 34 8478 _ b

theorem eventsRead_le (fuel : Nat) (b : Bytes) : 16 * eventsRead fuel b ≤ b.length := by
  induction fuel generalizing b with
  | zero => simp [eventsRead]
  | succ n ih =>
    unfold eventsRead
    cases h : readEvent2 ⟨true, .buffer⟩ b with
    | ok d rest => have := readEvent2_consumes h; have := ih rest; simp only; omega
    | eof => simp
    | fail => simp

theorem xReadEvents_sim (rt : Runtime) (k : RKind) (fuel : Nat) (b : Bytes) :
    (xReadEvents rt fuel b).res = lift (readEvents ⟨true, k⟩ fuel b) := by
  induction fuel generalizing b with
  | zero => rfl
  | succ f ih =>
    unfold xReadEvents readEvents
    rw [xReadEvent2_sim rt k b]
    cases readEvent2 ⟨true, k⟩ b with
    | eof => cases b <;> rfl
    | fail => rfl
    | ok e rest => exact sim_map _ (ih rest)

/-- every iteration allocates the event and its counting reader; an accepted event consumes at least 16 bytes -/
theorem xReadEvents_cost (rt : Runtime) (hrt : rt.Lawful) (fuel : Nat) (b : Bytes) :
    (xReadEvents rt fuel b).total ≤ 39 * b.length + 8600 := by
  induction fuel generalizing b with
  | zero => simp [xReadEvents, Step.failed, Step.total]
  | succ f ih =>
    unfold xReadEvents
    have hE := xReadEvent2_lin rt hrt b
    cases hs : (xReadEvent2 rt b).res with
    | ok e rest =>
      obtain ⟨o1, o2⟩ := hE.ok e rest hs
      have := ih rest
      simp only [charge_total, map_total]
      simp only [Step.total, sizeofTCGPCREvent2, sizeofCountingReader] at *
      omega
    | eof | fail | panic _ =>
      have := hE.any; simp only [Step.total, sizeofTCGPCREvent2, sizeofCountingReader] at *; omega

theorem xReadLog_sim (rt : Runtime) (k : RKind) (b : Bytes) : (xReadLog rt b).res = lift (readLog ⟨true, k⟩ b) :=
  sim_andThen (xReadPcrEvent_sim rt k b) fun hdr rest _ => sim_map _ (xReadEvents_sim rt k _ rest)

/-- CryptoAgileLog.Unmarshal: the 39 of the event loop, and 4 for the `append` growth of `cel.Events` (at most 64 bytes
    per event read, an event at least 16 bytes) -/
theorem xReadLog_cost (rt : Runtime) (hrt : rt.Lawful) (b : Bytes) : (xReadLog rt b).total ≤ 43 * b.length + 8600 := by
  unfold xReadLog
  have hH := xReadPcrEvent_lin rt hrt b
  refine total_andThen_le (by have := hH.any; omega) fun hdr rest hs => ?_
  obtain ⟨o1, o2⟩ := hH.ok hdr rest hs
  have hl := xReadEvents_cost rt hrt (rest.length + 1) rest
  have hap := hrt.1 (eventsRead (rest.length + 1) rest)
  have hc := eventsRead_le (rest.length + 1) rest
  rw [charge_total, map_total]
  omega

theorem xVariableLocatorDecode_spec (loc : Bytes) :
    (∀ p, xVariableLocatorDecode loc ≠ .panic p) ∧
    (∀ g name, xVariableLocatorDecode loc = .ok (g, name) →
      name = loc.drop 16 ∧ 4 ≤ name.length ∧ name.length % 2 = 0 ∧ g = Extract.efiSwap (loc.take 16)) := by
  unfold xVariableLocatorDecode
  by_cases h1 : loc.length ≤ 18
  · simp [h1]
  · have hl : (loc.drop 16).length = loc.length - 16 := List.length_drop
    rw [if_neg h1, if_neg (by omega), if_neg (by omega)]
    generalize loc.drop 16 = name at hl ⊢
    rw [List.getElem?_eq_getElem (by omega : name.length - 1 < name.length),
      List.getElem?_eq_getElem (by omega : name.length - 2 < name.length)]
    by_cases h2 : name.length % 2 ≠ 0
    · rw [if_pos h2]; exact ⟨nofun, nofun⟩
    · rw [if_neg h2]
      simp only
      split
      · exact ⟨nofun, fun g n h => by cases h; exact ⟨rfl, by omega, by omega, rfl⟩⟩
      · exact ⟨nofun, nofun⟩

/-- ucs2toUTF8 panics exactly on the empty name (`utf8encoding[len-1]` on an empty decoding), under the inventory
    name of the site -/
theorem xUcs2toUTF8_panic (name : Bytes) (p : String) :
    xUcs2toUTF8 name = .panic p ↔ name = [] ∧ p = "exel.ucs2toUTF8#2:index" := by
  unfold xUcs2toUTF8
  by_cases hn : name = []
  · subst hn
    rw [show Extract.ucs2toUTF8 [] = .panic "ucs2toUTF8/index" by unfold Extract.ucs2toUTF8 Extract.decodeUtf16; rfl]
    simp [eq_comm]
  · cases h : Extract.ucs2toUTF8 name with
    | panic q => exact absurd h (Extract.ucs2toUTF8_no_panic name hn q)
    | ok v => simp [hn]
    | err c => simp [hn]

/-- … which Locate never hands it: a name variableLocatorDecode returns has at least 4 bytes -/
theorem xUcs2toUTF8_decoded {loc g name : Bytes} (h : xVariableLocatorDecode loc = .ok (g, name)) (p : String) :
    xUcs2toUTF8 name ≠ .panic p := by
  intro hp
  have := ((xVariableLocatorDecode_spec loc).2 g name h).2.1
  rw [((xUcs2toUTF8_panic name p).mp hp).1] at this
  exact absurd this (by decide)

end GceTcb.EvlCost
