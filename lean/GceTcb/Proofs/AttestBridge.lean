import GceTcb.Proofs.AttestChain
import GceTcb.Proofs.DecTotal
/- The byte-level chain (Model/AttestChain) is the chain of Model/DecTotal (C07: totality, cost) with that
   model's third-party parameters for hex, base64 and the certificate table instantiated. -/
namespace GceTcb.AttestChain
open GceTcb GceTcb.Codec GceTcb.DecTotal

variable {Cert Roots Time : Type}

/-- the Extras map as Model/DecTotal holds it: keyed by uuid.UUID.String(); the last entry with a key first -/
def extrasOf (es : List (Bytes × Bytes)) : List (String × Bytes) :=
  ((es.filter (fun e => !isAmd e.1)).reverse).map (fun e => (Extract.uuidString e.1, e.2))

def toTee : Att → Tee
  | .proto t => t
  | .sevRaw m es => .sev (some ⟨some ⟨m⟩, some ⟨some (extrasOf es)⟩⟩)
  | .tdxRaw q => .tdx (some q)

def mapOut {α β : Type} (f : α → β) : Outcome α → Outcome β
  | .ok a => .ok (f a)
  | .err c => .err c
  | .panic s => .panic s

/-- Model/DecTotal's parameters for the text decoders and the certificate table, instantiated -/
def wireParsers (P : Parsers Cert Roots Time) : Parsers Cert Roots Time :=
  { P with
    hexDecode := fun t => HexB64.hexDecode t
    base64Decode := fun t => HexB64.b64Decode t
    certTableHeader := fun t => (parseHeader t).map (fun es => es.map (fun h => (h.off, h.len)))
    reportCertsToProto := fun d =>
      match AttestChain.reportCertsToProto d with
      | .ok a => (match toTee a with | .sev x => x | _ => none)
      | _ => none
    certTableProto := fun t =>
      match unmarshal t with
      | .ok es => some ⟨some (extrasOf es)⟩
      | _ => none
    certTableGet := fun t =>
      match unmarshal t with
      | .ok es => some (lookupFirst es gceGuid)
      | _ => none }

def protosOf (P : Parsers Cert Roots Time) : Protos :=
  ⟨P.unmarshalTpm, P.unmarshalSevAtt, P.unmarshalReport, P.unmarshalQuoteV4, P.quoteToProto⟩

theorem checkRanges_out (n : Nat) : ∀ (es : List Hdr) (total : Nat),
    okB (DecTotal.checkRanges n total (es.map (fun h => (h.off, h.len)))).out
      = .ok (AttestChain.checkRanges n total es)
  | [], _ => rfl
  | e :: rest, total => by
    simp only [List.map_cons, DecTotal.checkRanges, AttestChain.checkRanges, bind_def, bind_out, tick]
    by_cases h1 : e.off + e.len > n
    · simp only [if_pos h1]; rfl
    by_cases h2 : e.off + e.len > 4294967295
    · simp only [if_neg h1, if_pos h2]; rfl
    by_cases h3 : total + e.len > n
    · simp only [if_neg h1, if_neg h2, if_pos h3]; rfl
    · simp only [if_neg h1, if_neg h2, if_neg h3]
      exact checkRanges_out n rest (total + e.len)

theorem checkCertTable_out (P : Parsers Cert Roots Time) (t : Bytes) :
    (passes (DecTotal.checkCertTable (wireParsers P) t)).out = .ok (AttestChain.checkCertTable t) := by
  rw [passes_out]
  simp only [DecTotal.checkCertTable, AttestChain.checkCertTable, wireParsers]
  cases h : parseHeader t with
  | none => rfl
  | some es => exact checkRanges_out _ es 0

theorem rawFormats_first (P : Parsers Cert Roots Time) (q : Bytes) (hs : q.length < u32) :
    mapOut toTee (AttestChain.rawFormats (protosOf P) q) =
      match (if AttestChain.checkCertTable (if AttestChain.reportSize ≤ q.length then q.drop AttestChain.reportSize else [])
              then (wireParsers P).reportCertsToProto q else none) with
      | some a => .ok (.sev (some a))
      | none => mapOut toTee (tableOrTdx (protosOf P) q) := by
  rw [AttestChain.rawFormats]
  generalize h1 : AttestChain.checkCertTable _ = c
  cases c
  · rfl
  · obtain ⟨es1, he1⟩ := unmarshal_ok_of_check _ h1 (by
      split
      · rw [List.length_drop]; omega
      · decide)
    simp only [if_true, wireParsers, AttestChain.reportCertsToProto, he1]
    generalize reportAccepted _ = acc
    cases acc <;> rfl

/-- `hs`: the panic of go-sev-guest's 32-bit slice bound on 4 GiB is outside Model/DecTotal's parameter types -/
theorem rawFormats_bridge (P : Parsers Cert Roots Time) (q : Bytes) (hs : q.length < u32) :
    (DecTotal.rawFormats (wireParsers P) q).out = mapOut toTee (AttestChain.rawFormats (protosOf P) q) := by
  have hrc : (reportCertsOf q).out
      = .ok (if AttestChain.reportSize ≤ q.length then q.drop AttestChain.reportSize else []) := reportCertsOf_out q
  simp only [rawFormats_first P q hs, DecTotal.rawFormats, bind_def, bind_out, hrc, checkCertTable_out]
  generalize (if AttestChain.checkCertTable _ = true then _ else none) = first
  cases first
  · simp only [bind_out, checkCertTable_out, tableOrTdx]
    by_cases h2 : AttestChain.checkCertTable q = true
    · obtain ⟨es, he⟩ := unmarshal_ok_of_check q h2 hs
      simp only [h2, if_true, wireParsers, he, M.pure, mapOut, toTee]
    · simp only [h2, Bool.false_eq_true, if_false, quoteToProto, rawTdx, protosOf, wireParsers]
      cases P.quoteToProto q with
      | ok r => cases r <;> rfl
      | err c => rfl
      | panic s => rfl
  · rfl

/-- extract.Attestation: C07's totality and cost theorems speak of the left-hand side. -/
theorem attestation_bridge (P : Parsers Cert Roots Time) (q : Bytes) (hs : q.length < u32) :
    (DecTotal.attestation (wireParsers P) q).out = mapOut toTee (AttestChain.attestation (protosOf P) q) := by
  have hrest : ∀ x, (DecTotal.attestation.attestationRest (wireParsers P) q x).out
      = mapOut toTee (afterSevAtt goVariant (protosOf P) q) := fun _ => by
    simp only [DecTotal.attestation.attestationRest, afterSevAtt, afterProtos, goVariant, protosOf, wireParsers]
    cases P.unmarshalReport q with
    | some r => rfl
    | none =>
      cases P.unmarshalQuoteV4 q with
      | some x => rfl
      | none =>
        have h1 : (decodeQuote (wireParsers P) q).out = .ok (textDecode goVariant q) := decodeQuote_out _ q
        have h2 := rawFormats_bridge P (textDecode goVariant q) (Nat.lt_of_le_of_lt (textDecode_length q) hs)
        simp only [wireParsers, goVariant, protosOf] at h1 h2
        simp only [bind_def, bind_out, Bool.false_eq_true, if_false, h1, h2]
  simp only [DecTotal.attestation, AttestChain.attestation, attestationWith, beq_iff_eq, wireParsers, protosOf]
  by_cases h0 : q.length = 0
  · rw [if_pos h0, if_pos h0]; rfl
  rw [if_neg h0, if_neg h0]
  cases P.unmarshalTpm q with
  | some t => rfl
  | none =>
    cases P.unmarshalSevAtt q with
    | none => exact hrest _
    | some sa =>
      simp only []
      split
      · rfl
      · exact hrest _

end GceTcb.AttestChain
