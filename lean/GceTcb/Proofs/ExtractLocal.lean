import GceTcb.Proofs.Extract
import GceTcb.Spec.Extract
/-
Helper lemmas for C16: local-first behaviour of `endorsement` against the local evidence of Spec/Extract.lean,
and absence of panics with a reader.  Core-only.
-/
namespace GceTcb.Extract
open GceTcb GceTcb.Spec.Extract

-- The regenerated locator types as literals, for `simp` to decide the `if`s of `locate`.
theorem gen_raw : Gen.Names.rimLocationRaw = 0 := rfl
theorem gen_uri : Gen.Names.rimLocationURI = 1 := rfl
theorem gen_local : Gen.Names.rimLocationLocal = 2 := rfl
theorem gen_variable : Gen.Names.rimLocationVariable = 3 := rfl

theorem locate_raw (env : Env) (o : Options) (e : RimEvent) (h : e.locType = 0) :
    locate env o e = { out := .ok e.locator } := by
  simp [locate, h, gen_raw]

theorem locate_variable (env : Env) (o : Options) (e : RimEvent) (h : e.locType = 3) :
    locate env o e =
      match variableLocatorDecode e.locator with
      | none => { out := .err "varloc" }
      | some (guid, name) =>
        match o.reader with
        | none => { out := .err "locatereadernil" }
        | some root => readVariable env root guid name := by
  simp [locate, h, gen_raw, gen_uri, gen_variable]
  rfl

theorem locate_local (env : Env) (o : Options) (e : RimEvent) (h : e.locType = 2) :
    locate env o e = { out := .err "unsupported" } := by
  simp [locate, h, gen_raw, gen_uri, gen_variable]

theorem locate_uri (env : Env) (o : Options) (e : RimEvent) (h : e.locType = 1) :
    locate env o e =
      if o.hasGetter then
        match env.get (.verbatim e.locator) with
        | some b => { out := .ok b, urls := [.verbatim e.locator] }
        | none => { out := .err "get", urls := [.verbatim e.locator] }
      else { out := .err "locategetternil" } := by
  simp [locate, h, gen_raw, gen_uri]
  rfl

theorem decodeUtf16_ne_nil (bs : Bytes) (h : bs ≠ []) : decodeUtf16 bs ≠ [] := by
  fun_cases decodeUtf16 bs
  · exact absurd rfl h
  all_goals exact List.cons_ne_nil _ _

theorem variableLocatorDecode_name_ne_nil (loc g n : Bytes) (h : variableLocatorDecode loc = some (g, n)) : n ≠ [] := by
  simp only [variableLocatorDecode, Option.ite_none_left_eq_some, Option.ite_none_right_eq_some, Option.some.injEq,
    Prod.mk.injEq] at h
  obtain ⟨hl, _, _, _, rfl⟩ := h
  intro hn
  have := congrArg List.length hn
  simp only [List.length_drop, List.length_nil] at this
  omega

theorem ucs2toUTF8_no_panic (n : Bytes) (h : n ≠ []) : ∀ s, ucs2toUTF8 n ≠ .panic s := by
  intro s
  unfold ucs2toUTF8
  split
  · next hl => exact absurd (List.getLast?_eq_none_iff.mp hl) (decodeUtf16_ne_nil n h)
  · split <;> split <;> simp

theorem readVariable_no_panic (env : Env) (root : String) (g n : Bytes) (h : n ≠ []) :
    ∀ s, (readVariable env root g n).out ≠ .panic s := by
  intro s
  unfold readVariable varBasename
  split
  · split
    · simp
    · split <;> simp
  · simp
  · next s' hs =>
    split at hs
    · split at hs <;> simp at hs
    · simp at hs
    · next s'' hu => exact absurd hu (ucs2toUTF8_no_panic n h s'')

/-- The code's precedence list is the spec's pair followed by the local-file and URI types. -/
theorem select_agree (mfr : Bytes) (evs : List LogEvent) :
    (∀ e, selectEventBy [locRaw, locVariable] mfr evs = some e →
        selectEvent mfr evs = some e ∧ (e.locType = 0 ∨ e.locType = 3)) ∧
    (selectEventBy [locRaw, locVariable] mfr evs = none →
        ∀ e, selectEvent mfr evs = some e → e.locType = 2 ∨ e.locType = 1) := by
  have happ : selectEvent mfr evs = (selectEventBy [locRaw, locVariable] mfr evs).or (selectEventBy [2, 1] mfr evs) :=
    selectEventBy_append [0, 3] [2, 1] mfr evs
  refine ⟨fun e h => ⟨by rw [happ, h]; rfl, by simpa [locRaw, locVariable] using (selectEventBy_sound _ _ _ e h).2.2⟩,
    fun h e he => ?_⟩
  rw [happ, h, Option.none_or] at he
  simpa using (selectEventBy_sound _ _ _ e he).2.2

/-- how the specification reads the selected event (the inner part of `eventLogLocal`) -/
def localRead (env : Env) (o : Options) (e : RimEvent) : Option Bytes :=
  if e.locType = locRaw then some e.locator
  else
    match variableLocatorDecode e.locator, o.reader with
    | some (g, n), some root =>
      (match (readVariable env root g n).out with
       | .ok b => some b
       | _ => none)
    | _, _ => none

theorem locate_localRead (env : Env) (o : Options) (e : RimEvent) (ht : e.locType = 0 ∨ e.locType = 3) :
    (∀ b, localRead env o e = some b → (locate env o e).out = .ok b ∧ (locate env o e).urls = []) ∧
    (localRead env o e = none → o.reader.isSome = true → ∃ c, (locate env o e).out = .err c) := by
  unfold localRead
  rcases ht with ht | ht
  · rw [locate_raw env o e ht, if_pos (show e.locType = locRaw from ht)]
    exact ⟨fun b h => (by cases h; exact ⟨rfl, rfl⟩), fun h => (nomatch h)⟩
  · rw [locate_variable env o e ht, if_neg (show ¬ e.locType = locRaw by rw [ht]; decide)]
    cases hd : variableLocatorDecode e.locator with
    | none => exact ⟨fun b h => (nomatch h), fun _ _ => ⟨_, rfl⟩⟩
    | some gn =>
      obtain ⟨g, n⟩ := gn
      cases hr : o.reader with
      | none => exact ⟨fun b h => (nomatch h), fun _ h => nomatch h⟩
      | some root =>
        simp only
        cases ho : (readVariable env root g n).out with
        | ok b' => exact ⟨fun b h => (by cases h; exact ⟨rfl, readVariable_urls ..⟩), fun h => (nomatch h)⟩
        | err c => exact ⟨fun b h => (nomatch h), fun _ _ => ⟨c, rfl⟩⟩
        | panic s =>
          exact absurd ho (readVariable_no_panic env root g n (variableLocatorDecode_name_ne_nil _ g n hd) s)

theorem fromEventLog_parsed (env : Env) (o : Options) (evs : List LogEvent) (e : RimEvent)
    (hl : o.eventLog = some (.parsed evs)) (hs : selectEvent o.manufacturer evs = some e) :
    fromEventLog env o = locate env o e := by
  unfold fromEventLog
  rw [hl]
  simp only [hs]

theorem eventLogLocal_some (env : Env) (o : Options) (b : Bytes) (h : eventLogLocal env o = some b) :
    (fromEventLog env o).out = .ok b ∧ (fromEventLog env o).urls = [] := by
  unfold eventLogLocal at h
  split at h
  · next evs hl =>
    cases hs : selectEventBy [locRaw, locVariable] o.manufacturer evs with
    | none => rw [hs] at h; cases h
    | some e =>
      rw [hs] at h
      obtain ⟨hsel, ht⟩ := (select_agree _ _).1 e hs
      rw [fromEventLog_parsed env o evs e hl hsel]
      exact (locate_localRead env o e ht).1 b h
  · cases h

theorem eventLogLocal_none (env : Env) (o : Options) (h : eventLogLocal env o = none)
    (hr : o.reader.isSome = true) (hu : (fromEventLog env o).urls = []) :
    ∃ c, (fromEventLog env o).out = .err c := by
  rcases fromEventLog_cases env o with ⟨c, hc⟩ | ⟨evs, e, hl, hs, hf⟩
  · exact ⟨c, by rw [hc]⟩
  · rw [hf] at hu ⊢
    simp only [eventLogLocal, hl] at h
    cases hsp : selectEventBy [locRaw, locVariable] o.manufacturer evs with
    | some e' =>
      obtain ⟨hsel, ht⟩ := (select_agree _ _).1 e' hsp
      cases hs.symm.trans hsel
      rw [hsp] at h
      exact (locate_localRead env o e ht).2 h hr
    | none =>
      rcases (select_agree _ _).2 hsp e hs with ht | ht
      · rw [locate_local env o e ht]; exact ⟨_, rfl⟩
      · rw [locate_uri env o e ht] at hu ⊢
        by_cases hg : o.hasGetter = true
        · rw [if_pos hg] at hu
          cases hget : env.get (.verbatim e.locator) <;> rw [hget] at hu <;> simp at hu
        · rw [if_neg hg]; exact ⟨_, rfl⟩

theorem certTableEntry_some (t : Option Tee) (b : Bytes) (h : certTableEntry t = some b) :
    ∃ m, t = some (.sev m (some b)) ∧ b.isEmpty = false := by
  rcases t with _ | ⟨m, _ | x⟩ | m
  case some.sev.some =>
    simp only [certTableEntry, Option.ite_none_left_eq_some, Option.some.injEq] at h
    exact ⟨m, by rw [h.2], by simpa [← h.2] using h.1⟩
  all_goals nomatch h

theorem quotePhase_supplied_entry (env : Env) (o : Options) (urls : List Url) (paths : List String) (m b : Bytes)
    (hf : o.forceFetch = false) (hq : o.quote = some (.sev m (some b))) (hb : b.isEmpty = false) :
    quotePhase fromQuote false env o urls paths = { out := .ok b, urls := urls, paths := paths } := by
  unfold quotePhase
  rw [hq]
  by_cases hl : m.length = Gen.Names.sevMeasurementSize
  · simp [fromQuote, hl, hb, hf]
  · simp [fromQuote, hl, hb, hf]

theorem fromQuote_useless (t : Option Tee) (h1 : certTableEntry t = none) (h2 : hasFullMeasurement t = false) :
    fromQuote t = none ∨ ∃ b, fromQuote t = some (b, none) ∧ b.isEmpty = true := by
  rcases t with _ | tee
  · exact Or.inl rfl
  have hm : ¬ (teeMeasurement tee).length = 48 := by simpa [hasFullMeasurement, measurementSize] using h2
  rcases tee with ⟨m, x⟩ | m
  · refine Or.inr ⟨x.getD [], congrArg (fun n => some (x.getD [], n)) (if_neg hm), ?_⟩
    rcases x with _ | y
    · rfl
    · simpa [certTableEntry] using h1
  · exact Or.inr ⟨[], congrArg (fun n => some ([], n)) (if_neg hm), rfl⟩

theorem quotePhase_provider_entry (env : Env) (o : Options) (urls : List Url) (paths : List String) (m b : Bytes)
    (hf : o.forceFetch = false) (h1 : certTableEntry o.quote = none) (h2 : hasFullMeasurement o.quote = false)
    (hp : o.provider = some (some (some (.sev m (some b))))) (hb : b.isEmpty = false) :
    quotePhase fromQuote false env o urls paths = { out := .ok b, urls := urls, paths := paths, provCalls := 1 } := by
  unfold quotePhase
  -- either way the supplied quote hands over to the provider, whose quote carries `b`
  rcases fromQuote_useless o.quote h1 h2 with hn | ⟨b', hs, hb'⟩
  · rw [hn]; simp [hp, providerPhase, fromQuote, hb, hf]
  · rw [hs]; simp [hb', hp, providerPhase, fromQuote, hb, hf]

theorem quotePhase_localEvidence (env : Env) (o : Options) (b : Bytes) (urls : List Url) (paths : List String)
    (hf : o.forceFetch = false) (hel : eventLogLocal env o = none) (h : localEvidence env o = some b) :
    ∃ n, quotePhase fromQuote false env o urls paths = { out := .ok b, urls := urls, paths := paths, provCalls := n } := by
  simp only [localEvidence, hel] at h
  cases hq : certTableEntry o.quote with
  | some b' =>
    rw [hq] at h
    cases h
    obtain ⟨m, hq', hb⟩ := certTableEntry_some o.quote b hq
    exact ⟨0, quotePhase_supplied_entry env o urls paths m b hf hq' hb⟩
  | none =>
    rw [hq] at h
    simp only at h
    split at h
    · cases h
    · next hfull =>
      split at h
      · next t hp =>
        obtain ⟨m, rfl, hb⟩ := certTableEntry_some t b h
        exact ⟨1, quotePhase_provider_entry env o urls paths m b hf hq (by simpa using hfull) hp hb⟩
      · cases h

theorem endorsement_eventlog_ok (env : Env) (o : Options) (b : Bytes) (hf : o.forceFetch = false)
    (hl : o.eventLog.isSome = true) (h : (fromEventLog env o).out = .ok b) :
    endorsement env o = fromEventLog env o := by
  unfold endorsement endorsementWith
  simp only [hl, hf, Bool.not_false, Bool.and_self, if_true, h]

theorem endorsement_eventlog_err (env : Env) (o : Options) (c : String) (hf : o.forceFetch = false)
    (hl : o.eventLog.isSome = true) (h : (fromEventLog env o).out = .err c) :
    endorsement env o = quotePhase fromQuote false env o (fromEventLog env o).urls (fromEventLog env o).paths := by
  unfold endorsement endorsementWith
  simp only [hl, hf, Bool.not_false, Bool.and_self, if_true, h]

theorem endorsement_skip_eventlog (env : Env) (o : Options) (h : o.eventLog.isSome = false ∨ o.forceFetch = true) :
    endorsement env o = quotePhase fromQuote false env o [] [] := by
  unfold endorsement endorsementWith
  rcases h with h | h <;> simp [h]

theorem familyIDObjectPrefix_cases (fam : String) :
    familyIDObjectPrefix fam = family ∨ familyIDObjectPrefix fam = unknownFamily := by
  unfold familyIDObjectPrefix
  split
  · left; rfl
  · right; rfl

theorem endorsement_cases (env : Env) (o : Options) :
    endorsement env o = fromEventLog env o ∨
    endorsement env o = quotePhase fromQuote false env o (fromEventLog env o).urls (fromEventLog env o).paths ∨
    endorsement env o = quotePhase fromQuote false env o [] [] := by
  unfold endorsement endorsementWith
  split
  · split
    · left; rfl
    · left; rfl
    · right; left; rfl
  · right; right; rfl

theorem fromEventLog_urls_verbatim (env : Env) (o : Options) (u : Url) (hu : u ∈ (fromEventLog env o).urls) :
    ∃ evs e, o.eventLog = some (.parsed evs) ∧ selectEvent o.manufacturer evs = some e ∧
      e.locType = locURI ∧ u = .verbatim e.locator := by
  rcases fromEventLog_cases env o with ⟨c, hc⟩ | ⟨evs, e, hl, hs, hc⟩ <;> rw [hc] at hu
  · cases hu
  · rcases locate_urls env o e with h | ⟨ht, _, h⟩ <;> rw [h] at hu
    · cases hu
    · exact ⟨evs, e, hl, hs, ht, List.mem_singleton.mp hu⟩

end GceTcb.Extract
