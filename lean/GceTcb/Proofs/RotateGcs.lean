import GceTcb.Proofs.RotateDefs
/-
C10: specifications of the steps of `rotateKey` in the program logic of Proofs/Hoare.lean, for one arbitrary fault
script.  The steps that only read the authority are specified over an interface (`CAReads`) that both authorities
implement; rotate.Key on the deferred authority (gcsca) is proved over any key manager and signer (`rotateWith_gcs`).
-/
namespace GceTcb.CA

variable {sc : Nat → Fault}

section leaf
variable {ow : Bool} {P X : St → Prop}

theorem stReader_spec (o : String) (hP : Stable P) :
    Tr sc ow P (stReader o) (fun r s => r = lookup s.store o ∧ P s) P :=
  Tr.get (.stR o) rfl hP fun _ _ => ⟨_, rfl, rfl⟩

theorem stExists_spec (o : String) (hP : Stable P) :
    Tr sc ow P (stExists o) (fun r s => r = (lookup s.store o).isSome ∧ P s) P :=
  Tr.get (.stE o) rfl hP fun _ _ => ⟨_, rfl, rfl⟩

/-- the shape of `sgPub`, `sgSign` and `kmsSign` -/
theorem keyCall_spec (c : Call) (hc : c.isDestroy = false) (k : String) (mat : Nat) (hP : Stable P)
    (hk : ∀ s, P s → lookup s.keys k = some mat) :
    Tr sc ow P (wrap c (do let s ← getSt; ofOption (lookup s.keys k))) (fun a s => a = mat ∧ P s) P :=
  Tr.get c hc hP fun s h => ⟨mat, by rw [hk s h]; rfl, rfl⟩

/-- storage/ops.WriteFile: the object changes exactly when Close completes. `Q' f` describes the state
    after the commit when the script gave Close the outcome `f`. -/
theorem writeFile_spec (o : String) (data : Obj) {Q' : Fault → St → Prop}
    (hP : Stable P) (hPX : ∀ s, P s → X s)
    (hcommit : ∀ s f, P s → Q' f { (s.logged (.stC o) f) with store := (o, data) :: s.store })
    (hQX : ∀ f s, Q' f s → X s) :
    Tr sc ow P (writeFile o data) (fun _ s => Q' .ok s) X := by
  unfold writeFile
  refine Triple.bind (Q1 := fun _ s => P s) ?_ ?_
  · exact Tr.call (.stW o) (hP.logged rfl) hPX (Triple.pure _ (fun _ h => h)) (fun _ => hPX)
  intro _
  refine Triple.bind (Q1 := fun w s => match w with
      | some _ => P s
      | none => P s ∧ (¬ NoFault sc ∨ ow = false)) ?_ ?_
  · have h1 : Tr sc ow P (wrap (.stWr o) (pure ())) (fun _ s => P s) P :=
      Tr.call (.stWr o) (hP.logged rfl) (fun _ h => h) (Triple.pure _ (fun _ h => h)) (fun _ _ h => h)
    exact (Triple.attempt (R' := fun s => X s ∧ (¬ NoFault sc ∨ ow = false)) h1).conseq (fun _ h => h)
      (fun a s h => by cases a <;> exact h) (fun _ h => h) (fun s h => ⟨hPX s h.1, h.2⟩)
  intro w
  cases w with
  | none =>
    show Triple sc _ (wrap (.stC o) (pure ()) >>= fun _ => throw) _ _ _
    refine Triple.of_fact (φ := ¬ NoFault sc ∨ ow = false) (P := P) ?_ |>.pre (fun s h => ⟨h.2, h.1⟩)
    intro hacct
    refine Triple.bind (Q1 := fun _ s => P s) ?_ (fun _ => Triple.throw (fun s h => ⟨hPX s h, hacct⟩))
    exact Tr.call (.stC o) (hP.logged rfl) hPX (Triple.pure _ (fun _ h => h)) (fun _ => hPX)
  | some u =>
    show Triple sc _ (wrap (.stC o) (modSt fun s => { s with store := (o, data) :: s.store })) _ _ _
    exact Tr.wrapI (P' := fun f s' => ∃ s, P s ∧ s' = s.logged (.stC o) f) (Q' := fun f _ s => Q' f s) (.stC o)
      (fun s f h => ⟨s, h, rfl⟩)
      (fun s h => hPX _ (hP s _ _ (.of_isDestroy rfl) h))
      (fun f => Triple.modSt _ (fun s' ⟨s, h, e⟩ => by subst e; exact hcommit s f h))
      (fun _ s h => hQX _ s h)

theorem parentMatches_of_all {r : Cert} {pre : List Nat} (h : ∀ a ∈ pre, a = r.pub) :
    parentMatches (some r) pre = true := by
  unfold parentMatches
  cases hl : pre.getLast? with
  | none => rfl
  | some p => simp [h p (List.mem_of_getLast? hl)]

/-- x509.CreateCertificate over any signer: `pub` and `sign` are the signer's two calls on the issuer key
    (`createCertificate` and `createCertificateK` are instances, by `rfl`) -/
def createWith (cfg : Cfg) (req : Req) (subjPub : Nat) (issuer : Option Cert) (pub sign : Run Nat) : Run Cert := do
  let pre ← repeatRun cfg.pubPre pub
  if !parentMatches issuer pre then throw
  else do
    let by_ ← sign
    let _ ← repeatRun cfg.pubPost pub
    pure ⟨req.cn, req.serial, subjPub, by_⟩

/-- go: sops.CreateCertificateFromTemplate -/
theorem createWith_spec (cfg : Cfg) (req : Req) (subjPub : Nat) (r : Cert) {pub sign : Run Nat}
    (hpub : Tr sc ow P pub (fun a s => a = r.pub ∧ P s) P) (hsign : Tr sc ow P sign (fun a s => a = r.pub ∧ P s) P) :
    Tr sc ow P (createWith cfg req subjPub (some r) pub sign)
      (fun c s => c = ⟨req.cn, req.serial, subjPub, r.pub⟩ ∧ P s) P := by
  unfold createWith
  refine Triple.bind (Triple.repeatRun hpub cfg.pubPre) fun pre => Triple.of_fact fun hpre => ?_
  rw [parentMatches_of_all hpre]
  show Triple sc _ (sign >>= fun b => _) _ _ _
  refine Triple.bind hsign fun b => Triple.of_fact fun hb => ?_
  refine Triple.bind (Triple.repeatRun hpub cfg.pubPost) fun _ => ?_
  exact Triple.pure _ (fun s h => ⟨by rw [hb], h.2⟩)

/-- What the rotation reads from the authority while `P` holds: the primary `cur`, the root key `root` (live, and the
    key of the root certificate `r`), and the certificate of a key version (its failure is tolerated: `ow = false`). -/
structure CAReads (cfg : Cfg) (P : St → Prop) (cur root : String) (r : Cert) : Prop where
  stable : Stable P
  psk : ∀ {sc ow}, Tr sc ow P (caPsk cfg) (fun p s => p = cur ∧ P s) P
  prk : ∀ {sc ow}, Tr sc ow P (caPrk cfg) (fun p s => p = root ∧ P s) P
  issuer : ∀ {sc ow}, Tr sc ow P (caIssuer cfg) (fun c s => c = r ∧ P s) P
  cert : ∀ {sc} (kvn : String), Tr sc false P (caCert cfg kvn) (fun _ s => P s) P
  kroot : ∀ s, P s → lookup s.keys root = some r.pub

variable {cfg : Cfg} {cur root : String} {r : Cert}

/-- go: keyRequest.getCurrentInfo -/
theorem CAReads.getCurrentInfo (h : CAReads cfg P cur root r) :
    Tr sc ow P (getCurrentInfo cfg) (fun x s => x = (cur, root, r) ∧ P s) P := by
  unfold CA.getCurrentInfo
  refine Triple.bind h.psk fun _ => Triple.of_fact fun h1 => ?_
  refine Triple.bind h.prk fun _ => Triple.of_fact fun h2 => ?_
  refine Triple.bind h.issuer fun _ => Triple.of_fact fun h3 => ?_
  exact Triple.pure _ (fun s h => ⟨by rw [h1, h2, h3], h⟩)

/-- go: memkm.signingKeyTemplateFrom (its calls) -/
theorem CAReads.kmTemplate (h : CAReads cfg P cur root r) : Tr sc ow P (kmTemplate cfg) (fun _ s => P s) P := by
  unfold CA.kmTemplate
  refine Triple.bind h.psk fun p => Triple.pre ?_ (fun s h => h.2)
  refine Triple.bind (Q1 := fun _ s => P s) ?_ (fun _ => Triple.pure _ (fun _ h => h))
  exact (Triple.attempt (h.cert p)).conseq (fun _ h => h)
    (fun a s h => by
      cases a with
      | none => exact h.1
      | some _ => exact h) (fun _ h => h) (fun _ h => h)

/-- go: memkm/localkm CreateNewSigningKeyVersion -/
theorem CAReads.kmCreate (h : CAReads cfg P cur root r) {Q : St → Prop}
    (hgen : ∀ s, P s → Q { s with keys := (cfg.bump cur, s.nextMat) :: s.keys, nextMat := s.nextMat + 1 })
    (hQP : ∀ s, Q s → P s) :
    Tr sc ow P (kmCreate cfg) (fun kv s => kv = cfg.bump cur ∧ Q s) P := by
  unfold CA.kmCreate
  refine Tr.call .kmCreate (h.stable.logged rfl) (fun _ h => h) ?_ (fun _ s h => hQP s h.2)
  refine Triple.bind h.psk fun p => Triple.of_fact fun hp => ?_
  rw [hp]
  unfold genKey
  exact Triple.bind (Q1 := fun _ s => Q s) (Triple.modSt _ hgen) fun _ => Triple.pure _ (fun s h => ⟨rfl, h⟩)

/-- go: rotate.signCert.  `hadd` is left to the authority: memca adds the certificate to itself at once, gcsca only
    to the mutation. -/
theorem CAReads.signCert (h : CAReads cfg P cur root r) (req : Req) {K : String} {mat : Nat}
    (hk : ∀ s, P s → lookup s.keys K = some mat) {mu : Mut} {Q : St → Prop}
    (hadd : Tr sc ow P (mutAddCert cfg {} K ⟨req.cn, req.serial, mat, r.pub⟩) (fun m s => m = mu ∧ Q s) P) :
    Tr sc ow P (signCert cfg req {} r K root) (fun x s => x = (mu, ⟨req.cn, req.serial, mat, r.pub⟩) ∧ Q s) P := by
  unfold CA.signCert
  refine Triple.bind (keyCall_spec (.sgPub K) rfl K mat h.stable hk) fun sp => Triple.of_fact fun hsp => ?_
  rw [hsp]
  refine Triple.bind h.kmTemplate fun _ => ?_
  refine Triple.bind (m := createCertificate cfg req mat root (some r))
    (createWith_spec cfg req mat r (keyCall_spec (.sgPub root) rfl root r.pub h.stable h.kroot)
      (keyCall_spec (.sgSign root) rfl root r.pub h.stable h.kroot)) fun c => Triple.of_fact fun hc => ?_
  rw [hc]
  exact Triple.bind hadd fun _ => Triple.of_fact fun hm => Triple.pure _ (fun s h => ⟨by rw [hm], h⟩)

/-- What rotate.Key needs of the step that retires the old primary `cur` after the commit: the step keeps what is known
    of the durable state and does not depend on that key (`I`), keeps the commit in the log, and establishes `D`. -/
def DestroySpec (sc : Nat → Fault) (ow : Bool) (cfg : Cfg) (cur : String) (destroy : Run Unit) (D : St → Prop) : Prop :=
  ∀ {I : St → Prop} {mat : Nat}, (∀ s c f, I s → I (s.logged c f)) →
    (∀ s kd, I s → I { s with keys := erase s.keys cur, kdead := kd }) →
    Tr sc ow (fun s => I s ∧ lookup s.keys cur = some mat ∧ Committed cfg s.log) destroy
      (fun _ s => (I s ∧ Committed cfg s.log) ∧ D s) (fun s => I s ∧ Committed cfg s.log)

/-- go: DestroyKeyVersion of the old primary after the commit, on the nonprod managers -/
theorem destroyOld_spec (h0 : cur ≠ "") : DestroySpec sc ow cfg cur (destroyOld cfg cur) (fun _ => True) := by
  intro I mat hlog herase
  unfold destroyOld kmDestroy
  rw [if_pos h0]
  refine Tr.call (.kmDestroy cur) (fun s f h => ⟨hlog s _ f h.1, h.2.1, h.2.2.snoc _⟩) (fun _ h => ⟨h.1, h.2.2⟩) ?_
    (fun _ _ h => h.1)
  refine Triple.getSt_bind fun s0 h0 => ?_
  rw [h0.2.1, if_neg (by simp)]
  exact Triple.modSt _ fun s hs => by subst hs; exact ⟨⟨herase s s.kdead h0.1, h0.2.2⟩, trivial⟩

end leaf

section gcs
variable {ow : Bool}
variable (cfg : Cfg) (m0 : Manifest) (r c0 : Cert) (path0 : String)

/-- Phase predicate: the durable state is the good initial one (witnesses `m0 r c0 path0`), the cached
    manifest (if any; `cached = true`: certainly) is the stored one, no key has been destroyed, and the
    key `kk` (once created) is live with the given material. -/
structure Ph (cached : Bool) (kk : Option (String × Nat)) (s : St) : Prop where
  inv : InvG cfg m0 r c0 path0 s
  cache : if cached then s.cache = some m0 else (s.cache = none ∨ s.cache = some m0)
  nd : NoDestroy s.log
  key : ∀ k mat, kk = some (k, mat) → lookup s.keys k = some mat

variable {cfg m0 r c0 path0}

theorem Ph.stable (b : Bool) (kk : Option (String × Nat)) : Stable (Ph cfg m0 r c0 path0 b kk) :=
  fun _ _ f hc h => ⟨h.inv.transfer rfl rfl, h.cache, h.nd.snoc hc f, h.key⟩

theorem Ph.weaken {b : Bool} {kk : Option (String × Nat)} {s : St} (h : Ph cfg m0 r c0 path0 b kk s) :
    Ph cfg m0 r c0 path0 false none s :=
  ⟨h.inv, by
    have := h.cache
    cases b with
    | true => exact Or.inr this
    | false => exact this, h.nd, fun _ _ e => by cases e⟩

theorem Ph.safeN (hca : cfg.ca = .gcsca) {b : Bool} {kk : Option (String × Nat)} {s : St}
    (h : Ph cfg m0 r c0 path0 b kk s) : SafeN cfg s :=
  ⟨h.inv.inv hca, h.nd⟩

theorem Ph.add_key {b : Bool} {s s' : St} {K : String} (h : Ph cfg m0 r c0 path0 b none s)
    (h1 : K ≠ m0.signing) (h2 : K ≠ m0.root) (mat : Nat)
    (hf1 : s'.store = s.store) (hf2 : s'.keys = (K, mat) :: s.keys) (hf3 : s'.cache = s.cache)
    (hf4 : s'.log = s.log) :
    Ph cfg m0 r c0 path0 b (some (K, mat)) s' :=
  ⟨h.inv.of_lookups (by rw [hf1]) (by rw [hf1]) (by rw [hf1]) (by rw [hf2]; exact lookup_cons_ne h1)
      (by rw [hf2]; exact lookup_cons_ne h2),
    by rw [hf3]; exact h.cache, by rw [hf4]; exact h.nd,
    fun k m e => by cases e; rw [hf2]; exact lookup_cons_self⟩

/-- go: gcsca.getManifest.  The specifications below never need to know that the cache is loaded (`cached = false`
    throughout): Finalize overwrites the cached manifest before `upload` consults it. -/
theorem getManifest_spec (kk : Option (String × Nat)) :
    Tr sc ow (Ph cfg m0 r c0 path0 false kk) getManifest
      (fun m s => m = m0 ∧ Ph cfg m0 r c0 path0 false kk s) (Ph cfg m0 r c0 path0 false kk) := by
  unfold getManifest
  refine Triple.getSt_bind fun s0 h0 => ?_
  cases hc : s0.cache with
  | some m =>
    have hm : m = m0 := by
      have := h0.cache
      simp [hc] at this; exact this
    exact Triple.pure _ (fun s hs => by subst hs; exact ⟨hm, h0⟩)
  | none =>
    show Triple sc _ (stReader manifestName >>= fun r => _) _ _ _
    refine Triple.bind (Q1 := fun ro s => ro = some (.manifest m0) ∧ Ph cfg m0 r c0 path0 false kk s) ?_ ?_
    · exact (stReader_spec manifestName (Ph.stable false kk)).conseq
        (fun s hs => by subst hs; exact h0) (fun a s h => ⟨by rw [h.1, h.2.inv.man], h.2⟩) (fun _ h => h) (fun _ h => h)
    intro rr
    refine Triple.of_fact fun hr => ?_
    subst hr
    show Triple sc _ ((modSt fun s => { s with cache := some m0 }) >>= fun _ => pure m0) _ _ _
    refine Triple.bind (Q1 := fun _ s => Ph cfg m0 r c0 path0 false kk s)
      (Triple.modSt _ fun s h => ⟨h.inv.transfer rfl rfl, Or.inr rfl, h.nd, h.key⟩) fun _ => ?_
    exact Triple.pure _ (fun s h => ⟨rfl, h⟩)

theorem caField_spec {α : Type} (c : Call) (hc : c.isDestroy = false) (g : Manifest → α) (kk : Option (String × Nat)) :
    Tr sc ow (Ph cfg m0 r c0 path0 false kk) (wrap c (do let m ← getManifest; pure (g m)))
      (fun p s => p = g m0 ∧ Ph cfg m0 r c0 path0 false kk s) (Ph cfg m0 r c0 path0 false kk) :=
  Tr.call c ((Ph.stable false kk).logged hc) (fun _ h => h)
    (Triple.bind (getManifest_spec kk) fun m => Triple.pure _ (fun s h => ⟨by rw [h.1], h.2⟩)) (fun _ _ h => h.2)

/-- go: sops.IssuerCertFromBundle over gcsca.CABundle -/
theorem caIssuer_spec (hca : cfg.ca = .gcsca) (kk : Option (String × Nat)) :
    Tr sc ow (Ph cfg m0 r c0 path0 false kk) (caIssuer cfg)
      (fun c s => c = r ∧ Ph cfg m0 r c0 path0 false kk s) (Ph cfg m0 r c0 path0 false kk) := by
  unfold caIssuer; rw [hca]
  refine Tr.call .caBundle ((Ph.stable false kk).logged rfl) (fun _ h => h) ?_ (fun _ _ h => h.2)
  show Triple sc _ (stReader cfg.rootPath >>= fun ro => _) _ _ _
  refine Triple.bind (Q1 := fun ro s => ro = some (.pem r) ∧ Ph cfg m0 r c0 path0 false kk s) ?_ ?_
  · exact (stReader_spec cfg.rootPath (Ph.stable false kk)).post (fun a s h => ⟨by rw [h.1, h.2.inv.root], h.2⟩)
  intro ro
  refine Triple.of_fact fun hr => ?_
  rw [hr]
  exact Triple.pure _ (fun s h => ⟨rfl, h⟩)

/-- go: gcsca.Certificate, as used where its error is swallowed -/
theorem caCert_weak (hca : cfg.ca = .gcsca) (kvn : String) (kk : Option (String × Nat)) :
    Tr sc false (Ph cfg m0 r c0 path0 false kk) (caCert cfg kvn)
      (fun _ s => Ph cfg m0 r c0 path0 false kk s) (Ph cfg m0 r c0 path0 false kk) := by
  unfold caCert; rw [hca]
  refine Tr.call (.caCert kvn) ((Ph.stable false kk).logged rfl) (fun _ h => h) ?_ (fun _ _ h => h)
  refine Triple.bind (getManifest_spec kk) fun m => Triple.pre ?_ (fun s h => h.2)
  cases lookup m.entries kvn with
  | none => exact Triple.throw (fun _ h => ⟨h, Or.inr rfl⟩)
  | some path =>
    show Triple sc _ (stReader path >>= fun ro => _) _ _ _
    refine Triple.bind (stReader_spec path (Ph.stable false kk)) fun ro => Triple.pre ?_ (fun s h => h.2)
    cases ro with
    | none => exact Triple.throw (fun _ h => ⟨h, Or.inr rfl⟩)
    | some o =>
      cases o with
      | der c => exact Triple.pure _ (fun _ h => h)
      | pem c => exact Triple.throw (fun _ h => ⟨h, Or.inr rfl⟩)
      | manifest mm => exact Triple.throw (fun _ h => ⟨h, Or.inr rfl⟩)

theorem Ph.caReads (hca : cfg.ca = .gcsca) (kk : Option (String × Nat)) :
    CAReads cfg (Ph cfg m0 r c0 path0 false kk) m0.signing m0.root r where
  stable := Ph.stable false kk
  psk := by unfold caPsk; rw [hca]; exact caField_spec .caPsk rfl (·.signing) kk
  prk := by unfold caPrk; rw [hca]; exact caField_spec .caPrk rfl (·.root) kk
  issuer := caIssuer_spec hca kk
  cert := fun kvn => caCert_weak hca kvn kk
  kroot := fun _ h => h.inv.kroot

theorem mutAddCert_gcs (hca : cfg.ca = .gcsca) (mu : Mut) (k : String) (c : Cert) :
    mutAddCert cfg mu k c = pure { mu with certs := (k, c) :: erase mu.certs k } := by
  unfold mutAddCert; rw [hca]

theorem mutSetPrimary_gcs (hca : cfg.ca = .gcsca) (mu : Mut) (k : String) :
    mutSetPrimary cfg mu k = pure { mu with primarySigning := some k } := by
  unfold mutSetPrimary; rw [hca]

/-- inside Finalize: the durable state is still the initial one, possibly with the new certificate
    object `obj` already written; the cached manifest is `cm`. -/
structure PhF (cfg : Cfg) (m0 : Manifest) (r c0 : Cert) (path0 : String) (K : String) (mat : Nat)
    (cm : Manifest) (obj : Option (String × Cert)) (s : St) : Prop where
  inv : InvG cfg m0 r c0 path0 s
  cache : s.cache = some cm
  nd : NoDestroy s.log
  key : lookup s.keys K = some mat
  obj : ∀ t c, obj = some (t, c) → lookup s.store t = some (.der c)

/-- after the manifest write: the durable state is the new good one (witnesses `m3 r C T`), the old
    primary key is still live, nothing was destroyed, and (when the Close call was not the crash point)
    the commit call is in the log. -/
structure PhD (cfg : Cfg) (m0 : Manifest) (r c0 : Cert) (m3 : Manifest) (C : Cert) (T : String)
    (f : Fault) (s : St) : Prop where
  inv : InvG cfg m3 r C T s
  old : lookup s.keys m0.signing = some c0.pub
  nd : NoDestroy s.log
  com : f = .ok → commitCall cfg ∈ s.log

theorem PhF.stable {K : String} {mat : Nat} {cm : Manifest} {obj : Option (String × Cert)} :
    Stable (PhF cfg m0 r c0 path0 K mat cm obj) :=
  fun _ _ f hc h => ⟨h.inv.transfer rfl rfl, h.cache, h.nd.snoc hc f, h.key, h.obj⟩

theorem PhF.safeN (hca : cfg.ca = .gcsca) {K : String} {mat : Nat} {cm : Manifest} {obj : Option (String × Cert)}
    {s : St} (h : PhF cfg m0 r c0 path0 K mat cm obj s) : SafeN cfg s :=
  ⟨h.inv.inv hca, h.nd⟩

theorem PhD.safeN (hca : cfg.ca = .gcsca) {m3 : Manifest} {C : Cert} {T : String} {f : Fault}
    {s : St} (h : PhD cfg m0 r c0 m3 C T f s) : SafeN cfg s :=
  ⟨h.inv.inv hca, h.nd⟩

theorem PhF.safe (hca : cfg.ca = .gcsca) {K : String} {mat : Nat} {cm : Manifest} {obj : Option (String × Cert)}
    {s : St} (h : PhF cfg m0 r c0 path0 K mat cm obj s) : Safe cfg s :=
  (h.safeN hca).safe

theorem PhD.safe (hca : cfg.ca = .gcsca) {m3 : Manifest} {C : Cert} {T : String} {f : Fault}
    {s : St} (h : PhD cfg m0 r c0 m3 C T f s) : Safe cfg s :=
  (h.safeN hca).safe

/-- go: gcsca.upload.  The refusal when `cm` records `T` for another key version comes before any storage call. -/
theorem upload_spec (hca : cfg.ca = .gcsca) {K T : String} {mat : Nat} {cm : Manifest} {C : Cert}
    (hT : uploadName cfg cm K C = T) (ht1 : T ≠ manifestName) (ht2 : T ≠ cfg.rootPath)
    (ht3 : heldByOther cm T K = false → T ≠ path0) :
    Tr sc (cfg.overwrite && !heldByOther cm T K) (PhF cfg m0 r c0 path0 K mat cm none) (upload cfg K C)
      (fun _ s => heldByOther cm T K = false ∧ PhF cfg m0 r c0 path0 K mat (withEntry cm K T) (some (T, C)) s)
      (SafeN cfg) := by
  unfold upload
  refine Triple.getSt_bind fun s0 h0 => Triple.pre ?_ (fun s hs => by subst hs; exact h0)
  rw [h0.cache]
  show Triple sc _ (if heldByOther cm (uploadName cfg cm K C) K = true then throw else
    (writeIfAllowed cfg (uploadName cfg cm K C) (.der C) >>= fun _ => _)) _ _ _
  rw [hT]
  refine Triple.ite (fun hc => Triple.throw fun s h => ⟨h.safeN hca, Or.inr (by simp [hc])⟩) fun hc => ?_
  have hcf : heldByOther cm T K = false := by simpa using hc
  refine Triple.bind (Q1 := fun _ s => PhF cfg m0 r c0 path0 K mat cm (some (T, C)) s) ?_ fun _ => ?_
  · unfold writeIfAllowed
    refine Triple.bind ((stExists_spec T PhF.stable).weakenX (fun _ h => h.safeN hca))
      fun ex => Triple.pre ?_ (fun s h => h.2)
    refine Triple.ite (fun hex => Triple.throw fun s h => ⟨h.safeN hca, Or.inr ?_⟩) fun _ => ?_
    · simp at hex; simp [hex.2]
    refine Triple.bind (Q1 := fun _ s => PhF cfg m0 r c0 path0 K mat cm (some (T, C)) s) ?_
      (fun _ => Triple.pure _ (fun _ h => h))
    exact writeFile_spec (Q' := fun _ s => PhF cfg m0 r c0 path0 K mat cm (some (T, C)) s) T (.der C) PhF.stable
      (fun _ h => h.safeN hca)
      (fun s f h => ⟨h.inv.of_lookups (lookup_cons_ne ht1) (lookup_cons_ne ht2)
          (lookup_cons_ne (ht3 hcf)) rfl rfl,
        h.cache, h.nd.snoc (.of_isDestroy rfl) f, h.key, fun t c e => by cases e; exact lookup_cons_self⟩)
      (fun _ _ h => h.safeN hca)
  · refine Triple.modSt _ fun s h => ⟨hcf, h.inv.transfer rfl rfl, ?_, h.nd, h.key, h.obj⟩
    show some (withEntry (s.cache.getD Manifest.empty) K (uploadName cfg (s.cache.getD Manifest.empty) K C)) = _
    rw [h.cache]
    show some (withEntry cm K (uploadName cfg cm K C)) = _
    rw [hT]

/-- go: gcsca.writeManifest: the completed Close is the commit. -/
theorem writeManifest_spec (hca : cfg.ca = .gcsca) {K T : String} {mat : Nat} {cm : Manifest} {C : Cert}
    (hs : cm.signing = K) (hr : cm.root = m0.root) (he : lookup cm.entries K = some T)
    (hpub : C.pub = mat) (hsig : C.sigBy = r.pub) (hK0 : K ≠ "") (hKr : K ≠ m0.root) (ht1 : T ≠ manifestName) :
    Tr sc ow (PhF cfg m0 r c0 path0 K mat cm (some (T, C))) writeManifest
      (fun _ s => PhD cfg m0 r c0 cm C T .ok s) (SafeN cfg) := by
  unfold writeManifest
  refine Triple.getSt_bind fun s0 h0 => Triple.pre ?_ (fun s hs => by subst hs; exact h0)
  rw [h0.cache]
  refine writeFile_spec (Q' := fun f s => PhD cfg m0 r c0 cm C T f s) manifestName _ PhF.stable
    (fun _ h => h.safeN hca) (fun s f h => ?_) (fun _ _ h => h.safeN hca)
  have hi := h.inv
  exact ⟨⟨lookup_cons_self, (lookup_cons_ne (Ne.symm hi.rm)).trans hi.root, by rw [hs]; exact he,
      (lookup_cons_ne (Ne.symm ht1)).trans (h.obj _ _ rfl), by rw [hs, hpub]; exact h.key, hsig,
      by rw [hr]; exact hi.kroot, by rw [hs]; exact hK0, by rw [hr]; exact hi.root_ne, by rw [hs, hr]; exact hKr, ht1,
      hi.rm, by rw [hr]; exact hi.broot⟩,
    hi.kprim, h.nd.snoc (.of_isDestroy rfl) f, fun hf => by
      subst hf
      show commitCall cfg ∈ s.log ++ [(Call.stC manifestName, Fault.ok)]
      unfold commitCall; rw [hca]; simp⟩

def rotatedManifest (cfg : Cfg) (req : Req) (m0 : Manifest) : Manifest :=
  withEntry { m0 with signing := cfg.bump m0.signing } (cfg.bump m0.signing) (target cfg req m0)

theorem rotatedManifest_signing (req : Req) : (rotatedManifest cfg req m0).signing = cfg.bump m0.signing := by
  unfold rotatedManifest; rw [withEntry_signing]

theorem rotatedManifest_root (req : Req) : (rotatedManifest cfg req m0).root = m0.root := by
  unfold rotatedManifest; rw [withEntry_root]

/-- go: gcsca.Finalize, for the mutation a rotation builds -/
theorem caFinalize_spec (hca : cfg.ca = .gcsca) (hb1 : cfg.bump m0.signing ≠ m0.signing)
    (hb2 : cfg.bump m0.signing ≠ "") (req : Req) (mat : Nat)
    (ht1 : target cfg req m0 ≠ manifestName) (ht2 : target cfg req m0 ≠ cfg.rootPath) :
    Tr sc (cfg.overwrite && !claimed cfg req m0) (Ph cfg m0 r c0 path0 false (some (cfg.bump m0.signing, mat)))
      (caFinalize cfg { certs := [(cfg.bump m0.signing, ⟨req.cn, req.serial, mat, r.pub⟩)],
                        primarySigning := some (cfg.bump m0.signing) }
        [(cfg.bump m0.signing, ⟨req.cn, req.serial, mat, r.pub⟩)])
      (fun _ s => claimed cfg req m0 = false ∧
        PhD cfg m0 r c0 (rotatedManifest cfg req m0) ⟨req.cn, req.serial, mat, r.pub⟩ (target cfg req m0) .ok s)
      (SafeN cfg) := by
  refine Triple.have_fact (φ := lookup m0.entries m0.signing = some path0 ∧ cfg.bump m0.signing ≠ m0.root)
    (fun s h => ⟨h.inv.entry, h.inv.broot _⟩) fun ⟨hm0e, hbr⟩ => ?_
  unfold caFinalize; rw [hca]
  refine Tr.call .caFin ((Ph.stable _ _).logged rfl) (fun _ h => h.safeN hca) ?_ (fun _ s h => h.2.safeN hca)
  unfold gcsFinalize
  refine Triple.bind ((getManifest_spec _).weakenX (fun _ h => h.safeN hca))
    fun m => Triple.of_fact fun hm => ?_
  have hm2 : applyPrimaries { certs := [(cfg.bump m0.signing, ⟨req.cn, req.serial, mat, r.pub⟩)],
                              primarySigning := some (cfg.bump m0.signing) } m0 =
      { m0 with signing := cfg.bump m0.signing } := applyPrimaries_eq _ m0
  rw [hm, hm2]
  refine Triple.bind (Q1 := fun _ s => PhF cfg m0 r c0 path0 (cfg.bump m0.signing) mat
      { m0 with signing := cfg.bump m0.signing } none s)
    (Triple.modSt _ fun s h => ⟨h.inv.transfer rfl rfl, rfl, h.nd, h.key _ mat rfl, fun _ _ e => by cases e⟩)
    fun _ => ?_
  -- the one pending certificate; the object of the old primary's certificate is held by the old primary
  refine Triple.bind (Q1 := fun _ s => claimed cfg req m0 = false ∧ PhF cfg m0 r c0 path0 (cfg.bump m0.signing) mat
      (rotatedManifest cfg req m0) (some (target cfg req m0, ⟨req.cn, req.serial, mat, r.pub⟩)) s) ?_
    fun _ => Triple.of_fact fun hcf => ?_
  · show Triple sc _ (upload cfg _ _ >>= fun _ => uploadAll cfg []) _ _ _
    exact Triple.bind (upload_spec hca rfl ht1 ht2 fun hcf e => by
      have := heldByOther_of_lookup (kvn := cfg.bump m0.signing) hm0e (Ne.symm hb1)
      rw [← e] at this
      exact absurd (this.symm.trans hcf) (by simp)) fun _ => Triple.pure _ (fun _ h => h)
  -- no root certificate in the mutation; the primary changed: the manifest is written
  show Triple sc _ ((pure () : Run Unit) >>= fun _ => _) _ _ _
  refine Triple.bind (Triple.pure (Q := fun _ s => PhF cfg m0 r c0 path0 (cfg.bump m0.signing) mat
    (rotatedManifest cfg req m0) (some (target cfg req m0, ⟨req.cn, req.serial, mat, r.pub⟩)) s) () (fun _ h => h))
    fun _ => ?_
  rw [if_pos (by simp)]
  exact (writeManifest_spec hca (C := ⟨req.cn, req.serial, mat, r.pub⟩) (rotatedManifest_signing req)
    (rotatedManifest_root req) (withEntry_lookup _ _ _) rfl rfl hb2 hbr ht1).post (fun _ _ h => ⟨hcf, h⟩)

/-- rotate.Key over any key manager and signer: `rotateKey` and `rotateKeyKms` are instances, by `rfl` -/
def rotateWith (cfg : Cfg) (create : Run String) (sign : Cert → String → String → Run (Mut × Cert))
    (destroy : String → Run Unit) : Run String := do
  let kver ← create
  let (cur, root, issuer) ← getCurrentInfo cfg
  if root = "" ∨ kver = "" then throw
  else do
    let (mu, _) ← sign issuer kver root
    let mu ← mutSetPrimary cfg mu kver
    caFinalize cfg mu mu.certs
    destroy cur
    pure kver

/-- rotate.Key on the deferred authority, given what the key manager and the signer do.  `D` is what the manager
    reports of the destroy in addition; `B` is the allowance for errors without a fault: it must cover Finalize's
    (`overwrite` off, or the target object claimed). -/
theorem rotateWith_gcs (hca : cfg.ca = .gcsca) (req : Req) (hb1 : cfg.bump m0.signing ≠ m0.signing)
    (hb2 : cfg.bump m0.signing ≠ "")
    (ht1 : target cfg req m0 ≠ manifestName) (ht2 : target cfg req m0 ≠ cfg.rootPath)
    {B : Bool} (hB : (cfg.overwrite && !claimed cfg req m0) = false → B = false)
    {P0 D : St → Prop}
    {create : Run String} {sign : Cert → String → String → Run (Mut × Cert)} {destroy : String → Run Unit}
    (hcreate : Tr sc B P0 create (fun kv s => kv = cfg.bump m0.signing ∧
      ∃ mat, Ph cfg m0 r c0 path0 false (some (cfg.bump m0.signing, mat)) s) (Ph cfg m0 r c0 path0 false none))
    (hsign : ∀ mat, Tr sc B (Ph cfg m0 r c0 path0 false (some (cfg.bump m0.signing, mat)))
      (sign r (cfg.bump m0.signing) m0.root)
      (fun x s => x = ({ certs := [(cfg.bump m0.signing, ⟨req.cn, req.serial, mat, r.pub⟩)] },
          ⟨req.cn, req.serial, mat, r.pub⟩) ∧ Ph cfg m0 r c0 path0 false (some (cfg.bump m0.signing, mat)) s)
      (Ph cfg m0 r c0 path0 false (some (cfg.bump m0.signing, mat))))
    (hdestroy : m0.signing ≠ "" → DestroySpec sc B cfg m0.signing (destroy m0.signing) D) :
    Tr sc B P0 (rotateWith cfg create sign destroy)
      (fun kv s => kv = cfg.bump m0.signing ∧ claimed cfg req m0 = false ∧ ∃ mat, (InvG cfg (rotatedManifest cfg req m0) r
        ⟨req.cn, req.serial, mat, r.pub⟩ (target cfg req m0) s ∧ DAC cfg s.log ∧ DACK cfg s.log) ∧ D s)
      (SafeK cfg) := by
  unfold rotateWith
  refine Triple.bind (hcreate.weakenX fun _ h => (h.safeN hca).safeK)
    fun kver => Triple.of_fact fun hk => Triple.of_exists fun mat => ?_
  refine Triple.have_fact (φ := m0.signing ≠ m0.root ∧ m0.signing ≠ "") (fun s h => ⟨h.inv.sr, h.inv.sig_ne⟩) fun hst => ?_
  refine Triple.bind (((Ph.caReads hca _).getCurrentInfo).weakenX
    (fun _ h => (h.safeN hca).safeK)) fun x => Triple.of_fact fun hx => ?_
  rw [hx, hk]
  show Triple sc _ (if m0.root = "" ∨ cfg.bump m0.signing = "" then throw else _) _ _ _
  refine Triple.ite (fun hc => Triple.unreach fun s h => hc.elim h.inv.root_ne hb2) fun _ => ?_
  refine Triple.bind ((hsign mat).weakenX (fun _ h => (h.safeN hca).safeK))
    fun y => Triple.of_fact fun hy => ?_
  rw [hy]
  show Triple sc _ (mutSetPrimary cfg _ (cfg.bump m0.signing) >>= fun mu => _) _ _ _
  rw [mutSetPrimary_gcs hca]
  show Triple sc _ (caFinalize cfg _ [(cfg.bump m0.signing, ⟨req.cn, req.serial, mat, r.pub⟩)] >>= fun _ => _) _ _ _
  refine Triple.bind (((caFinalize_spec hca hb1 hb2 req mat ht1 ht2).ow_mono hB).weakenX fun _ h => h.safeK)
    fun _ => Triple.of_fact fun hcf => ?_
  -- the new durable state does not depend on the old primary's key: the primary and the root are other keys
  refine Triple.bind ((hdestroy hst.2 (fun _ _ _ h => h.transfer rfl rfl) (fun _ _ h => h.of_lookups rfl rfl rfl
      (lookup_erase_ne _ _ _ (by rw [rotatedManifest_signing]; exact hb1))
      (lookup_erase_ne _ _ _ (by rw [rotatedManifest_root]; exact Ne.symm hst.1)))).weaken
    (fun _ h => ⟨h.inv, h.old, .of_noDestroy h.nd (h.com rfl)⟩) (fun _ _ h => h) (fun _ h => ⟨h.1.inv hca, h.2.2⟩)) fun _ => ?_
  exact Triple.pure _ (fun s h => ⟨rfl, hcf, mat, ⟨h.1.1, h.1.2.2⟩, h.2⟩)

/-- go: rotate.Key on the deferred authority, for one arbitrary fault script: a normal return means the
    durable state is the rotated one; an error or a crash leaves a durable state satisfying the
    invariant; every log satisfies destroy-after-commit; a crash needs a fault, an error needs a fault,
    overwrite = false, or a target object that another key version holds (`claimed`). -/
theorem rotateKey_gcs (hca : cfg.ca = .gcsca) (hb : BumpOK cfg) (req : Req)
    (ht1 : target cfg req m0 ≠ manifestName) (ht2 : target cfg req m0 ≠ cfg.rootPath) :
    Tr sc (cfg.overwrite && !claimed cfg req m0) (Ph cfg m0 r c0 path0 false none) (rotateKey cfg req)
      (fun kv s => kv = cfg.bump m0.signing ∧ claimed cfg req m0 = false ∧ ∃ mat, InvG cfg (rotatedManifest cfg req m0) r
        ⟨req.cn, req.serial, mat, r.pub⟩ (target cfg req m0) s ∧ DAC cfg s.log)
      (Safe cfg) :=
  (rotateWith_gcs (sign := signCert cfg req {}) (destroy := destroyOld cfg) (D := fun _ => True)
      hca req (hb.1 _) (hb.2 _) ht1 ht2 (fun e => e)
      ((Ph.caReads hca none).kmCreate (Q := fun s => ∃ mat, Ph cfg m0 r c0 path0 false (some (cfg.bump m0.signing, mat)) s)
        (fun s h => ⟨s.nextMat, h.add_key (hb.1 _) (h.inv.broot _) _ rfl rfl rfl rfl⟩) (fun _ ⟨_, h⟩ => h.weaken))
      (fun mat => (Ph.caReads hca _).signCert req (fun _ h => h.key _ mat rfl)
        (by rw [mutAddCert_gcs hca]; exact Triple.pure _ (fun _ h => ⟨rfl, h⟩)))
      destroyOld_spec).weaken
    (fun _ h => h) (fun _ _ ⟨hk, hcf, mat, h, _⟩ => ⟨hk, hcf, mat, h.1, h.2.1⟩) (fun _ h => ⟨h.1, h.2.1⟩)

end gcs
end GceTcb.CA
