import GceTcb.Proofs.ProtoWire
/-
"Last wins", as theorems about the codec: which occurrence of a field a decoded message holds.

* VMLaunchEndorsement: `decodeEndorsement` is total on every sequence of fields, and the message it
  yields holds the LAST length-delimited field 1 as payload, the LAST length-delimited field 2 as
  signature (`decodeEndorsement_fields`), also when unmarshalled into a message that already holds some
  (`decodeEndorsementInto_fields`).
* VMGoldenMeasurement: the scalar / bytes fields the verifier reads before the signature check (cl_spec,
  commit, cert) and the digest are the last occurrences in the payload, and an embedded message is present
  exactly when a field with its number and wire type 2 occurs (`decodeGolden_last`).

Core-only.
-/
namespace GceTcb.ProtoWire
open GceTcb

def isLen (num : Nat) (f : Field) : Option Bytes :=
  if f.num = num then (match f.val with | .len p => some p | _ => none) else none

def isVarint (num : Nat) (f : Field) : Option Nat :=
  if f.num = num then (match f.val with | .varint v => some v | _ => none) else none

def isU64 (num : Nat) (f : Field) : Option Nat := (isVarint num f).map (· % 18446744073709551616)

/-- what a `match` on (number, wire type) leaves behind in its fall-through branch -/
theorem isLen_none {k n : Nat} {v : Val} {r : Bytes} (h : ∀ p, n = k → v = .len p → False) :
    isLen k ⟨n, v, r⟩ = none := by
  unfold isLen
  split
  · next hn =>
    cases v with
    | len p => exact (h p hn rfl).elim
    | _ => rfl
  · rfl

theorem isVarint_none {k n : Nat} {v : Val} {r : Bytes} (h : ∀ x, n = k → v = .varint x → False) :
    isVarint k ⟨n, v, r⟩ = none := by
  unfold isVarint
  split
  · next hn =>
    cases v with
    | varint x => exact (h x hn rfl).elim
    | _ => rfl
  · rfl

/-- the last field of `fs` that `sel` selects, `d` when there is none -/
def lastD {α : Type} (sel : Field → Option α) (d : α) : List Field → α
  | [] => d
  | f :: fs => lastD sel ((sel f).getD d) fs

/-- the last length-delimited field `num` of `fs`, `d` when there is none -/
abbrev lastLenD (num : Nat) (d : Bytes) (fs : List Field) : Bytes := lastD (isLen num) d fs

theorem lastD_append {α : Type} (sel : Field → Option α) (d : α) (a b : List Field) :
    lastD sel d (a ++ b) = lastD sel (lastD sel d a) b := by
  induction a generalizing d with
  | nil => rfl
  | cons f fs ih => simp only [List.cons_append, lastD]; exact ih _

theorem lastD_absent {α : Type} (sel : Field → Option α) (d : α) (fs : List Field) (h : ∀ f ∈ fs, sel f = none) :
    lastD sel d fs = d := by
  induction fs generalizing d with
  | nil => rfl
  | cons f fs ih =>
    simp only [lastD]
    rw [h f (List.mem_cons_self), Option.getD_none]
    exact ih d (fun g hg => h g (List.mem_cons_of_mem _ hg))

theorem lastD_present {α : Type} (sel : Field → Option α) (d d' : α) (fs : List Field) (h : ∃ f ∈ fs, (sel f).isSome) :
    lastD sel d fs = lastD sel d' fs := by
  induction fs generalizing d d' with
  | nil => obtain ⟨f, hf, _⟩ := h; cases hf
  | cons f fs ih =>
    simp only [lastD]
    cases hl : sel f with
    | some p => simp only [Option.getD_some]
    | none =>
      simp only [Option.getD_none]
      apply ih
      obtain ⟨g, hg, hs⟩ := h
      rcases List.mem_cons.mp hg with rfl | hg'
      · rw [hl] at hs; cases hs
      · exact ⟨g, hg', hs⟩

/-- the unknown-field bytes of a container: tag and raw value of every field that is neither a length-delimited
    field 1 nor a length-delimited field 2 -/
def unkEnd : List Field → Bytes
  | [] => []
  | f :: fs => (if (isLen 1 f).isSome || (isLen 2 f).isSome then [] else f.unknownBytes) ++ unkEnd fs

theorem unkEnd_append (a b : List Field) : unkEnd (a ++ b) = unkEnd a ++ unkEnd b := by
  induction a with
  | nil => rfl
  | cons f fs ih => simp only [List.cons_append, unkEnd, ih, List.append_assoc]

theorem stepEndorsement_eq (m : WEndorsement) (f : Field) :
    stepEndorsement m f = some ⟨(isLen 1 f).getD m.serializedUefiGolden, (isLen 2 f).getD m.signature,
      m.unknown ++ (if (isLen 1 f).isSome || (isLen 2 f).isSome then [] else f.unknownBytes)⟩ := by
  obtain ⟨num, val, raw⟩ := f
  unfold stepEndorsement
  dsimp only
  split
  · simp [isLen]
  · simp [isLen]
  · next h1 h2 => simp [isLen_none h1, isLen_none h2]

/-- Unmarshal into a VMLaunchEndorsement that already holds `m`: the container fold never fails, and yields
    last payload, last signature, the rest as unknown bytes. -/
theorem decodeEndorsementInto_fields (m : WEndorsement) (b : Bytes) (fs : List Field) (h : parseFields b = some fs) :
    decodeInto stepEndorsement m b = some ⟨lastLenD 1 m.serializedUefiGolden fs, lastLenD 2 m.signature fs,
      m.unknown ++ unkEnd fs⟩ := by
  unfold decodeInto
  rw [h]
  clear h
  induction fs generalizing m with
  | nil => simp [foldFields, lastD, unkEnd]
  | cons f fs ih => simp only [foldFields, stepEndorsement_eq, ih, lastLenD, lastD, unkEnd, List.append_assoc]

theorem decodeEndorsement_fields (b : Bytes) (fs : List Field) (h : parseFields b = some fs) :
    decodeEndorsement b = some ⟨lastLenD 1 [] fs, lastLenD 2 [] fs, unkEnd fs⟩ := by
  have := decodeEndorsementInto_fields .zero b fs h
  simpa [decodeEndorsement, WEndorsement.zero] using this

theorem decodeEndorsement_isSome (b : Bytes) : (decodeEndorsement b).isSome = (parseFields b).isSome := by
  cases h : parseFields b with
  | none => simp [decodeEndorsement, decodeInto, h]
  | some fs => rw [decodeEndorsement_fields b fs h]; rfl

/-- what one field does to the parts of the golden measurement the verifier reads before the signature
    check, and to the presence of the embedded messages -/
theorem stepGolden_reads (m m' : WGolden) (f : Field) (h : stepGolden m f = some m') :
    m'.clSpec = (isU64 2 f).getD m.clSpec ∧
    m'.commit = (isLen 3 f).getD m.commit ∧ m'.cert = (isLen 4 f).getD m.cert ∧
    m'.digest = (isLen 5 f).getD m.digest ∧
    (m'.timestamp.isSome = (m.timestamp.isSome || (isLen 1 f).isSome)) ∧
    (m'.sevSnp.isSome = (m.sevSnp.isSome || (isLen 7 f).isSome)) ∧
    (m'.tdx.isSome = (m.tdx.isSome || (isLen 8 f).isSome)) := by
  obtain ⟨num, val, raw⟩ := f
  unfold stepGolden at h
  dsimp only at h
  split at h
  · split at h
    · cases h
    · cases h; simp [isLen, isVarint, isU64]
  · cases h; simp [isLen, isVarint, isU64]
  · cases h; simp [isLen, isVarint, isU64]
  · cases h; simp [isLen, isVarint, isU64]
  · cases h; simp [isLen, isVarint, isU64]
  · cases h; simp [isLen, isVarint, isU64]
  · split at h
    · cases h
    · cases h; simp [isLen, isVarint, isU64]
  · split at h
    · cases h
    · cases h; simp [isLen, isVarint, isU64]
  · next h1 h2 h3 h4 h5 _ h7 h8 =>
    cases h
    simp [isLen_none h1, isVarint_none h2, isLen_none h3, isLen_none h4, isLen_none h5, isLen_none h7, isLen_none h8, isU64]

def hasLen (num : Nat) (fs : List Field) : Bool := fs.any (fun f => (isLen num f).isSome)

theorem hasLen_cons (num : Nat) (f : Field) (fs : List Field) :
    hasLen num (f :: fs) = ((isLen num f).isSome || hasLen num fs) := by
  simp [hasLen]

/-- The golden-measurement fold: last cl_spec / commit / cert / digest; an embedded message is present
    exactly when it was present before or a length-delimited field with its number occurs. -/
theorem foldGolden_reads (fs : List Field) : ∀ (m g : WGolden), foldFields stepGolden m fs = some g →
    g.clSpec = lastD (isU64 2) m.clSpec fs ∧ g.commit = lastLenD 3 m.commit fs ∧
    g.cert = lastLenD 4 m.cert fs ∧ g.digest = lastLenD 5 m.digest fs ∧
    g.timestamp.isSome = (m.timestamp.isSome || hasLen 1 fs) ∧
    g.sevSnp.isSome = (m.sevSnp.isSome || hasLen 7 fs) ∧ g.tdx.isSome = (m.tdx.isSome || hasLen 8 fs) := by
  induction fs with
  | nil =>
    intro m g h
    simp only [foldFields, Option.some.injEq] at h
    subst h
    simp [lastD, hasLen]
  | cons f fs ih =>
    intro m g h
    simp only [foldFields] at h
    cases hs : stepGolden m f with
    | none => rw [hs] at h; cases h
    | some m' =>
      rw [hs] at h
      obtain ⟨a1, a2, a3, a4, a5, a6, a7⟩ := stepGolden_reads m m' f hs
      obtain ⟨b1, b2, b3, b4, b5, b6, b7⟩ := ih m' g h
      simp only [lastLenD, lastD, hasLen_cons]
      refine ⟨by rw [b1, a1], by rw [b2, a2], by rw [b3, a3], by rw [b4, a4], ?_, ?_, ?_⟩
      · rw [b5, a5, Bool.or_assoc]
      · rw [b6, a6, Bool.or_assoc]
      · rw [b7, a7, Bool.or_assoc]

theorem decodeGolden_last (b : Bytes) (g : WGolden) (fs : List Field) (hp : parseFields b = some fs)
    (h : decodeGolden b = some g) :
    g.clSpec = lastD (isU64 2) 0 fs ∧ g.commit = lastLenD 3 [] fs ∧ g.cert = lastLenD 4 [] fs ∧
    g.digest = lastLenD 5 [] fs ∧ g.timestamp.isSome = hasLen 1 fs ∧ g.sevSnp.isSome = hasLen 7 fs ∧
    g.tdx.isSome = hasLen 8 fs := by
  unfold decodeGolden decodeInto at h
  rw [hp] at h
  simpa [WGolden.zero] using foldGolden_reads fs .zero g h

end GceTcb.ProtoWire
