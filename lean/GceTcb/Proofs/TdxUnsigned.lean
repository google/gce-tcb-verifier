import GceTcb.Proofs.TdxGlue
import GceTcb.Proofs.TdxShapes
/-
C08 (TDX half) — tdx.UnsignedTDX / generateAllPossibleMRTDs never panic when every entry of the shape
table is well formed (C05_shapes).  Core-only.
-/
namespace GceTcb.Mrtd
open GceTcb GceTcb.Intervals

theorem machineType_no_panic (table : List (String × Nat × Nat × Nat))
    (ht : ∀ e ∈ table, ShapeOK (shapeOfEntry e)) (name : String) :
    ¬ (machineTypeToRAMBanks table name).isPanic := by
  cases hf : findShape table name with
  | none => unfold machineTypeToRAMBanks; rw [hf]; simp [Outcome.isPanic]
  | some s =>
    obtain ⟨banks, hb, _⟩ := shapeOK_of_table table ht name s hf
    rw [hb]; simp [Outcome.isPanic]

/-- parametric in "tdx.MRTD does not panic on this image" -/
theorem shapeMeasurements_no_panic' (H : Bytes → Bytes) (table : List (String × Nat × Nat × Nat))
    (ht : ∀ e ∈ table, ShapeOK (shapeOfEntry e)) (fw : Bytes) (hmr : ∀ o, ¬ (mrtd H o fw).isPanic) (early : Bool) :
    ∀ (names : List String), ¬ (shapeMeasurements H table fw early names).isPanic := by
  intro names
  induction names with
  | nil => simp [shapeMeasurements, Outcome.isPanic]
  | cons name rest ih =>
    unfold shapeMeasurements
    have h1 := machineType_no_panic table ht name
    cases hb : machineTypeToRAMBanks table name with
    | panic p => rw [hb] at h1; simp [Outcome.isPanic] at h1
    | err c => simp [Outcome.isPanic]
    | ok banks =>
      simp only []
      have h2 := hmr { banks := banks, measureAllRegions := true }
      cases hm : mrtd H { banks := banks, measureAllRegions := true } fw with
      | panic p => rw [hm] at h2; simp [Outcome.isPanic] at h2
      | err c => simp [Outcome.isPanic]
      | ok m1 =>
        simp only []
        cases hr : shapeMeasurements H table fw early rest with
        | panic p => rw [hr] at ih; simp [Outcome.isPanic] at ih
        | err c => simp [Outcome.isPanic]
        | ok ms => simp [Outcome.isPanic]

theorem unsignedTDX_no_panic' (H : Bytes → Bytes) (table : List (String × Nat × Nat × Nat))
    (ht : ∀ e ∈ table, ShapeOK (shapeOfEntry e)) (fw : Bytes) (hmr : ∀ o, ¬ (mrtd H o fw).isPanic) (early : Bool)
    (names : List String) : ¬ (unsignedTDX H table fw early names).isPanic := by
  unfold unsignedTDX
  have h1 := shapeMeasurements_no_panic' H table ht fw hmr early names
  cases hs : shapeMeasurements H table fw early names with
  | panic p => rw [hs] at h1; simp [Outcome.isPanic] at h1
  | err c => simp [Outcome.isPanic]
  | ok ms =>
    simp only []
    have h2 := hmr {}
    cases hm : mrtd H {} fw with
    | panic p => rw [hm] at h2; simp [Outcome.isPanic] at h2
    | err c => simp [Outcome.isPanic]
    | ok m => simp [Outcome.isPanic]

theorem unsignedTDX_no_panic (H : Bytes → Bytes) (table : List (String × Nat × Nat × Nat))
    (ht : ∀ e ∈ table, ShapeOK (shapeOfEntry e)) (fw : Bytes) (hfw : fw.length < 2 ^ 36) (early : Bool)
    (names : List String) : ¬ (unsignedTDX H table fw early names).isPanic :=
  unsignedTDX_no_panic' H table ht fw (fun o => mrtd_no_panic H o fw hfw) early names

end GceTcb.Mrtd
