import GceTcb.Proofs.TdxNoPanic
/-
C05 / C08 — the gluing step.  On validated sections the section loop of tdxFwParser.parse is an
equation: it stops with "overlap" unless the declared ranges are pairwise apart, and otherwise appends
one region per section in declared order (`parseLoop_eq`); so is parse itself on accepted metadata
(`parse_eq`): overlap error, panic when the TD_HOB index does not fit an int32, else the outcome of
getTDHOBList written into the TD_HOB region.  What parse returns (`parse_iff`), when it panics
(`parse_panic_iff`) and the bounds of C08 are read off these.  Core-only.
-/
namespace GceTcb.TdxHob
open GceTcb GceTcb.Codec GceTcb.Codecs GceTcb.Intervals GceTcb.TdxMeta

/-! ### overlap check -/

/-- ovmf.GuestPhysicalRegion.intersect on ranges that do not wrap: empty exactly when no address is in both -/
theorem intersect_len_zero_iff (a b : Gpr) (ha : a.start + a.len < 2 ^ 64) (hb : b.start + b.len < 2 ^ 64) :
    (intersect a b).len = 0 ↔ ∀ x, ¬ (a.mem x ∧ b.mem x) := by
  have ea := end_of_lt ha
  have eb := end_of_lt hb
  have sa : a.start % 2 ^ 64 = a.start := Nat.mod_eq_of_lt (by omega)
  have sb : b.start % 2 ^ 64 = b.start := Nat.mod_eq_of_lt (by omega)
  unfold intersect
  rw [ea, eb, sa, sb]
  unfold Gpr.mem
  by_cases h : a.start ≥ b.start + b.len ∨ b.start ≥ a.start + a.len
  · rw [if_pos h]
    exact ⟨fun _ x hx => by omega, fun _ => rfl⟩
  · rw [if_neg h, wrap_sub _ _ (by omega) (by omega)]
    by_cases hz : min (a.start + a.len) (b.start + b.len) - max a.start b.start = 0
    · rw [if_pos hz]
      exact ⟨fun _ x hx => by omega, fun _ => rfl⟩
    · rw [if_neg hz]
      exact ⟨fun h0 => absurd h0 hz, fun hx => absurd (hx (max a.start b.start)) (by omega)⟩

/-- what validateMetadataSectionGpr demands of an earlier range and the new one -/
abbrev Apart (a b : Gpr) : Prop := (intersect a b).len = 0

theorem pairwise_apart_iff (l : List Gpr) (hl : NoOverflow l) : l.Pairwise Apart ↔ DisjointL l :=
  List.Pairwise.iff_of_mem fun ha hb => intersect_len_zero_iff _ _ (hl _ ha) (hl _ hb)

/-! ### the section loop -/

/-- the memory range a section declares -/
def gprOf (s : TdxSection) : Gpr := ⟨s.memoryBase, s.memorySize⟩
/-- go: `attributes |= abi.TDXMetadataAttributeExtendMR` when MeasureAllRegions -/
def attrsOf (ma : Bool) (s : TdxSection) : Nat := if ma then s.attributes ||| 1 else s.attributes
/-- the host buffer the section loop of parse attaches to a section (fvExtend / zeroExtend) -/
def bufOf (ma : Bool) (fw : Bytes) (s : TdxSection) : HostBuf :=
  if s.sectionType = 0 ∨ s.sectionType = 1 then ⟨sliceOf fw s.dataOffset (s.dataOffset + s.dataSize), 0⟩
  else ⟨[], if ma then s.memorySize else 0⟩
/-- the region the section loop of parse appends for a section -/
def regionOf (ma : Bool) (fw : Bytes) (s : TdxSection) : Region := ⟨gprOf s, bufOf ma fw s, attrsOf ma s⟩

/-- the state of the loop after a section that meets no earlier one; the zero buffer is what `make` is
    asked for, the overlap check has looked at every earlier region -/
def pushSection (ma : Bool) (fw : Bytes) (st : PState) (s : TdxSection) : PState :=
  { regions := st.regions ++ [regionOf ma fw s], priv := st.priv ++ [gprOf s],
    hobIndex := if isHob s then some st.index else st.hobIndex, index := st.index + 1,
    alloc := st.alloc + (bufOf ma fw s).pad, ticks := st.ticks + st.regions.length }

/-- One iteration of the section loop on a validated section: "overlap" or `pushSection`.  The slice
    `fw[DataOffset : DataOffset+size]` is in range because validation put the raw data inside the image. -/
theorem parseStep_ok (ma : Bool) (fw : Bytes) (s : TdxSection) (st : PState) (hs : SecOK (fw.length % 2 ^ 32) s) :
    parseStep ma fw s st =
      if st.regions.any (fun r => (intersect r.gpr (gprOf s)).len ≠ 0) then .err "overlap"
      else .ok (pushSection ma fw st s) := by
  obtain ⟨_, _, s3, s4⟩ := hs
  unfold parseStep validateMetadataSectionGpr
  rw [show gprOf s = ⟨s.memoryBase, s.memorySize⟩ from rfl]
  by_cases hov : (st.regions.any fun r => decide ((intersect r.gpr ⟨s.memoryBase, s.memorySize⟩).len ≠ 0)) = true
  · simp only [hov, if_true]
  simp only [hov]
  by_cases t01 : s.sectionType = 0 ∨ s.sectionType = 1
  · obtain ⟨f1, f2, _⟩ := s4 t01
    have hmod : (s.dataOffset + s.memorySize % 2 ^ 32) % 2 ^ 32 = s.dataOffset + s.dataSize := by
      have : fw.length % 2 ^ 32 < 2 ^ 32 := Nat.mod_lt _ (by decide)
      rw [f1]; omega
    have hle : fw.length % 2 ^ 32 ≤ fw.length := Nat.mod_le _ _
    have t2 : ¬ s.sectionType = 2 := by omega
    have t3 : ¬ s.sectionType = 3 := by omega
    rw [if_neg t2, if_neg t3, if_pos t01, hmod, goSlice_ok _ _ _ _ (by omega)]
    simp [pushSection, regionOf, bufOf, attrsOf, gprOf, isHob, t01, t2]
  · have t23 : s.sectionType = 2 ∨ s.sectionType = 3 := by omega
    rcases t23 with t | t <;> simp [pushSection, regionOf, bufOf, attrsOf, gprOf, isHob, t]

theorem pushSection_gprs (ma : Bool) (fw : Bytes) (st : PState) (s : TdxSection) :
    (pushSection ma fw st s).regions.map (·.gpr) = st.regions.map (·.gpr) ++ [gprOf s] := by
  simp [pushSection, regionOf]

/-- The section loop of parse on validated sections, from a state whose ranges are pairwise apart: it
    succeeds exactly when the declared ranges keep it so. -/
theorem parseLoop_eq (ma : Bool) (fw : Bytes) : ∀ (ss : List TdxSection) (st : PState),
    (∀ s ∈ ss, SecOK (fw.length % 2 ^ 32) s) → (st.regions.map (·.gpr)).Pairwise Apart →
    parseLoop ma fw ss st =
      if (st.regions.map (·.gpr) ++ ss.map gprOf).Pairwise Apart then .ok (ss.foldl (pushSection ma fw) st)
      else .err "overlap" := by
  intro ss
  induction ss with
  | nil => intro st _ hp; rw [List.map_nil, List.append_nil, if_pos hp]; rfl
  | cons s ss ih =>
    intro st hs hp
    have hmeet : st.regions.any (fun r => (intersect r.gpr (gprOf s)).len ≠ 0) = true ↔
        ¬ ∀ a ∈ st.regions.map (·.gpr), Apart a (gprOf s) := by simp
    rw [parseLoop, parseStep_ok ma fw s st (hs s (List.mem_cons_self ..)), List.map_cons]
    by_cases hov : st.regions.any (fun r => (intersect r.gpr (gprOf s)).len ≠ 0) = true
    · rw [if_pos hov, if_neg fun h => hmeet.mp hov fun a ha =>
        (List.pairwise_append.mp h).2.2 a ha _ (List.mem_cons_self ..)]
    · have hap := Classical.not_not.mp (mt hmeet.mpr hov)
      rw [if_neg hov]
      simp only []
      rw [ih _ (fun x hx => hs x (List.mem_cons_of_mem _ hx)), pushSection_gprs, List.append_assoc]
      · rfl
      · rw [pushSection_gprs]
        exact List.pairwise_append.mpr ⟨hp, List.pairwise_singleton .., fun a ha b hb => by
          rw [List.mem_singleton.mp hb]; exact hap a ha⟩

theorem findIdx_isHob_cons (s : TdxSection) (ss : List TdxSection) :
    (s :: ss).findIdx isHob = if isHob s then 0 else ss.findIdx isHob + 1 := by
  rw [List.findIdx_cons]; cases isHob s <;> rfl

/-- The state after the loop: one region and one private range per section in declared order, the
    index of the (last) TD_HOB section, at most the declared memory requested from `make`, at most
    `|sections|` overlap tests per section beyond the regions already there. -/
theorem runSections (ma : Bool) (fw : Bytes) : ∀ (ss : List TdxSection) (st : PState),
    (ss.foldl (pushSection ma fw) st).regions = st.regions ++ ss.map (regionOf ma fw) ∧
    (ss.foldl (pushSection ma fw) st).priv = st.priv ++ ss.map gprOf ∧
    (hobCount ss = 0 → (ss.foldl (pushSection ma fw) st).hobIndex = st.hobIndex) ∧
    (hobCount ss = 1 → (ss.foldl (pushSection ma fw) st).hobIndex = some (st.index + ss.findIdx isHob)) ∧
    (ss.foldl (pushSection ma fw) st).alloc ≤ st.alloc + memSum ss ∧
    (ss.foldl (pushSection ma fw) st).ticks ≤ st.ticks + ss.length * (st.regions.length + ss.length) := by
  intro ss
  induction ss with
  | nil => intro st; simp [hobCount, memSum]
  | cons s ss ih =>
    intro st
    obtain ⟨i1, i2, i3, i4, i5, i6⟩ := ih (pushSection ma fw st s)
    have hpad : (bufOf ma fw s).pad ≤ s.memorySize := by
      unfold bufOf; split
      · exact Nat.zero_le _
      · cases ma <;> simp
    rw [List.foldl_cons, hobCount_cons, findIdx_isHob_cons]
    refine ⟨by rw [i1]; simp [pushSection], by rw [i2]; simp [pushSection], ?_, ?_, ?_, ?_⟩
    · intro hc
      have hn : isHob s = false := by cases h : isHob s <;> simp_all
      rw [i3 (by omega)]; simp [pushSection, hn]
    · intro hc
      cases h : isHob s with
      | true => rw [i3 (by simp [h] at hc; exact hc)]; simp [pushSection, h]
      | false => rw [i4 (by simp [h] at hc; exact hc)]; simp [pushSection, h]; omega
    · have : memSum (s :: ss) = s.memorySize + memSum ss := by simp [memSum]
      rw [this]
      rw [show (pushSection ma fw st s).alloc = st.alloc + (bufOf ma fw s).pad from rfl] at i5
      omega
    · have hL : (pushSection ma fw st s).regions.length + ss.length = st.regions.length + (ss.length + 1) := by
        simp [pushSection]; omega
      rw [hL, show (pushSection ma fw st s).ticks = st.ticks + st.regions.length from rfl] at i6
      rw [List.length_cons, Nat.succ_mul]
      omega

/-- what the section loop leaves behind on accepted metadata -/
theorem parseLoop_ok (ma : Bool) (fw : Bytes) (md : TdxMetadata) (st : PState)
    (hmd : extractTDXMetadata fw = .ok md) (h : parseLoop ma fw md.sections {} = .ok st) :
    st.regions = md.sections.map (regionOf ma fw) ∧ st.priv = md.sections.map gprOf ∧
    st.alloc ≤ memSum md.sections ∧ st.ticks ≤ md.sections.length * md.sections.length := by
  rw [parseLoop_eq ma fw md.sections {} (extract_ok fw md hmd).1.secs List.Pairwise.nil] at h
  split at h
  · cases h
    obtain ⟨r1, r2, _, _, r5, r6⟩ := runSections ma fw md.sections {}
    exact ⟨by simpa using r1, by simpa using r2, by simpa using r5, by simpa using r6⟩
  · cases h

/-! ### the TD_HOB section and the final region list -/

theorem hobCount_zero {ss : List TdxSection} (h : hobCount ss = 0) : ∀ s ∈ ss, isHob s = false := by
  intro s hs
  have := (List.countP_eq_zero.mp h) s hs
  cases hh : isHob s <;> simp_all

/-- With exactly one TD_HOB section `h`: it is the one `find?` returns, and writing the hand-off
    buffer at its index is the same as giving it to the section of type TD_HOB. -/
theorem hob_unique : ∀ (ss : List TdxSection), hobCount ss = 1 →
    ∃ h, ss.find? isHob = some h ∧ h ∈ ss ∧ isHob h = true ∧ (∀ s ∈ ss, isHob s = true → s = h) ∧
      ∀ (f : TdxSection → Region) (b : HostBuf),
        setBuf (ss.map f) (ss.findIdx isHob) b = ss.map (fun s => if isHob s then { f s with buf := b } else f s) := by
  intro ss
  induction ss with
  | nil => intro h; simp [hobCount] at h
  | cons x ss ih =>
    intro hc
    rw [hobCount_cons] at hc
    cases hx : isHob x with
    | true =>
      rw [hx] at hc
      have h0 := hobCount_zero (ss := ss) (by simp at hc; exact hc)
      refine ⟨x, by simp [hx], List.mem_cons_self .., hx, ?_, ?_⟩
      · intro s hs hh
        rcases List.mem_cons.mp hs with rfl | hs
        · rfl
        · rw [h0 s hs] at hh; cases hh
      · intro f b
        rw [findIdx_isHob_cons, hx]
        simp only [List.map_cons, setBuf, hx, ↓reduceIte]
        congr 1
        apply List.map_congr_left
        intro s hs
        rw [h0 s hs]; simp
    | false =>
      rw [hx] at hc
      obtain ⟨h, e1, e2, e3, e4, e6⟩ := ih (by simp at hc; exact hc)
      refine ⟨h, by simp [hx, e1], List.mem_cons_of_mem _ e2, e3, ?_, ?_⟩
      · intro s hs hh
        rcases List.mem_cons.mp hs with rfl | hs
        · rw [hx] at hh; cases hh
        · exact e4 s hs hh
      · intro f b
        rw [findIdx_isHob_cons, hx]
        simp only [Bool.false_eq_true, List.map_cons, setBuf, e6 f b, hx, ↓reduceIte]

/-- the region parse returns for a section, given the hand-off buffer `b` -/
def finalRegion (ma : Bool) (fw : Bytes) (b : HostBuf) (s : TdxSection) : Region :=
  if isHob s then { regionOf ma fw s with buf := b } else regionOf ma fw s

theorem finalRegion_gpr (ma : Bool) (fw : Bytes) (b : HostBuf) (s : TdxSection) :
    (finalRegion ma fw b s).gpr = gprOf s := by
  unfold finalRegion; split <;> rfl

theorem sections_noOverflow {n : Nat} {ss : List TdxSection} (hs : ∀ s ∈ ss, SecOK n s) :
    NoOverflow (ss.map gprOf) := by
  intro g hg
  obtain ⟨s, hs', rfl⟩ := List.mem_map.mp hg
  have := (hs s hs').2.1
  simp only [gprOf]; omega

/-- tdxFwParser.parse on an image with accepted metadata `md`, whose one TD_HOB section is `h`.
    (SectionCount is a uint32, so the index is its own uint32 value.) -/
theorem parse_eq (o : ParserOpts) (fw : Bytes) (banks : List Gpr) (md : TdxMetadata) (h : TdxSection)
    (hmd : extractTDXMetadata fw = .ok md) (hh : md.sections.find? isHob = some h) :
    parse o fw banks =
      if (md.sections.map gprOf).Pairwise Apart then
        if 2 ^ 31 ≤ md.sections.findIdx isHob then .panic "parse:hobIndex"
        else
          match getTDHOBList (gprOf h) (md.sections.map gprOf) (unacceptedMemRanges (md.sections.map gprOf) banks)
              o.disableEarlyAccept with
          | .ok b => .ok (md.sections.map (finalRegion o.measureAll fw b))
          | .err c => .err c
          | .panic p => .panic p
      else .err "overlap" := by
  obtain ⟨hv, _, _⟩ := extract_ok fw md hmd
  obtain ⟨r1, r2, _, r4, _, _⟩ := runSections o.measureAll fw md.sections {}
  obtain ⟨h', e1, _, _, _, e6⟩ := hob_unique md.sections hv.oneHob
  obtain rfl : h' = h := Option.some.inj (e1.symm.trans hh)
  have hlt : md.sections.findIdx isHob % 2 ^ 32 = md.sections.findIdx isHob :=
    Nat.mod_eq_of_lt (Nat.lt_of_le_of_lt List.findIdx_le_length (extract_count fw md hmd))
  have hget : (md.sections.map (regionOf o.measureAll fw))[md.sections.findIdx isHob]? =
      some (regionOf o.measureAll fw h') := by
    rw [List.getElem?_map, ← List.find?_eq_getElem?_findIdx, e1]; rfl
  unfold parse
  rw [hmd]
  simp only []
  rw [parseLoop_eq o.measureAll fw md.sections {} hv.secs List.Pairwise.nil]
  simp only [List.map_nil, List.nil_append] at r1 ⊢
  by_cases hd : (md.sections.map gprOf).Pairwise Apart
  · simp only [if_pos hd, r4 hv.oneHob, r1, r2, Nat.zero_add, List.nil_append, hlt, hget]
    by_cases h31 : 2 ^ 31 ≤ md.sections.findIdx isHob
    · rw [if_pos h31, if_pos h31]
    · rw [if_neg h31, if_neg h31]; simp only [e6]; rfl
  · rw [if_neg hd, if_neg hd]

theorem apart_iff_disjoint (fw : Bytes) (md : TdxMetadata) (hmd : extractTDXMetadata fw = .ok md) :
    (md.sections.map gprOf).Pairwise Apart ↔ DisjointL (md.sections.map gprOf) :=
  pairwise_apart_iff _ (sections_noOverflow (extract_ok fw md hmd).1.secs)

/-- **Gluing lemma.**  tdxFwParser.parse returns `regions` exactly when the image carries metadata that
    passes validation, whose sections are pairwise disjoint, whose TD_HOB section is among the first
    2^31 entries (its index is kept in an int32) and the generated hand-off block fits that (unique)
    TD_HOB section `h`; the regions are then the declared sections in declared order: range and
    attributes of the section, buffer `image[DataOffset, +size)` for firmware volumes, the hand-off block
    for `h`, zeros (measure-all) or no buffer (default) for temporary memory.  The private ranges handed
    to unacceptedMemRanges and getTDHOBList are the declared ranges in declared order.  No hypothesis
    on the image size. -/
theorem parse_iff (o : ParserOpts) (fw : Bytes) (banks : List Gpr) (regions : List Region) :
    parse o fw banks = .ok regions ↔
      ∃ md h b, extractTDXMetadata fw = .ok md ∧ DisjointL (md.sections.map gprOf) ∧
        md.sections.find? isHob = some h ∧ md.sections.findIdx isHob < 2 ^ 31 ∧
        getTDHOBList (gprOf h) (md.sections.map gprOf) (unacceptedMemRanges (md.sections.map gprOf) banks)
          o.disableEarlyAccept = .ok b ∧
        regions = md.sections.map (finalRegion o.measureAll fw b) := by
  constructor
  · intro hp
    cases hmd : extractTDXMetadata fw with
    | ok md =>
      obtain ⟨h, e1, _⟩ := hob_unique md.sections (extract_ok fw md hmd).1.oneHob
      rw [parse_eq o fw banks md h hmd e1] at hp
      split at hp
      · rename_i hd
        split at hp
        · cases hp
        rename_i h31
        split at hp
        · rename_i b hg
          cases hp
          exact ⟨md, h, b, rfl, (apart_iff_disjoint fw md hmd).mp hd, e1, by omega, hg, rfl⟩
        · cases hp
        · cases hp
      · cases hp
    | _ => unfold parse at hp; rw [hmd] at hp; cases hp
  · rintro ⟨md, h, b, hmd, hd, e1, h31, hg, rfl⟩
    rw [parse_eq o fw banks md h hmd e1, if_pos ((apart_iff_disjoint fw md hmd).mpr hd), if_neg (by omega), hg]

/-- **When tdxFwParser.parse panics** — exactly: the image carries metadata that passes validation,
    with pairwise disjoint sections, whose TD_HOB section is preceded by 2^31 or more entries: then
    `int32(index)` is negative and `p.Regions[tdHOBregionIndex.Value]` is out of range.  (32 bytes per
    entry: such an image has at least 64 GiB, and the overlap loop runs 2^61 times before the
    conversion is reached.) -/
theorem parse_panic_iff (o : ParserOpts) (fw : Bytes) (banks : List Gpr) :
    (parse o fw banks).isPanic = true ↔
      ∃ md, extractTDXMetadata fw = .ok md ∧ DisjointL (md.sections.map gprOf) ∧
        2 ^ 31 ≤ md.sections.findIdx isHob := by
  have he := extract_no_panic fw
  cases hmd : extractTDXMetadata fw with
  | panic p => rw [hmd] at he; exact absurd rfl he
  | err c => unfold parse; rw [hmd]; exact ⟨(fun h => nomatch h), fun ⟨_, h, _⟩ => nomatch h⟩
  | ok md =>
    obtain ⟨hv, _, _⟩ := extract_ok fw md hmd
    obtain ⟨h, e1, e2, _⟩ := hob_unique md.sections hv.oneHob
    have hg := getTDHOBList_no_panic (gprOf h) (md.sections.map gprOf)
      (unacceptedMemRanges (md.sections.map gprOf) banks) o.disableEarlyAccept
      (Nat.lt_of_le_of_lt (hv.secs h e2).1 (by decide))
    rw [parse_eq o fw banks md h hmd e1]
    refine ⟨fun hp => ⟨md, rfl, ?_⟩, fun ⟨md', e, hd, h31⟩ => ?_⟩
    · split at hp
      · rename_i hd
        split at hp
        · exact ⟨(apart_iff_disjoint fw md hmd).mp hd, by assumption⟩
        · split at hp
          · cases hp
          · cases hp
          · rename_i hgp; rw [hgp] at hg; exact absurd rfl hg
      · cases hp
    · cases e
      rw [if_pos ((apart_iff_disjoint fw md hmd).mpr hd), if_pos h31]; rfl

/-- Facts about the regions a successful parse returns: one per section, each range inside the 52-bit
    physical address space, the declared sizes adding up to at most 4 GiB. -/
theorem parse_ok_facts (o : ParserOpts) (fw : Bytes) (banks : List Gpr) (regions : List Region)
    (h : parse o fw banks = .ok regions) :
    (∀ r ∈ regions, r.gpr.start + r.gpr.len ≤ 2 ^ 52) ∧ (regions.map (·.gpr.len)).sum ≤ maxInitialMemory ∧
    32 * regions.length ≤ fw.length := by
  obtain ⟨md, _, b, hmd, _, _, _, _, rfl⟩ := (parse_iff o fw banks regions).mp h
  obtain ⟨hv, hl, _⟩ := extract_ok fw md hmd
  refine ⟨?_, ?_, by rw [List.length_map]; exact hl⟩
  · intro r hr
    obtain ⟨s, hs, rfl⟩ := List.mem_map.mp hr
    rw [finalRegion_gpr]
    exact (hv.secs s hs).2.1
  · rw [List.map_map, show (·.gpr.len) ∘ finalRegion o.measureAll fw b = (·.memorySize) from
      funext fun s => congrArg Gpr.len (finalRegion_gpr ..)]
    exact hv.total

/-- The int32 index fits: the TD_HOB section of accepted metadata is among the first 2^31 entries.
    Weaker than any bound on the image size (`indexFits_of_small`). -/
def IndexFits (fw : Bytes) : Prop :=
  ∀ md, extractTDXMetadata fw = .ok md → md.sections.findIdx isHob < 2 ^ 31

theorem indexFits_of_small (fw : Bytes) (hfw : fw.length < 2 ^ 36) : IndexFits fw := by
  intro md hmd
  obtain ⟨_, hlen, _⟩ := extract_ok fw md hmd
  have := List.findIdx_le_length (p := isHob) (xs := md.sections)
  omega

theorem parse_no_panic_of_index (o : ParserOpts) (fw : Bytes) (banks : List Gpr) (h : IndexFits fw) :
    ¬ (parse o fw banks).isPanic := by
  intro hp
  obtain ⟨md, hmd, _, h31⟩ := (parse_panic_iff o fw banks).mp hp
  have := h md hmd
  omega

/-- tdxFwParser.parse never panics on images below 64 GiB (the TD HOB index is stored as int32). -/
theorem parse_no_panic (o : ParserOpts) (fw : Bytes) (banks : List Gpr) (hfw : fw.length < 2 ^ 36) :
    ¬ (parse o fw banks).isPanic :=
  parse_no_panic_of_index o fw banks (indexFits_of_small fw hfw)

end GceTcb.TdxHob

namespace GceTcb.Mrtd
open GceTcb GceTcb.Intervals GceTcb.TdxMeta GceTcb.TdxHob

/-- the three entry points tdx.MRTD chooses from are parse with three option sets -/
theorem mrtdRegions_eq (o : LaunchOptions) (fw : Bytes) :
    ∃ po banks, mrtdRegions o fw = parse po fw banks := by
  unfold mrtdRegions extractNoUnacceptedMemory extractTDHOBBug extractDefault
  split
  · exact ⟨_, _, rfl⟩
  · split <;> exact ⟨_, _, rfl⟩

theorem mrtd_no_panic_of_index (H : Bytes → Bytes) (o : LaunchOptions) (fw : Bytes) (h : IndexFits fw) :
    ¬ (mrtd H o fw).isPanic := by
  obtain ⟨po, banks, hr⟩ := mrtdRegions_eq o fw
  have hp := parse_no_panic_of_index po fw banks h
  unfold mrtd mrtdStream
  rw [hr]
  cases hc : parse po fw banks with
  | panic p => rw [hc] at hp; exact absurd rfl hp
  | err c => exact Bool.false_ne_true
  | ok regions =>
    have hs := initAll_no_panic o.measureAllRegions regions
    simp only []
    cases hi : initAll o.measureAllRegions regions with
    | panic p => rw [hi] at hs; exact absurd rfl hs
    | _ => exact Bool.false_ne_true

theorem mrtd_no_panic (H : Bytes → Bytes) (o : LaunchOptions) (fw : Bytes) (hfw : fw.length < 2 ^ 36) :
    ¬ (mrtd H o fw).isPanic :=
  mrtd_no_panic_of_index H o fw (indexFits_of_small fw hfw)

end GceTcb.Mrtd
