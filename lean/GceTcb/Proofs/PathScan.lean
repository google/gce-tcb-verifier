import GceTcb.Model.PathScan
/-
Helper lemmas for C19 about the scanner model: every recogniser returns a length between 1 and the
remaining input, escapes and runes consume at least one and at most the remaining bytes, the string
loop has enough fuel, and `scan` is total with strict progress on every non-eof token.
-/
namespace GceTcb.Path
open GceTcb

/-- The bytes of a string literal without evaluating `String.toList`: the kernel would run the UTF-8
    decoder over the literal's byte array (well-founded recursion, quadratic in the length), while a
    literal unifies with `String.ofList` of its characters. -/
theorem asc_ofList (l : List Char) : asc (String.ofList l) = l.map Char.toNat :=
  congrArg _ String.toList_ofList

theorem spanLen_le (p : Nat → Bool) (s : Str) : spanLen p s ≤ s.length := by
  induction s with
  | nil => exact Nat.le_refl 0
  | cons c cs ih =>
    simp only [spanLen, List.length_cons]
    split <;> omega

theorem ite_of {α : Type} {P : α → Prop} {c : Prop} [Decidable c] {a b : α} (ha : P a) (hb : P b) :
    P (if c then a else b) := by
  split <;> assumption

def InRange (len : Nat) (o : Option Nat) : Prop := ∀ n, o = some n → 1 ≤ n ∧ n ≤ len

theorem InRange.none {len : Nat} : InRange len none := nofun

theorem InRange.one {len : Nat} : InRange (len + 1) (some 1) := by
  intro n h
  cases h
  exact ⟨Nat.le_refl 1, Nat.le_add_left 1 len⟩

/-- `k` bytes of a fixed pattern followed by a greedy class over the rest -/
theorem InRange.span (p : Nat → Bool) (cs : Str) {k : Nat} (hk : 1 ≤ k) :
    InRange (cs.length + k) (some (k + spanLen p cs)) := by
  intro n h
  cases h
  have := spanLen_le p cs
  omega

def Bounded (re : Str → Option Nat) : Prop := ∀ r, InRange r.length (re r)

theorem matchIdent_bounded : Bounded matchIdent
  | [] => .none
  | _ :: cs => ite_of (.span _ cs (Nat.le_refl 1)) .none

theorem decimalBody_bounded : Bounded decimalBody
  | [] => .none
  | _ :: cs => ite_of .one <| ite_of (.span _ cs (Nat.le_refl 1)) .none

theorem octalBody_bounded : Bounded octalBody := by
  intro r
  unfold octalBody
  split
  · next cs => exact ite_of (.span _ cs (Nat.le_refl 1)) .none
  · exact .none

theorem hexBody_bounded : Bounded hexBody := by
  intro r
  unfold hexBody
  split
  · next cs => exact ite_of (ite_of (.span _ cs (by decide)) .none) .none
  · exact .none

theorem optMinus_len (s : Str) : (optMinus s).1 + (optMinus s).2.length = s.length := by
  unfold optMinus
  split
  · exact Nat.add_comm 1 _
  · exact Nat.zero_add _

theorem withMinus_bounded {body : Str → Option Nat} (hb : Bounded body) : Bounded (withMinus body) := by
  intro s n h
  unfold withMinus at h
  split at h
  · next m hm =>
    have := hb _ _ hm
    have := optMinus_len s
    cases h; omega
  · cases h

theorem boundedRe_bounded (p : Nat → Bool) {lo : Nat} (hi : Nat) (hlo : 1 ≤ lo) : Bounded (boundedRe p lo hi) := by
  intro s n h
  have := spanLen_le p (s.take hi)
  have := List.length_take_le' hi s
  simp only [boundedRe] at h
  split at h
  · cases h; omega
  · cases h

def Fits (n : Nat) (d : Nat × Nat) : Prop := 1 ≤ d.2 ∧ d.2 ≤ n

/-- utf8.DecodeRune consumes at least one byte and no more than there are: every branch returns size 1, or
    the size `k` of a pattern that has matched `k` bytes. -/
theorem decodeRune_fits (p0 : Nat) (t : Str) : Fits (t.length + 1) (decodeRune (p0 :: t)) := by
  have fit : ∀ {r n : Nat} (k : Nat), 1 ≤ k → Fits (n + k) (r, k) := fun _ h => ⟨h, Nat.le_add_left _ _⟩
  have one : ∀ {r n : Nat}, Fits (n + 1) (r, 1) := fit 1 (Nat.le_refl 1)
  unfold decodeRune
  refine ite_of one <| ite_of one <| ite_of ?_ <| ite_of ?_ <| ite_of ?_ one
  · split
    · exact ite_of (fit 2 (by decide)) one
    · exact one
  · split
    · exact ite_of (fit 3 (by decide)) one
    · exact one
  · split
    · exact ite_of (fit 4 (by decide)) one
    · exact one

theorem decodeRune_drop {buf : Str} {pos : Nat} (h : pos < buf.length) :
    1 ≤ (decodeRune (buf.drop pos)).2 ∧ pos + (decodeRune (buf.drop pos)).2 ≤ buf.length := by
  have := decodeRune_fits buf[pos] (buf.drop (pos + 1))
  rw [← List.drop_eq_getElem_cons h, List.length_drop] at this
  exact ⟨this.1, by have := this.2; omega⟩

theorem idx_ok {buf : Str} {i : Nat} (site : String) (h : i < buf.length) :
    idx buf i site = .ok buf[i] := by
  simp only [idx, List.getElem?_eq_getElem h]

theorem slice_ok {buf : Str} {lo hi : Nat} (site : String) (h1 : lo ≤ hi) (h2 : hi ≤ buf.length) :
    slice buf lo hi site = .ok ((buf.drop lo).take (hi - lo)) :=
  if_pos ⟨h1, h2⟩

theorem sliceFrom_ok {buf : Str} {lo : Nat} (site : String) (h : lo ≤ buf.length) :
    sliceFrom buf lo site = .ok (buf.drop lo) :=
  if_pos h

/-- `r` is an escape whose backslash is at `start`: it ends in `(start, len]` and reports a position of at
    least `start`. -/
def Esc (buf : Str) (start : Nat) (r : Outcome (ERune × Nat)) : Prop :=
  ∃ er p', r = .ok (er, p') ∧ start < p' ∧ p' ≤ buf.length ∧ start ≤ er.pos

theorem number_esc {buf : Str} {pos start : Nat} {re : Str → Option Nat} (base : Nat)
    (hq : start < pos) (hpos : pos ≤ buf.length) (hre : Bounded re) :
    Esc buf start (number buf pos start re base) := by
  unfold number
  rw [sliceFrom_ok _ hpos]
  simp only [Outcome.bind_ok]
  cases hm : re (buf.drop pos) with
  | none => exact ⟨_, _, rfl, by split <;> omega, by split <;> omega, Nat.le_refl _⟩
  | some n =>
    have hb := hre _ _ hm
    rw [List.length_drop] at hb
    simp only
    rw [slice_ok _ (Nat.le_add_right _ _) (by omega)]
    exact ite_of (P := Esc buf start) ⟨_, _, rfl, by omega, by omega, Nat.le_refl _⟩
      ⟨_, _, rfl, by omega, by omega, Nat.le_refl _⟩

theorem escape_esc {buf : Str} {pos0 : Nat} (h : pos0 < buf.length) : Esc buf pos0 (escape buf pos0) := by
  rw [escape]
  by_cases hlt : pos0 + 1 ≥ buf.length
  · simp only [if_pos hlt]
    exact ⟨_, _, rfl, Nat.lt_succ_self _, h, Nat.le_succ _⟩
  · simp only [if_neg hlt]
    have hlt : pos0 + 1 < buf.length := Nat.lt_of_not_ge hlt
    rw [idx_ok _ hlt]
    simp only [Outcome.bind_ok]
    split
    · exact ⟨_, _, rfl, by omega, hlt, Nat.le_refl _⟩
    · exact ite_of (number_esc 8 (Nat.lt_succ_self _) (Nat.le_of_lt hlt) (boundedRe_bounded _ _ (Nat.le_refl 1))) <|
        ite_of (number_esc 16 (by omega) hlt (boundedRe_bounded _ _ (by decide))) <|
        ite_of (number_esc 16 (by omega) hlt (boundedRe_bounded _ _ (by decide))) <|
        ite_of (number_esc 16 (by omega) hlt (boundedRe_bounded _ _ (Nat.le_refl 1)))
          ⟨_, _, rfl, by omega, hlt, Nat.le_succ _⟩

def Tok (buf : Str) (q : Nat) (r : Outcome (Token × Nat)) : Prop :=
  ∃ t p', r = .ok (t, p') ∧ t.kind ≠ .eof ∧ q < p' ∧ p' ≤ buf.length

theorem strLoop_tok (buf : Str) (start quote : Nat) :
    ∀ (fuel pos : Nat) (lit : Str), start < pos → pos ≤ buf.length → buf.length - pos < fuel →
      Tok buf start (strLoop buf start quote fuel pos lit) := by
  intro fuel
  induction fuel with
  | zero => intro pos lit _ _ h; omega
  | succ fuel ih =>
    intro pos lit hsp hp hf
    rw [strLoop]
    by_cases hlt : pos ≥ buf.length
    · rw [if_pos hlt, sliceFrom_ok _ (by omega)]
      exact ⟨_, _, rfl, nofun, hsp, hp⟩
    · rw [if_neg hlt]
      have hlt : pos < buf.length := Nat.lt_of_not_ge hlt
      have bad : ∀ tx, Tok buf start (.ok (⟨.illegal, pos, tx⟩, pos + 1)) :=
        fun _ => ⟨_, _, rfl, nofun, Nat.lt_succ_of_lt hsp, hlt⟩
      rw [idx_ok _ hlt]
      simp only [Outcome.bind_ok]
      refine ite_of (bad _) <| ite_of ?_ <| ite_of ⟨_, _, rfl, nofun, Nat.lt_succ_of_lt hsp, hlt⟩ ?_
      · obtain ⟨er, p', he, h1, h2, h3⟩ := escape_esc hlt
        rw [he]
        simp only [Outcome.bind_ok]
        split
        · rw [slice_ok _ (by rw [Nat.le_min]; omega) (Nat.min_le_right _ _)]
          exact ⟨_, _, rfl, nofun, by omega, h2⟩
        · exact ih p' _ (by omega) h2 (by omega)
      · have hd := decodeRune_drop hlt
        exact ite_of (bad _) (ih _ _ (by omega) hd.2 (by omega))

theorem literal_tok {buf : Str} {pos n : Nat} {k : TokKind} (hk : k ≠ .eof)
    (h : 1 ≤ n ∧ n ≤ (buf.drop pos).length) : Tok buf pos (literal buf pos k n) := by
  rw [List.length_drop] at h
  unfold literal
  rw [slice_ok _ (Nat.le_add_right _ _) (by omega)]
  exact ⟨_, _, rfl, hk, by omega, by omega⟩

theorem scan_total (buf : Str) (pos : Nat) :
    ∃ t p', scan buf pos = .ok (t, p') ∧
      ((t.kind = .eof ∧ p' = pos ∧ buf.length ≤ pos) ∨ (t.kind ≠ .eof ∧ pos < p' ∧ p' ≤ buf.length)) := by
  by_cases hlt : pos ≥ buf.length
  · exact ⟨_, _, by rw [scan, if_pos hlt], .inl ⟨rfl, rfl, hlt⟩⟩
  · suffices h : Tok buf pos (scan buf pos) by
      obtain ⟨t, p', hs, h⟩ := h
      exact ⟨t, p', hs, .inr h⟩
    rw [scan, if_neg hlt]
    have hlt : pos < buf.length := Nat.lt_of_not_ge hlt
    have sg : ∀ k, k ≠ .eof → Tok buf pos (single pos k) := fun _ hk => ⟨_, _, rfl, hk, Nat.lt_succ_self _, hlt⟩
    rw [sliceFrom_ok _ (Nat.le_of_lt hlt)]
    simp only [Outcome.bind_ok]
    split
    · next n hm => exact literal_tok nofun (withMinus_bounded octalBody_bounded _ n hm)
    split
    · next n hm => exact literal_tok nofun (withMinus_bounded hexBody_bounded _ n hm)
    split
    · next n hm => exact literal_tok nofun (withMinus_bounded decimalBody_bounded _ n hm)
    split
    · next n hm => exact literal_tok nofun (matchIdent_bounded _ n hm)
    rw [idx_ok _ (by rw [List.length_drop]; omega)]
    simp only [Outcome.bind_ok]
    refine ite_of (sg _ nofun) <| ite_of (sg _ nofun) <| ite_of (sg _ nofun) <| ite_of (sg _ nofun) <|
      ite_of (sg _ nofun) <| ite_of ?_ ?_
    · unfold scanString
      rw [idx_ok _ hlt]
      exact strLoop_tok buf pos _ _ _ _ (Nat.lt_succ_self _) hlt (by omega)
    · have hd := decodeRune_drop hlt
      exact ⟨_, _, rfl, nofun, by omega, hd.2⟩

end GceTcb.Path
