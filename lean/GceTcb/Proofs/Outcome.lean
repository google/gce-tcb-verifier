import GceTcb.Base.Outcome
/- Reasoning about `Outcome` without unfolding it: inversion of `bind`, `isOk`, `isPanic` and error guards, and
   the predicate `Total P o` ("`o` is not a panic, and a value it returns satisfies `P`") that composes along `bind`. -/
namespace GceTcb.Outcome
variable {α β : Type} {x : Outcome α} {f : α → Outcome β}

theorem isOk_ok (a : α) : (ok a).isOk = true := rfl
theorem isOk_err (c : String) : (err c : Outcome α).isOk = false := rfl

theorem isOk_iff : x.isOk = true ↔ ∃ a, x = ok a := by cases x <;> simp [isOk]

theorem bind_eq_ok {b : β} : x.bind f = ok b ↔ ∃ a, x = ok a ∧ f a = ok b := by cases x <;> simp [bind]

theorem isOk_bind : (x.bind f).isOk = true ↔ ∃ a, x = ok a ∧ (f a).isOk = true := by
  simp only [isOk_iff, bind_eq_ok, exists_and_left, exists_comm (α := β)]

theorem isPanic_bind (hx : x.isPanic = false) (hf : ∀ a, (f a).isPanic = false) :
    (x.bind f).isPanic = false := by
  cases x with
  | ok a => exact hf a
  | err c => rfl
  | panic s => cases hx

/-- a guard that returns an error did not fire when the result is a value -/
theorem ite_err_eq_ok {p : Prop} [Decidable p] {e : String} {v : α}
    (h : (if p then .err e else x) = .ok v) : ¬ p ∧ x = .ok v := by
  by_cases hp : p
  · rw [if_pos hp] at h; cases h
  · exact ⟨hp, by rwa [if_neg hp] at h⟩

theorem ok_or_err (h : ∀ p, x ≠ .panic p) : (∃ c, x = .err c) ∨ ∃ a, x = .ok a := by
  cases x with
  | ok a => exact .inr ⟨a, rfl⟩
  | err c => exact .inl ⟨c, rfl⟩
  | panic s => exact absurd rfl (h s)

/-- the step does not panic, and its result, if it has one, satisfies `P` -/
def Total (P : α → Prop) : Outcome α → Prop
  | ok a => P a
  | err _ => True
  | panic _ => False

variable {P : α → Prop}

theorem Total.cases (h : x.Total P) : (∃ c, x = .err c) ∨ ∃ a, x = .ok a ∧ P a := by
  cases x with
  | ok a => exact .inr ⟨a, rfl, h⟩
  | err c => exact .inl ⟨c, rfl⟩
  | panic s => cases h

theorem Total.of_ok {a : α} (h : x.Total P) (hx : x = .ok a) : P a := by
  subst hx; exact h

theorem Total.no_panic (h : x.Total P) (p : String) : x ≠ .panic p := by
  rintro rfl; exact h

theorem Total.isPanic (h : x.Total P) : x.isPanic = false := by
  cases x with
  | panic s => exact h.elim
  | _ => rfl

theorem Total.mono {Q : α → Prop} (h : x.Total Q) (hq : ∀ a, Q a → P a) : x.Total P := by
  cases x with
  | ok a => exact hq a h
  | _ => exact h

theorem Total.bind {Q : α → Prop} {P : β → Prop} (hx : x.Total Q) (hf : ∀ a, x = .ok a → Q a → (f a).Total P) :
    (x >>= f).Total P := by
  cases x with
  | ok a => exact hf a rfl hx
  | _ => exact hx

end GceTcb.Outcome
