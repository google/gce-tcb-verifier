import GceTcb.Model.CAStore
/-
For C11: the invariant `Good` of the store, and that the writes of one gcsca.Finalize may be cut anywhere
(`CrashSafe`): the manifest is written last, over objects that are all in place.  Then the probing log of
Model/CAStore.lean against the planned writes, and the histories `Reachable` that C11 quantifies over.
-/
namespace GceTcb.CA

/-- an object path Finalize must never use for a certificate -/
def Bad (cfg : Cfg) (p : String) : Prop := p = manifestName ∨ p = cfg.rootPath

def DerOK (rp : Nat) (st : Store) (p : String) : Prop := ∃ c, lookup st p = some (.der c) ∧ c.sigBy = rp

/-- **Consistency** (the property's clause): reloading from `st` — the manifest, if there is one, parses;
    every key version it lists resolves to a stored, parseable certificate; and a recorded primary signing
    key has a certificate that verifies under the stored root certificate.  (No manifest object: the
    authority is empty, as before any bootstrap.) -/
def Consistent (cfg : Cfg) (st : Store) : Prop :=
  match lookup st manifestName with
  | none => True
  | some (.manifest m) =>
    (∀ e ∈ m.entries, ∃ c, lookup st e.2 = some (.der c)) ∧
    (m.signing ≠ "" → ∃ path c r, lookup m.entries m.signing = some path ∧
      lookup st path = some (.der c) ∧ lookup st cfg.rootPath = some (.pem r) ∧ c.sigBy = r.pub)
  | some _ => False

/-- the invariant of a bootstrapped store: `Consistent` + every listed certificate verifies under the
    stored root + the two special objects are where they belong -/
structure Good (cfg : Cfg) (m : Manifest) (r : Cert) (st : Store) : Prop where
  man : lookup st manifestName = some (.manifest m)
  root : lookup st cfg.rootPath = some (.pem r)
  rm : cfg.rootPath ≠ manifestName
  ents : ∀ e ∈ m.entries, DerOK r.pub st e.2
  paths : ∀ e ∈ m.entries, ¬ Bad cfg e.2
  prim : m.signing ≠ "" → (lookup m.entries m.signing).isSome

theorem lookup_cons_ne {α : Type} {k q : String} {v : α} {l : List (String × α)} (h : k ≠ q) :
    lookup ((k, v) :: l) q = lookup l q :=
  if_neg h

theorem lookup_cons_self {α : Type} {k : String} {v : α} {l : List (String × α)} :
    lookup ((k, v) :: l) k = some v :=
  if_pos rfl

theorem lookup_mem {α : Type} {l : List (String × α)} {k : String} {v : α} (h : lookup l k = some v) :
    (k, v) ∈ l := by
  induction l with
  | nil => cases h
  | cons hd t ih =>
    obtain ⟨k', v'⟩ := hd
    by_cases hk : k' = k
    · subst hk
      cases h.symm.trans lookup_cons_self
      exact List.mem_cons_self
    · exact List.mem_cons_of_mem _ (ih ((lookup_cons_ne hk).symm.trans h))

theorem Good.consistent {cfg : Cfg} {m : Manifest} {r : Cert} {st : Store} (h : Good cfg m r st) :
    Consistent cfg st := by
  unfold Consistent
  rw [h.man]
  refine ⟨fun e he => (h.ents e he).imp fun _ => And.left, fun hne => ?_⟩
  obtain ⟨path, hl⟩ := Option.isSome_iff_exists.mp (h.prim hne)
  obtain ⟨c, hc, hs⟩ := h.ents _ (lookup_mem hl)
  exact ⟨path, c, r, hl, hc, h.root, hs⟩

theorem applyWrites_cons (w : String × Obj) (ws : List (String × Obj)) (st : Store) :
    applyWrites (w :: ws) st = applyWrites ws (w :: st) := rfl

theorem applyWrites_append (a b : List (String × Obj)) (st : Store) :
    applyWrites (a ++ b) st = applyWrites b (applyWrites a st) := by
  unfold applyWrites; rw [List.foldl_append]

theorem lookup_applyWrites (ws : List (String × Obj)) (st : Store) (p : String) :
    (∀ w ∈ ws, w.1 ≠ p) ∧ lookup (applyWrites ws st) p = lookup st p ∨
    ∃ o, (p, o) ∈ ws ∧ lookup (applyWrites ws st) p = some o := by
  induction ws generalizing st with
  | nil => exact .inl ⟨List.forall_mem_nil _, rfl⟩
  | cons w t ih =>
    obtain ⟨k, v⟩ := w
    rw [applyWrites_cons]
    rcases ih ((k, v) :: st) with ⟨hne, h⟩ | ⟨o, ho, h⟩
    · by_cases hk : k = p
      · exact .inr ⟨v, hk ▸ List.mem_cons_self, h.trans (hk ▸ lookup_cons_self)⟩
      · exact .inl ⟨List.forall_mem_cons.mpr ⟨hk, hne⟩, h.trans (lookup_cons_ne hk)⟩
    · exact .inr ⟨o, List.mem_cons_of_mem _ ho, h⟩

theorem lookup_applyWrites_other (ws : List (String × Obj)) (st : Store) (p : String)
    (h : ∀ w ∈ ws, w.1 ≠ p) : lookup (applyWrites ws st) p = lookup st p :=
  (lookup_applyWrites ws st p).elim (·.2) fun ⟨_, ho, _⟩ => absurd rfl (h _ ho)

def UpW (cfg : Cfg) (rp : Nat) (w : String × Obj) : Prop :=
  ¬ Bad cfg w.1 ∧ ∃ c, w.2 = .der c ∧ c.sigBy = rp

theorem derOK_cons_ne {rp : Nat} {st : Store} {p k : String} (h : DerOK rp st p) (hk : k ≠ p) (o : Obj) :
    DerOK rp ((k, o) :: st) p := by
  obtain ⟨c, hc, hs⟩ := h
  exact ⟨c, (lookup_cons_ne hk).trans hc, hs⟩

theorem derOK_applyWrites {cfg : Cfg} {rp : Nat} {ws : List (String × Obj)} {st : Store} {p : String}
    (hall : ∀ w ∈ ws, UpW cfg rp w) (h : DerOK rp st p ∨ ∃ c, (p, Obj.der c) ∈ ws) :
    DerOK rp (applyWrites ws st) p := by
  unfold DerOK
  rcases lookup_applyWrites ws st p with ⟨hne, e⟩ | ⟨o, ho, e⟩
  · rw [e]; exact h.resolve_right fun ⟨_, ho⟩ => hne _ ho rfl
  · obtain ⟨_, c, hc, hs⟩ := hall _ ho
    exact ⟨c, e.trans (congrArg some hc), hs⟩

theorem withEntry_signing (m : Manifest) (k n : String) : (withEntry m k n).signing = m.signing := by
  unfold withEntry; split <;> rfl

theorem withEntry_root (m : Manifest) (k n : String) : (withEntry m k n).root = m.root := by
  unfold withEntry; split <;> rfl

theorem withEntry_lookup (m : Manifest) (k : String) (d : String) :
    lookup (withEntry m k ((lookup m.entries k).getD d)).entries k = some ((lookup m.entries k).getD d) := by
  unfold withEntry
  cases h : lookup m.entries k with
  | none => simp [lookup_append_none _ _ _ h]
  | some x => simp [h]

theorem mem_withEntry_iff (m : Manifest) (k n : String) (e : String × String) :
    e ∈ (withEntry m k n).entries ↔ e ∈ m.entries ∨ e = (k, n) ∧ lookup m.entries k = none := by
  unfold withEntry
  split <;> simp_all

theorem withEntry_isSome (m : Manifest) (k n q : String) (h : (lookup m.entries q).isSome ∨ q = k) :
    (lookup (withEntry m k n).entries q).isSome := by
  unfold withEntry
  cases hl : lookup m.entries k with
  | some x => rcases h with h | rfl <;> simp [*]
  | none =>
    by_cases hq : k = q
    · simp [← hq, lookup_append_none _ _ _ hl]
    · simpa [lookup_append_ne _ _ _ _ hq] using h.resolve_right (Ne.symm hq)

theorem uploadWrites_writes (cfg : Cfg) (rp : Nat) (order : List (String × Cert)) (m : Manifest)
    (hpaths : ∀ e ∈ m.entries, ¬ Bad cfg e.2)
    (hord : ∀ kc ∈ order, ¬ Bad cfg (certObjectName cfg kc.2) ∧ kc.2.sigBy = rp) :
    (∀ w ∈ (uploadWrites cfg m order).1, UpW cfg rp w) ∧
    (∀ e ∈ (uploadWrites cfg m order).2.entries, ¬ Bad cfg e.2) := by
  induction order generalizing m with
  | nil => exact ⟨List.forall_mem_nil _, hpaths⟩
  | cons kc t ih =>
    obtain ⟨k, c⟩ := kc
    obtain ⟨hbad, hsig⟩ := hord (k, c) List.mem_cons_self
    have hname : ¬ Bad cfg (uploadName cfg m k c) := by
      unfold uploadName
      cases hl : lookup m.entries k with
      | none => exact hbad
      | some p => exact hpaths _ (lookup_mem hl)
    obtain ⟨hW, hP⟩ := ih (withEntry m k (uploadName cfg m k c))
      (fun e he => ((mem_withEntry_iff ..).mp he).elim (hpaths e) fun h => h.1 ▸ hname)
      (fun kc hkc => hord kc (List.mem_cons_of_mem _ hkc))
    exact ⟨List.forall_mem_cons.mpr ⟨⟨hname, c, rfl, hsig⟩, hW⟩, hP⟩

theorem uploadWrites_manifest (cfg : Cfg) (order : List (String × Cert)) (m : Manifest) :
    (∀ e ∈ (uploadWrites cfg m order).2.entries,
      e ∈ m.entries ∨ ∃ c, (e.2, Obj.der c) ∈ (uploadWrites cfg m order).1) ∧
    (uploadWrites cfg m order).2.signing = m.signing ∧
    ∀ q, ((lookup m.entries q).isSome ∨ ∃ kc ∈ order, kc.1 = q) →
      (lookup (uploadWrites cfg m order).2.entries q).isSome := by
  induction order generalizing m with
  | nil => exact ⟨fun _ => .inl, rfl, fun q h => h.resolve_right fun ⟨_, h, _⟩ => nomatch h⟩
  | cons kc t ih =>
    obtain ⟨k, c⟩ := kc
    obtain ⟨hE, hS, hK⟩ := ih (withEntry m k (uploadName cfg m k c))
    refine ⟨fun e he => ?_, hS.trans (withEntry_signing ..), fun q h => hK q ?_⟩
    · rcases hE e he with h | ⟨c', h⟩
      · rcases (mem_withEntry_iff ..).mp h with h | ⟨rfl, _⟩
        · exact .inl h
        · exact .inr ⟨c, List.mem_cons_self⟩
      · exact .inr ⟨c', List.mem_cons_of_mem _ h⟩
    · rcases h with h | ⟨kc', hkc, rfl⟩
      · exact .inl (withEntry_isSome _ _ _ _ (.inl h))
      · rcases List.mem_cons.mp hkc with rfl | h
        · exact .inl (withEntry_isSome _ _ _ _ (.inr rfl))
        · exact .inr ⟨kc', h, rfl⟩

theorem setRoot_eq (r : Option String) (m : Manifest) : setRoot r m = { m with root := r.getD m.root } := by
  cases r with
  | none => rfl
  | some r =>
    by_cases h : m.root = r
    · exact (if_neg (not_not_intro h)).trans (by rw [← h]; rfl)
    · exact if_pos h

theorem setSigning_eq (k : Option String) (m : Manifest) :
    setSigning k m = { m with signing := k.getD m.signing } := by
  cases k with
  | none => rfl
  | some k =>
    by_cases h : m.signing = k
    · exact (if_neg (not_not_intro h)).trans (by rw [← h]; rfl)
    · exact if_pos h

theorem applyPrimaries_eq (mu : Mut) (m : Manifest) : applyPrimaries mu m =
    { m with root := mu.primaryRoot.getD m.root, signing := mu.primarySigning.getD m.signing } := by
  unfold applyPrimaries; rw [setRoot_eq, setSigning_eq]

theorem applyPrimaries_entries (mu : Mut) (m : Manifest) : (applyPrimaries mu m).entries = m.entries := by
  rw [applyPrimaries_eq]

theorem pre_ne_manifest {cfg : Cfg} {rp : Nat} {ws : List (String × Obj)} (mu : Mut)
    (hrm : cfg.rootPath ≠ manifestName) (hall : ∀ w ∈ ws, UpW cfg rp w) :
    ∀ w ∈ ws ++ rootWrites cfg mu, w.1 ≠ manifestName := by
  intro w hw
  rcases List.mem_append.mp hw with h | h
  · exact (not_or.mp (hall w h).1).1
  · unfold rootWrites at h
    split at h
    · rw [List.mem_singleton.mp h]; exact hrm
    · cases h

theorem Good.after_uploads {cfg : Cfg} {m : Manifest} {r : Cert} {st : Store} (h : Good cfg m r st)
    (ws : List (String × Obj)) (hall : ∀ w ∈ ws, UpW cfg r.pub w) : Good cfg m r (applyWrites ws st) :=
  ⟨(lookup_applyWrites_other ws st _ fun w hw => (not_or.mp (hall w hw).1).1).trans h.man,
   (lookup_applyWrites_other ws st _ fun w hw => (not_or.mp (hall w hw).1).2).trans h.root,
   h.rm, fun e he => derOK_applyWrites hall (.inl (h.ents e he)), h.paths, h.prim⟩

theorem good_of_man {cfg : Cfg} {m : Manifest} {r : Cert} {st : Store} (h : ∃ m', Good cfg m' r st)
    (hm : lookup st manifestName = some (.manifest m)) : Good cfg m r st := by
  obtain ⟨m', hg⟩ := h
  cases hg.man.symm.trans hm
  exact hg

/-- The writes `ws` on the store `st` may be cut short by a crash anywhere: every prefix leaves a store that
    reloads consistently, and all of them a good store under the root certificate `r`. -/
structure CrashSafe (cfg : Cfg) (r : Cert) (ws : List (String × Obj)) (st : Store) : Prop where
  pre : ∀ k, Consistent cfg (applyPrefix k ws st)
  full : ∃ mf, Good cfg mf r (applyWrites ws st)

theorem manifest_written_last {cfg : Cfg} {rp : Cert} {st : Store} {a : List (String × Obj)} {mf : Manifest}
    (ha : ∀ k, Consistent cfg (applyWrites (a.take k) st))
    (hrm : cfg.rootPath ≠ manifestName)
    (hroot : lookup (applyWrites a st) cfg.rootPath = some (.pem rp))
    (hents : ∀ e ∈ mf.entries, DerOK rp.pub (applyWrites a st) e.2)
    (hpaths : ∀ e ∈ mf.entries, ¬ Bad cfg e.2)
    (hprim : mf.signing ≠ "" → (lookup mf.entries mf.signing).isSome) :
    CrashSafe cfg rp (a ++ [(manifestName, .manifest mf)]) st := by
  have hnew : Good cfg mf rp (applyWrites (a ++ [(manifestName, .manifest mf)]) st) := by
    rw [applyWrites_append]
    exact ⟨if_pos rfl, (if_neg (Ne.symm hrm)).trans hroot, hrm,
      fun e he => derOK_cons_ne (hents e he) (fun h => hpaths e he (.inl h.symm)) _, hpaths, hprim⟩
  refine ⟨fun k => ?_, _, hnew⟩
  unfold applyPrefix
  by_cases h : k ≤ a.length
  · rw [List.take_append_of_le_length h]; exact ha k
  · rw [List.take_of_length_le (by simp; omega)]; exact hnew.consistent

/-- Finalize of a mutation without a root certificate (a rotation) on a good store.  `order` is ANY
    visiting order. -/
theorem finalize_rot {cfg : Cfg} {m : Manifest} {r : Cert} {st : Store} (hg : Good cfg m r st)
    (mu : Mut) (hroot : mu.rootCert = none) (order : List (String × Cert))
    (hord : ∀ kc ∈ order, ¬ Bad cfg (certObjectName cfg kc.2) ∧ kc.2.sigBy = r.pub)
    (hprim : (applyPrimaries mu m).signing ≠ "" →
      (lookup m.entries (applyPrimaries mu m).signing).isSome ∨ ∃ kc ∈ order, kc.1 = (applyPrimaries mu m).signing) :
    CrashSafe cfg r (fullWrites cfg m mu order) st := by
  obtain ⟨hW, hP⟩ := uploadWrites_writes cfg r.pub order (applyPrimaries mu m)
    (by rw [applyPrimaries_entries]; exact hg.paths) hord
  obtain ⟨hE, hS, hK⟩ := uploadWrites_manifest cfg order (applyPrimaries mu m)
  rw [applyPrimaries_entries] at hE hK
  -- a crash among the certificate writes: the old manifest still rules
  have hup := fun k => (hg.after_uploads (List.take k _) fun w hw => hW w (List.mem_of_mem_take hw)).consistent
  unfold fullWrites rootWrites
  rw [hroot, List.append_nil]
  by_cases hch : manifestChanged mu m order = true
  · rw [if_pos hch]
    refine manifest_written_last hup hg.rm (hg.after_uploads _ hW).root
      (fun e he => derOK_applyWrites hW ((hE e he).imp_left (hg.ents e))) hP ?_
    rw [hS]; exact fun hne => hK _ (hprim hne)
  · rw [if_neg hch, List.append_nil]
    exact ⟨hup, m, hg.after_uploads _ hW⟩

/-- Finalize of a bootstrap mutation (it carries the root certificate `rc`) on a store without a
    manifest.  `order` is ANY visiting order of the pending certificates. -/
theorem finalize_boot {cfg : Cfg} {st : Store} (hno : lookup st manifestName = none)
    (hrm : cfg.rootPath ≠ manifestName) (mu : Mut) (rc : Cert) (hroot : mu.rootCert = some rc)
    (order : List (String × Cert)) (hne : order ≠ [])
    (hord : ∀ kc ∈ order, ¬ Bad cfg (certObjectName cfg kc.2) ∧ kc.2.sigBy = rc.pub)
    (hprim : (applyPrimaries mu Manifest.empty).signing ≠ "" →
      ∃ kc ∈ order, kc.1 = (applyPrimaries mu Manifest.empty).signing) :
    CrashSafe cfg rc (fullWrites cfg Manifest.empty mu order) st := by
  obtain ⟨hW, hP⟩ := uploadWrites_writes cfg rc.pub order (applyPrimaries mu Manifest.empty)
    (by rw [applyPrimaries_entries]; exact List.forall_mem_nil _) hord
  obtain ⟨hE, hS, hK⟩ := uploadWrites_manifest cfg order (applyPrimaries mu Manifest.empty)
  have hch : manifestChanged mu Manifest.empty order = true := by simp [manifestChanged, hne]
  have hrw : rootWrites cfg mu = [(cfg.rootPath, .pem rc)] := by unfold rootWrites; rw [hroot]
  unfold fullWrites
  rw [if_pos hch]
  refine manifest_written_last (fun k => ?_) hrm ?_ (fun e he => ?_) hP ?_
  · -- a crash before the manifest write: there is no manifest yet
    unfold Consistent
    rw [lookup_applyWrites_other _ st _ fun w hw => pre_ne_manifest mu hrm hW w (List.mem_of_mem_take hw), hno]
    trivial
  · rw [hrw, applyWrites_append]; exact if_pos rfl
  · rw [hrw, applyWrites_append]
    refine derOK_cons_ne (derOK_applyWrites hW (.inr ((hE e he).resolve_left ?_))) (fun h => hP e he (.inr h.symm)) _
    rw [applyPrimaries_entries]; exact List.not_mem_nil
  · rw [hS]; exact fun h => hK _ (.inr (hprim h))

/-- `finalize_boot` for the mutation rotate.Bootstrap builds, in any visiting order of its two certificates -/
theorem finalize_bootMut {cfg : Cfg} {st : Store} {rootK signK : String} {rc sc : Cert}
    (hno : lookup st manifestName = none) (hrm : cfg.rootPath ≠ manifestName)
    (hself : rc.sigBy = rc.pub) (hsig : sc.sigBy = rc.pub)
    (hn1 : ¬ Bad cfg (certObjectName cfg rc)) (hn2 : ¬ Bad cfg (certObjectName cfg sc))
    {order : List (String × Cert)} (hperm : order.Perm (bootMut rootK signK rc sc).certs) :
    CrashSafe cfg rc (fullWrites cfg Manifest.empty (bootMut rootK signK rc sc) order) st := by
  refine finalize_boot hno hrm _ rc rfl order ?_ (fun kc hkc => ?_) fun _ =>
    ⟨(signK, sc), hperm.mem_iff.mpr (.tail _ (.head _)),
      congrArg Manifest.signing (applyPrimaries_eq (bootMut rootK signK rc sc) _).symm⟩
  · rintro rfl; exact List.cons_ne_nil _ _ hperm.symm.eq_nil
  · rcases List.mem_cons.mp (hperm.mem_iff.mp hkc) with rfl | h
    · exact ⟨hn1, hself⟩
    · rw [List.mem_singleton.mp h]; exact ⟨hn2, hsig⟩

/-- `finalize_rot` for the mutation rotate.Key builds -/
theorem finalize_rotMut {cfg : Cfg} {st : Store} {m : Manifest} {r : Cert} {kv : String} {c : Cert}
    (hg : Good cfg m r st) (hsig : c.sigBy = r.pub) (hn : ¬ Bad cfg (certObjectName cfg c))
    {order : List (String × Cert)} (hperm : order.Perm (rotMut kv c).certs) :
    CrashSafe cfg r (fullWrites cfg m (rotMut kv c) order) st := by
  refine finalize_rot hg _ rfl order (fun kc hkc => ?_) fun _ =>
    .inr ⟨(kv, c), hperm.mem_iff.mpr (.head _), congrArg Manifest.signing (applyPrimaries_eq (rotMut kv c) m).symm⟩
  rw [List.mem_singleton.mp (hperm.mem_iff.mp hkc)]; exact ⟨hn, hsig⟩

theorem writesOf_runPlan_prefix (ow : Bool) (st : Store) (plan : List (Bool × Bool × String × Obj)) :
    ∃ j, writesOf (runPlan ow st plan) = (plan.map (·.2.2)).take j := by
  induction plan generalizing st with
  | nil => exact ⟨0, rfl⟩
  | cons hd t ih =>
    obtain ⟨probe, claimed, p, o⟩ := hd
    unfold runPlan
    by_cases hcl : claimed = true
    · rw [if_pos hcl]; exact ⟨0, rfl⟩
    rw [if_neg hcl]
    by_cases hc : (probe && (lookup st p).isSome && !ow) = true
    · rw [if_pos hc]; exact ⟨0, rfl⟩
    · rw [if_neg hc]
      obtain ⟨j, hj⟩ := ih ((p, o) :: st)
      exact ⟨j + 1, by cases probe <;> exact congrArg ((p, o) :: ·) hj⟩

theorem uploadPlan_writes (cfg : Cfg) (order : List (String × Cert)) (m : Manifest) :
    (uploadPlan cfg m order).map (·.2) = (uploadWrites cfg m order).1 := by
  induction order generalizing m with
  | nil => rfl
  | cons hd t ih => simp only [uploadPlan, uploadWrites, List.map_cons, ih]

theorem planned_writes (cfg : Cfg) (m : Manifest) (mu : Mut) (order : List (String × Cert)) :
    (planned cfg m mu order).map (·.2.2) = fullWrites cfg m mu order := by
  unfold planned fullWrites
  simp only [List.map_append, List.map_map, Function.comp_def, List.map_id', uploadPlan_writes]
  split <;> rfl

/-- the stores reachable by a bootstrap of a manifest-less store followed by any number of rotations, each
    completed, each with any visiting order; `m` and `r` are the stored manifest and root certificate -/
inductive Reachable (cfg : Cfg) : Store → Manifest → Cert → Prop where
  | boot (st : Store) (rootK signK : String) (rc sc : Cert) (order : List (String × Cert)) (mf : Manifest)
      (hno : lookup st manifestName = none) (hrm : cfg.rootPath ≠ manifestName)
      (hself : rc.sigBy = rc.pub) (hsig : sc.sigBy = rc.pub)
      (hn1 : ¬ Bad cfg (certObjectName cfg rc)) (hn2 : ¬ Bad cfg (certObjectName cfg sc))
      (hperm : order.Perm (bootMut rootK signK rc sc).certs)
      (hmf : lookup (applyWrites (fullWrites cfg Manifest.empty (bootMut rootK signK rc sc) order) st) manifestName
        = some (.manifest mf)) :
      Reachable cfg (applyWrites (fullWrites cfg Manifest.empty (bootMut rootK signK rc sc) order) st) mf rc
  | rot (st : Store) (m : Manifest) (r : Cert) (kv : String) (c : Cert) (order : List (String × Cert)) (mf : Manifest)
      (hprev : Reachable cfg st m r)
      (hsig : c.sigBy = r.pub) (hn : ¬ Bad cfg (certObjectName cfg c))
      (hperm : order.Perm (rotMut kv c).certs)
      (hmf : lookup (applyWrites (fullWrites cfg m (rotMut kv c) order) st) manifestName = some (.manifest mf)) :
      Reachable cfg (applyWrites (fullWrites cfg m (rotMut kv c) order) st) mf r

def c11Cfg : Cfg := ⟨.gcsca, .memkm, "root.crt", "certs/", fun n => n ++ "_1", 2, 1, false⟩
def c11Rc : Cert := ⟨"rootcn", 1, 0, 0⟩
def c11Sc : Cert := ⟨"sigcn", 2, 1, 0⟩

end GceTcb.CA
