import GceTcb.Model.SevMeta
/-
C04 — validateSections accepts exactly the section lists that are well-formed in the property's
sense (`SectionsValid`, declarative); the verdict of its sort-based overlap check equals pairwise
disjointness and does not depend on which sorted permutation `sort.Slice` returns.
-/
namespace GceTcb.Proofs.SnpSections
open GceTcb GceTcb.Codecs GceTcb.SevMeta

abbrev Sec := SevMetadataSection

/-- two ranges `[address, address+length)` have no byte in common (64-bit ends) -/
def Disjoint (a b : Sec) : Prop := a.address + a.length ≤ b.address ∨ b.address + b.length ≤ a.address

def LenOK (s : Sec) : Prop := s.length % 4096 = 0 ∧ s.length ≠ 0

instance : DecidableRel Disjoint := fun a b => by unfold Disjoint; exact inferInstance
instance : DecidablePred LenOK := fun s => by unfold LenOK; exact inferInstance

def count (k : Nat) (secs : List Sec) : Nat := secs.countP (fun s => s.kind == k)

/-- The property's well-formedness of SNP metadata (everything validateSections looks at). -/
structure SectionsValid (secs : List Sec) : Prop where
  lengths : ∀ s ∈ secs, LenOK s
  oneSecret : count kindSecret secs ≤ 1
  oneCpuid : count kindCpuid secs ≤ 1
  hasUnmeasured : 1 ≤ count kindUnmeasured secs
  hasSecret : 1 ≤ count kindSecret secs
  hasCpuid : 1 ≤ count kindCpuid secs
  disjoint : secs.Pairwise Disjoint

instance (secs : List Sec) : Decidable (SectionsValid secs) :=
  decidable_of_iff ((∀ s ∈ secs, LenOK s) ∧ count kindSecret secs ≤ 1 ∧ count kindCpuid secs ≤ 1 ∧
      1 ≤ count kindUnmeasured secs ∧ 1 ≤ count kindSecret secs ∧ 1 ≤ count kindCpuid secs ∧ secs.Pairwise Disjoint)
    ⟨fun ⟨a, b, c, d, e, f, g⟩ => ⟨a, b, c, d, e, f, g⟩, fun ⟨a, b, c, d, e, f, g⟩ => ⟨a, b, c, d, e, f, g⟩⟩

theorem disjoint_symm {a b : Sec} (h : Disjoint a b) : Disjoint b a := h.symm

theorem overlapSorted_false_iff (l : List Sec) (hs : l.Pairwise (fun a b => a.address ≤ b.address))
    (hl : ∀ s ∈ l, 0 < s.length) : overlapSorted l = false ↔ l.Pairwise Disjoint := by
  induction l with
  | nil => simp [overlapSorted]
  | cons a t ih =>
    obtain ⟨hat, hst⟩ := List.pairwise_cons.mp hs
    rw [List.pairwise_cons, ← ih hst fun s h => hl s (List.mem_cons_of_mem _ h)]
    -- `a` is disjoint from all later ranges iff it ends before the next one starts
    cases t with
    | nil => simp [overlapSorted]
    | cons b r =>
      have hb := hl b (List.mem_cons_of_mem _ List.mem_cons_self)
      have hab := hat b List.mem_cons_self
      simp only [overlapSorted, Bool.or_eq_false_iff, decide_eq_false_iff_not, Nat.not_lt]
      refine and_congr_left fun _ => ⟨fun h c hc => .inl ?_, fun h => (h b List.mem_cons_self).resolve_right (by omega)⟩
      rcases List.mem_cons.mp hc with rfl | hcr
      · exact h
      · have := (List.pairwise_cons.mp hst).1 c hcr
        omega

theorem startLe_trans (a b c : Sec) (h1 : startLe a b = true) (h2 : startLe b c = true) : startLe a c = true := by
  simp only [startLe, decide_eq_true_eq] at *; omega

theorem startLe_total (a b : Sec) : (startLe a b || startLe b a) = true := by
  simp only [startLe, Bool.or_eq_true, decide_eq_true_eq]; omega

/-- The overlap verdict for ANY permutation of the sections that is sorted by start address: `hp` and `hs` are
    what `sort.Slice` (NOT stable) guarantees, see `SortsBy`.  Ties may come out in EITHER order; two non-empty
    ranges with the same start overlap whichever comes first (`hl`: the first loop has checked the lengths
    positive before the sort is reached). -/
theorem overlapSorted_perm_invariant (secs l : List Sec) (hp : l.Perm secs)
    (hs : l.Pairwise (fun a b => a.address ≤ b.address)) (hl : ∀ s ∈ secs, 0 < s.length) :
    overlapSorted l = false ↔ secs.Pairwise Disjoint := by
  rw [overlapSorted_false_iff l hs (fun s h => hl s (hp.mem_iff.mp h))]
  exact hp.pairwise_iff (fun h => disjoint_symm h)

theorem overlap_mergeSort (secs : List Sec) (hl : ∀ s ∈ secs, 0 < s.length) :
    overlapSorted (secs.mergeSort startLe) = false ↔ secs.Pairwise Disjoint := by
  apply overlapSorted_perm_invariant secs _ (List.mergeSort_perm secs startLe) _ hl
  have := List.pairwise_mergeSort startLe_trans startLe_total secs
  exact this.imp (fun h => by simpa [startLe] using h)

theorem checkSections_ok_iff (secs : List Sec) (seen : List Nat) (out : List Nat) :
    checkSections secs seen = .ok out ↔
      (∀ s ∈ secs, LenOK s) ∧
      (∀ k, k = kindSecret ∨ k = kindCpuid → count k secs ≤ 1 ∧ (k ∈ seen → count k secs = 0)) ∧
      out = (secs.map (·.kind)).reverse ++ seen := by
  induction secs generalizing seen with
  | nil => simp [checkSections, count, eq_comm]
  | cons s rest ih =>
    unfold checkSections
    simp only [List.contains_iff_mem, List.forall_mem_cons, count, List.countP_cons, beq_iff_eq]
    split
    · rename_i hdup
      refine iff_of_false (by simp) fun h => ?_
      have := (h.2.1 s.kind hdup.2).2 hdup.1
      simp at this
    · rename_i hdup
      split
      · refine iff_of_false (by simp) fun h => ?_
        have := h.1.1
        unfold LenOK at this
        omega
      · rename_i hlen
        have hs : LenOK s := by unfold LenOK; omega
        rw [ih]
        simp only [hs, true_and, List.map_cons, List.reverse_cons, List.append_assoc, List.singleton_append, List.mem_cons]
        refine and_congr_right fun _ => and_congr_left' (forall_congr' fun k => imp_congr_right fun hk => ?_)
        by_cases hsk : s.kind = k
        · have : k ∉ seen := fun h => hdup ⟨hsk ▸ h, hsk ▸ hk⟩
          simp only [count, hsk, this, true_or, if_true, false_imp_iff, true_imp_iff, and_true]
          omega
        · have hks : ¬ k = s.kind := fun h => hsk h.symm
          simp only [count, hsk, hks, false_or, if_false, Nat.add_zero]

theorem checkSections_no_panic (secs : List Sec) (seen : List Nat) (site : String) :
    checkSections secs seen ≠ .panic site := by
  induction secs generalizing seen with
  | nil => simp [checkSections]
  | cons s rest ih =>
    unfold checkSections
    split
    · simp
    · split
      · simp
      · exact ih _

theorem validateSections_no_panic (secs : List Sec) (site : String) : validateSections secs ≠ .panic site := by
  unfold validateSections
  split
  · simp
  · split
    · split; · simp
      split; · simp
      split; · simp
      split <;> simp
    · simp
    · rename_i s h; exact absurd h (checkSections_no_panic _ _ _)

/-- the list on the left has the shape `checkSections_ok_iff` gives the kinds, started from `seen = []` -/
theorem contains_kinds (secs : List Sec) (k : Nat) :
    ((secs.map (·.kind)).reverse ++ ([] : List Nat)).contains k = true ↔ 1 ≤ count k secs := by
  simp only [List.append_nil, List.contains_reverse, List.contains_iff_mem, List.mem_map, count, Nat.succ_le_iff,
    List.countP_pos_iff, beq_iff_eq]

/-- go: validateSections returns nil exactly on well-formed metadata -/
theorem validateSections_ok_iff (secs : List Sec) : validateSections secs = .ok () ↔ SectionsValid secs := by
  unfold validateSections
  by_cases hnil : secs = []
  · subst hnil
    exact iff_of_false (by simp) fun h => by have := h.hasUnmeasured; simp [count] at this
  · rw [if_neg hnil]
    cases hc : checkSections secs [] with
    | err c =>
      refine iff_of_false (by simp) fun h => ?_
      have := (checkSections_ok_iff secs [] _).mpr ⟨h.lengths, fun k hk => ⟨?_, fun h => nomatch h⟩, rfl⟩
      · rw [hc] at this; cases this
      · rcases hk with rfl | rfl
        · exact h.oneSecret
        · exact h.oneCpuid
    | panic s => exact absurd hc (checkSections_no_panic _ _ _)
    | ok seen =>
      obtain ⟨hlen, hk, hseen⟩ := (checkSections_ok_iff secs [] seen).mp hc
      have hU := contains_kinds secs kindUnmeasured
      have hS := contains_kinds secs kindSecret
      have hC := contains_kinds secs kindCpuid
      rw [← hseen] at hU hS hC
      have hov := overlap_mergeSort secs fun s hs => Nat.pos_of_ne_zero (hlen s hs).2
      simp only
      constructor
      · intro h
        split at h; · cases h
        split at h; · cases h
        split at h; · cases h
        split at h; · cases h
        rename_i h1 h2 h3 h4
        exact ⟨hlen, (hk _ (Or.inl rfl)).1, (hk _ (Or.inr rfl)).1, hU.mp (by simpa using h1), hS.mp (by simpa using h2),
          hC.mp (by simpa using h3), hov.mp (by simpa using h4)⟩
      · intro h
        rw [if_neg (by rw [hU.mpr h.hasUnmeasured]; decide), if_neg (by rw [hS.mpr h.hasSecret]; decide),
          if_neg (by rw [hC.mpr h.hasCpuid]; decide), if_neg (by rw [hov.mpr h.disjoint]; decide)]

/-- go: the `less` function handed to sort.Slice: `checkData[i].start < checkData[j].start` -/
def startLt (a b : Sec) : Bool := a.address < b.address

/-- The contract of `sort.Slice(x, less)` for a strict weak ordering `less` (package sort: "sorts the slice x
    given the provided less function … The sort is not guaranteed to be stable"): a rearrangement in which no
    later element is `less` than an earlier one.  Nothing else is assumed — in particular not which of the
    admissible rearrangements pdqsort produces, nor anything about elements that compare equal. -/
structure SortsBy (less : Sec → Sec → Bool) (sort : List Sec → List Sec) : Prop where
  perm : ∀ l, (sort l).Perm l
  sorted : ∀ l, (sort l).Pairwise (fun a b => less b a = false)

def validateSectionsWith (sort : List Sec → List Sec) (secs : List Sec) : Outcome Unit :=
  if secs = [] then .err "no-metadata"
  else
    match checkSections secs [] with
    | .ok seen =>
      if !seen.contains kindUnmeasured then .err "no-unmeasured"
      else if !seen.contains kindSecret then .err "no-secret"
      else if !seen.contains kindCpuid then .err "no-cpuid"
      else if overlapSorted (sort secs) then .err "overlap"
      else .ok ()
    | .err c => .err c
    | .panic s => .panic s

theorem mergeSort_sortsBy : SortsBy startLt (fun l => l.mergeSort startLe) where
  perm l := List.mergeSort_perm l startLe
  sorted l := (List.pairwise_mergeSort startLe_trans startLe_total l).imp (fun h => by
    simp only [startLe, startLt, decide_eq_true_eq, decide_eq_false_iff_not] at h ⊢; omega)

/-- **The result of validateSections does not depend on the sorting algorithm**: ANY function meeting the contract
    of `sort.Slice` — stable or not — gives the same outcome (verdict and error class) as the model's merge sort. -/
theorem validateSectionsWith_eq (sort : List Sec → List Sec) (h : SortsBy startLt sort) (secs : List Sec) :
    validateSectionsWith sort secs = validateSections secs := by
  unfold validateSectionsWith validateSections
  by_cases hnil : secs = []
  · rw [if_pos hnil, if_pos hnil]
  · rw [if_neg hnil, if_neg hnil]
    cases hc : checkSections secs [] with
    | err c => rfl
    | panic s => rfl
    | ok seen =>
      simp only
      have hpos : ∀ s ∈ secs, 0 < s.length := fun s hs =>
        Nat.pos_of_ne_zero (((checkSections_ok_iff secs [] seen).mp hc).1 s hs).2
      have hs : (sort secs).Pairwise (fun a b => a.address ≤ b.address) :=
        (h.sorted secs).imp (fun hh => by simp only [startLt, decide_eq_false_iff_not] at hh; omega)
      -- both verdicts say whether the ranges are pairwise disjoint
      have e := (overlapSorted_perm_invariant secs (sort secs) (h.perm secs) hs hpos).trans (overlap_mergeSort secs hpos).symm
      have : overlapSorted (sort secs) = overlapSorted (secs.mergeSort startLe) := by
        cases h1 : overlapSorted (sort secs) <;> cases h2 : overlapSorted (secs.mergeSort startLe) <;> simp_all
      rw [this]

/-- why an unstable sort is covered: two non-empty ranges with the same start address are reported as
    overlapping whichever of them the sort puts first -/
theorem tie_order_immaterial (a b : Sec) (hab : a.address = b.address) (ha : 0 < a.length) (hb : 0 < b.length)
    (rest : List Sec) : overlapSorted (a :: b :: rest) = true ∧ overlapSorted (b :: a :: rest) = true := by
  simp only [overlapSorted, Bool.or_eq_true, decide_eq_true_eq]
  constructor <;> left <;> omega

end GceTcb.Proofs.SnpSections
