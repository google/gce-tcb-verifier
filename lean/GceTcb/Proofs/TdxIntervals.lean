import GceTcb.Model.Intervals
import GceTcb.Spec.Intervals
/-
C05 — proofs about ovmf.unacceptedMemRanges: the literal wrap-faithful loop (`Model/Intervals.lean`)
equals, when no region overflows 64 bits, the structurally recursive no-wrap form `scan`
(DESIGN Appendix B.1), which is characterised pointwise and shown to emit a canonical list; the
specification's fold of cuts is canonical with the same points; canonical lists with the same points
are equal.  Core-only.
-/
namespace GceTcb.Intervals
open GceTcb.Spec.Intervals

/-! ## an optional element: `if c then [a] else []` (the piece in front of a private range, the remainder of a
bank, the two sides of a cut) -/

theorem mem_opt {α : Type} {c : Prop} [Decidable c] {a b : α} : b ∈ (if c then [a] else []) ↔ b = a ∧ c := by
  split <;> simp [*]

theorem pairwise_opt {α : Type} (R : α → α → Prop) (c : Prop) [Decidable c] (a : α) :
    (if c then [a] else []).Pairwise R := by
  split <;> simp

/-- `x` lies in the region (mathematical reading, no wrap) -/
def Gpr.mem (x : Nat) (g : Gpr) : Prop := g.start ≤ x ∧ x < g.start + g.len

def Covered (x : Nat) (l : List Gpr) : Prop := ∃ g ∈ l, g.mem x

/-- no region reaches 2^64 (so `end()` does not wrap) -/
def NoOverflow (l : List Gpr) : Prop := ∀ g ∈ l, g.start + g.len < 2 ^ 64

def DisjointL (l : List Gpr) : Prop := l.Pairwise (fun a b => ∀ x, ¬ (a.mem x ∧ b.mem x))

/-- what `slices.SortFunc(b, gprCmp)` establishes -/
def SortedByStart (l : List Gpr) : Prop := l.Pairwise (fun a b => a.start ≤ b.start)

/-- consequence of sorted + disjoint used by the loop: non-empty regions follow each other -/
def Srt (l : List Gpr) : Prop := l.Pairwise (fun a b => a.len ≠ 0 → b.len ≠ 0 → a.start + a.len ≤ b.start)

/-- non-empty, ascending, strictly separated -/
def Canon (l : List Gpr) : Prop :=
  (∀ a ∈ l, a.len ≠ 0) ∧ l.Pairwise (fun a b => a.start + a.len < b.start)

theorem covered_nil (x : Nat) : ¬ Covered x [] := by simp [Covered]

theorem covered_cons (x : Nat) (p : Gpr) (l : List Gpr) :
    Covered x (p :: l) ↔ p.mem x ∨ Covered x l := by
  simp [Covered]

theorem covered_append (x : Nat) (a b : List Gpr) :
    Covered x (a ++ b) ↔ Covered x a ∨ Covered x b := by
  simp only [Covered, List.mem_append, or_and_right, exists_or]

theorem covered_opt (x : Nat) (c : Prop) [Decidable c] (a : Gpr) : Covered x (if c then [a] else []) ↔ c ∧ a.mem x := by
  simp only [Covered, mem_opt, and_assoc, exists_eq_left]

theorem covered_perm {x : Nat} {a b : List Gpr} (h : a.Perm b) : Covered x a ↔ Covered x b := by
  simp only [Covered, h.mem_iff]

theorem srt_of_sorted_disjoint {l : List Gpr} (hs : SortedByStart l) (hd : DisjointL l) : Srt l :=
  (hs.and hd).imp fun {a b} ⟨h1, h2⟩ ha0 hb0 => by
    have := h2 b.start
    simp only [Gpr.mem] at this
    omega

/-- (rest, ram, out) -/
def scan (r : Gpr) : List Gpr → List Gpr × Gpr × List Gpr
  | [] => ([], r, [])
  | p :: ps =>
    if p.len = 0 then scan r ps
    else if p.start + p.len ≤ r.start then scan r ps
    else if p.start ≥ r.start + r.len then (p :: ps, r, [])
    else
      if r.start + r.len - min (r.start + r.len) (p.start + p.len) = 0 then
        (p :: ps, ⟨min (r.start + r.len) (p.start + p.len), 0⟩,
          if p.start > r.start then [⟨r.start, p.start - r.start⟩] else [])
      else
        ((scan ⟨min (r.start + r.len) (p.start + p.len), r.start + r.len - min (r.start + r.len) (p.start + p.len)⟩ ps).1,
         (scan ⟨min (r.start + r.len) (p.start + p.len), r.start + r.len - min (r.start + r.len) (p.start + p.len)⟩ ps).2.1,
         (if p.start > r.start then [⟨r.start, p.start - r.start⟩] else []) ++
         (scan ⟨min (r.start + r.len) (p.start + p.len), r.start + r.len - min (r.start + r.len) (p.start + p.len)⟩ ps).2.2)

theorem scan_skip (r p : Gpr) (ps : List Gpr) (h : p.start + p.len ≤ r.start) : scan r (p :: ps) = scan r ps := by
  by_cases h0 : p.len = 0
  · simp [scan, h0]
  · simp [scan, h0, h]

theorem end_of_lt {g : Gpr} (h : g.start + g.len < 2 ^ 64) : g.end_ = g.start + g.len := by
  unfold Gpr.end_; omega

theorem norm_of_lt {g : Gpr} (h : g.start + g.len < 2 ^ 64) : g.norm = g := by
  apply Gpr.norm_of_inRange; unfold Gpr.InRange; omega

/-- a uint64 difference that does not wrap -/
theorem wrap_sub (a b : Nat) (h : b ≤ a) (ha : a < 2 ^ 64) : (a + 2 ^ 64 - b) % 2 ^ 64 = a - b := by
  rw [Nat.sub_add_comm h, Nat.add_mod_right, Nat.mod_eq_of_lt (Nat.lt_of_le_of_lt (Nat.sub_le a b) ha)]

theorem tests_of_lt {r p : Gpr} (hr : r.start + r.len < 2 ^ 64) (hp : p.start + p.len < 2 ^ 64) :
    (p.len % 2 ^ 64 = 0 ↔ p.len = 0) ∧ (p.end_ ≤ r.start % 2 ^ 64 ↔ p.start + p.len ≤ r.start) ∧
    (p.start % 2 ^ 64 ≥ r.end_ ↔ p.start ≥ r.start + r.len) := by
  rw [end_of_lt hr, end_of_lt hp]
  omega

theorem body_no_wrap (r p : Gpr) (hr : r.start + r.len < 2 ^ 64) (hp : p.start + p.len < 2 ^ 64)
    (h : r.len % 2 ^ 64 ≠ 0) (h0 : ¬ p.len % 2 ^ 64 = 0) (h1 : ¬ p.end_ ≤ r.start % 2 ^ 64)
    (h2 : ¬ p.start % 2 ^ 64 ≥ r.end_) :
    shrink r (intersect r p) =
        ⟨min (r.start + r.len) (p.start + p.len), r.start + r.len - min (r.start + r.len) (p.start + p.len)⟩ ∧
    prePiece r (intersect r p) = (if p.start > r.start then [⟨r.start, p.start - r.start⟩] else []) := by
  have he := intersect_end_in_body r p h h0 h1 h2
  have hi := intersect_in_body r p h h0 h1 h2
  have sr : r.start % 2 ^ 64 = r.start := Nat.mod_eq_of_lt (by omega)
  have sp : p.start % 2 ^ 64 = p.start := Nat.mod_eq_of_lt (by omega)
  simp only [end_of_lt hr, end_of_lt hp, sr, sp] at h1 h2 he hi
  constructor
  · rw [shrink, he, end_of_lt hr, wrap_sub _ _ (Nat.min_le_left ..) hr]
  · have hm : max r.start p.start % 2 ^ 64 = max r.start p.start := Nat.mod_eq_of_lt (by omega)
    simp only [prePiece, hi, gprRange, sr, hm, wrap_sub (max r.start p.start) r.start (Nat.le_max_left ..) (by omega)]
    by_cases hgt : p.start > r.start
    · rw [Nat.max_eq_right (Nat.le_of_lt hgt), if_pos hgt, if_pos hgt, if_pos (by omega)]
    · rw [Nat.max_eq_left (by omega), if_neg (Nat.lt_irrefl _), if_neg hgt]

theorem inner_eq_scan (ps : List Gpr) (r : Gpr) (h : r.len % 2 ^ 64 ≠ 0)
    (hps : NoOverflow ps) (hr : r.start + r.len < 2 ^ 64) :
    (inner ps r h).rest = (scan r ps).1 ∧ (inner ps r h).ram = (scan r ps).2.1 ∧
    (inner ps r h).out = (scan r ps).2.2 := by
  fun_induction inner ps r h with
  | case1 r h => simp [scan, norm_of_lt hr]
  | case2 r h p ps' h0 x ih =>
    obtain ⟨hp, hps'⟩ := List.forall_mem_cons.mp hps
    simp only [tests_of_lt hr hp] at h0
    simpa [scan, h0] using ih hps' hr
  | case3 r h p ps' h0 h1 x ih =>
    obtain ⟨hp, hps'⟩ := List.forall_mem_cons.mp hps
    simp only [tests_of_lt hr hp] at h0 h1
    simpa [scan, h0, h1] using ih hps' hr
  | case4 r h p ps' h0 h1 h2 =>
    simp only [tests_of_lt hr (hps p (List.mem_cons_self ..))] at h0 h1 h2
    simp [scan, h0, h1, h2, norm_of_lt hr]
  | case5 r h p ps' h0 h1 h2 h3 =>
    have hp := hps p (List.mem_cons_self ..)
    obtain ⟨hs, hpre⟩ := body_no_wrap r p hr hp h h0 h1 h2
    simp only [tests_of_lt hr hp] at h0 h1 h2
    rw [hs] at h3
    simp only [] at h3
    simp [scan, h0, h1, h2, h3, hs, hpre]
  | case6 r h p ps' h0 h1 h2 h3 x ih =>
    have hp := hps p (List.mem_cons_self ..)
    obtain ⟨hs, hpre⟩ := body_no_wrap r p hr hp h h0 h1 h2
    simp only [tests_of_lt hr hp] at h0 h1 h2
    have IH := ih hps (by rw [hs]; simp only []; omega)
    rw [hs] at h3
    simp only [] at h3
    -- the bank is not exhausted, so it now starts where the private range ends: the next iteration skips it
    rw [scan_skip _ p ps' (by rw [hs]; simp only []; omega)] at IH
    simp only [scan, h0, h1, h2, h3, if_false, hpre]
    rw [← hs]
    exact ⟨IH.1, IH.2.1, congrArg _ IH.2.2⟩

theorem covered_after {p : Gpr} {ps : List Gpr} (hs : Srt (p :: ps)) (h0 : p.len ≠ 0) {x : Nat}
    (hc : Covered x ps) : p.start + p.len ≤ x := by
  obtain ⟨q, hq, hqx⟩ := hc
  simp only [Gpr.mem] at hqx
  have := (List.pairwise_cons.mp hs).1 q hq h0 (by omega)
  omega

/-- A bank `r` met by a private range `p`, where `C` says that a later private range covers `x`: what is left
    of the bank is the piece in front of `p` and what the later ranges leave of the part behind `p`. -/
theorem bank_split (r p : Gpr) (x : Nat) (C : Prop) (h1 : ¬ p.start + p.len ≤ r.start)
    (h2 : ¬ p.start ≥ r.start + r.len) (later : C → p.start + p.len ≤ x) :
    ((p.start > r.start ∧ (⟨r.start, p.start - r.start⟩ : Gpr).mem x) ∨
      ((⟨min (r.start + r.len) (p.start + p.len), r.start + r.len - min (r.start + r.len) (p.start + p.len)⟩ : Gpr).mem x
        ∧ ¬ C)) ↔ r.mem x ∧ ¬ (p.mem x ∨ C) := by
  simp only [Gpr.mem]
  by_cases hc : C
  · have := later hc
    simp only [hc, not_true, and_false, or_false, or_true, iff_false]
    omega
  · simp only [hc, not_false_eq_true, and_true, or_false]
    omega

theorem scan_spec (ps : List Gpr) : ∀ (r : Gpr), r.len ≠ 0 → Srt ps →
    ∀ x, (Covered x (scan r ps).2.2 ∨ (scan r ps).2.1.mem x) ↔ (r.mem x ∧ ¬ Covered x ps) := by
  intro r hr hs x
  fun_induction scan r ps with
  | case1 r => simp [Covered]
  | case2 r p ps h0 ih =>
    rw [ih hr (List.pairwise_cons.mp hs).2, covered_cons]
    have : ¬ p.mem x := by simp only [Gpr.mem]; omega
    simp only [this, false_or]
  | case3 r p ps h0 h1 ih =>
    rw [ih hr (List.pairwise_cons.mp hs).2, covered_cons]
    have : r.mem x → ¬ p.mem x := by simp only [Gpr.mem]; omega
    exact and_congr_right fun hm => by simp only [this hm, false_or]
  | case4 r p ps h0 h1 h2 =>
    have later := covered_after hs h0 (x := x)
    simp only [covered_cons, covered_nil, false_or, Gpr.mem] at later ⊢
    exact ⟨fun hm => ⟨hm, fun h => h.elim (by omega) fun hc => by have := later hc; omega⟩, And.left⟩
  | case5 r p ps h0 h1 h2 h3 =>
    rw [covered_cons, covered_opt, ← bank_split r p x _ h1 h2 (covered_after hs h0), h3]
    have : ∀ m, ¬ (⟨m, 0⟩ : Gpr).mem x := fun m h => Nat.lt_irrefl _ (Nat.lt_of_le_of_lt h.1 h.2)
    simp only [this, false_and, or_false]
  | case6 r p ps h0 h1 h2 h3 ih =>
    rw [covered_cons, covered_append, covered_opt, or_assoc, ih h3 (List.pairwise_cons.mp hs).2]
    exact bank_split r p x _ h1 h2 (covered_after hs h0)

/-- what the loop appends for one bank -/
def bankOut (r : Gpr) (ps : List Gpr) : List Gpr :=
  (scan r ps).2.2 ++ (if (scan r ps).2.1.len ≠ 0 then [(scan r ps).2.1] else [])

theorem bankOut_covered (r : Gpr) (ps : List Gpr) (hr : r.len ≠ 0) (hs : Srt ps) (x : Nat) :
    Covered x (bankOut r ps) ↔ (r.mem x ∧ ¬ Covered x ps) := by
  rw [← scan_spec ps r hr hs x, bankOut, covered_append, covered_opt]
  have : (scan r ps).2.1.mem x → (scan r ps).2.1.len ≠ 0 := by simp only [Gpr.mem]; omega
  rw [and_iff_right_of_imp this]

theorem bankOut_canon (ps : List Gpr) (r : Gpr) (hr : r.len ≠ 0) :
    Canon (bankOut r ps) ∧ ∀ c ∈ bankOut r ps, r.start ≤ c.start := by
  unfold bankOut Canon
  fun_induction scan r ps with
  | case1 r | case4 r p ps h0 h1 h2 => simp [hr]
  | case2 r p ps h0 ih | case3 r p ps h0 h1 ih => exact ih hr
  | case5 r p ps h0 h1 h2 h3 =>
    simp only [ne_eq, not_true, if_false, List.append_nil, mem_opt, and_imp, forall_eq, pairwise_opt, and_true]
    omega
  | case6 r p ps h0 h1 h2 h3 ih =>
    obtain ⟨⟨i1, i2⟩, i3⟩ := ih h3
    have hm : p.start < min (r.start + r.len) (p.start + p.len) := Nat.lt_min.mpr ⟨by omega, by omega⟩
    have hm' : r.start < min (r.start + r.len) (p.start + p.len) := Nat.lt_min.mpr ⟨by omega, by omega⟩
    simp only [] at i3
    rw [List.append_assoc]
    generalize min (r.start + r.len) (p.start + p.len) = m at *
    generalize (scan ⟨m, r.start + r.len - m⟩ ps).2.2 ++ _ = B at *
    simp only [List.forall_mem_append, List.pairwise_append, mem_opt, pairwise_opt, and_imp, forall_eq, true_and]
    exact ⟨⟨⟨by omega, i1⟩, i2, fun _ b hb => by have := i3 b hb; omega⟩, fun _ => Nat.le_refl _, fun c hc => by have := i3 c hc; omega⟩

theorem scan_rest (ps : List Gpr) (r : Gpr) (hr : r.len ≠ 0) :
    (scan r ps).1.Sublist ps ∧ ∀ x, r.start + r.len ≤ x → Covered x ps → Covered x (scan r ps).1 := by
  have drop : ∀ {p : Gpr} {ps : List Gpr} {x : Nat}, ¬ p.mem x → Covered x (p :: ps) → Covered x ps :=
    fun hp hc => ((covered_cons ..).mp hc).resolve_left hp
  fun_induction scan r ps with
  | case1 r | case4 r p ps h0 h1 h2 | case5 r p ps h0 h1 h2 h3 => exact ⟨.refl _, fun _ _ h => h⟩
  | case2 r p ps h0 ih | case3 r p ps h0 h1 ih =>
    exact ⟨(ih hr).1.cons p, fun x hx hc => (ih hr).2 x hx (drop (by simp only [Gpr.mem]; omega) hc)⟩
  | case6 r p ps h0 h1 h2 h3 ih =>
    exact ⟨(ih h3).1.cons p, fun x hx hc =>
      (ih h3).2 x (by simp only []; omega) (drop (by simp only [Gpr.mem]; omega) hc)⟩

end GceTcb.Intervals

namespace GceTcb.Spec.Intervals

def CoveredIv (x : Nat) (l : List Iv) : Prop := ∃ i ∈ l, i.mem x

/-- non-empty, ascending, strictly separated -/
def CanonIv (l : List Iv) : Prop := (∀ a ∈ l, a.lo < a.hi) ∧ l.Pairwise (fun a b => a.hi < b.lo)

open GceTcb.Intervals (mem_opt pairwise_opt)

theorem coveredIv_append (x : Nat) (a b : List Iv) : CoveredIv x (a ++ b) ↔ CoveredIv x a ∨ CoveredIv x b := by
  simp only [CoveredIv, List.mem_append, or_and_right, exists_or]

theorem coveredIv_opt (x : Nat) (c : Prop) [Decidable c] (a : Iv) : CoveredIv x (if c then [a] else []) ↔ c ∧ a.mem x := by
  simp only [CoveredIv, mem_opt, and_assoc, exists_eq_left]

theorem cut_mem (q p : Iv) (x : Nat) : CoveredIv x (cut q p) ↔ q.mem x ∧ ¬ p.mem x := by
  unfold cut
  split
  · simp only [CoveredIv, List.mem_singleton, exists_eq_left, Iv.mem]; omega
  · simp only [coveredIv_append, coveredIv_opt, Iv.mem]; omega

theorem cut_canon (q p : Iv) (hq : q.lo < q.hi) :
    CanonIv (cut q p) ∧ ∀ c ∈ cut q p, q.lo ≤ c.lo ∧ c.hi ≤ q.hi := by
  unfold cut CanonIv
  split
  · simp [hq]
  · simp only [List.forall_mem_append, List.pairwise_append, mem_opt, pairwise_opt, and_imp, forall_eq, true_and]
    omega

theorem coveredIv_cons (x : Nat) (a : Iv) (l : List Iv) : CoveredIv x (a :: l) ↔ a.mem x ∨ CoveredIv x l := by
  simp [CoveredIv]

theorem coveredIv_flatMap {α : Type} (x : Nat) (l : List α) (f : α → List Iv) :
    CoveredIv x (l.flatMap f) ↔ ∃ b ∈ l, CoveredIv x (f b) := by
  simp only [CoveredIv, List.mem_flatMap]
  exact ⟨fun ⟨i, ⟨b, hb, hi⟩, hx⟩ => ⟨b, hb, i, hi, hx⟩, fun ⟨b, hb, i, hi, hx⟩ => ⟨i, ⟨b, hb, hi⟩, hx⟩⟩

theorem minus_mem (qs : List Iv) (p : Iv) (x : Nat) : CoveredIv x (minus qs p) ↔ CoveredIv x qs ∧ ¬ p.mem x := by
  rw [minus, coveredIv_flatMap]
  simp only [cut_mem]
  exact ⟨fun ⟨q, hq, hx, hp⟩ => ⟨⟨q, hq, hx⟩, hp⟩, fun ⟨⟨q, hq, hx⟩, hp⟩ => ⟨q, hq, hx, hp⟩⟩

theorem minus_canon (qs : List Iv) (p : Iv) (h : CanonIv qs) : CanonIv (minus qs p) := by
  refine ⟨fun c hc => ?_, List.pairwise_flatMap.mpr ⟨fun q hq => (cut_canon q p (h.1 q hq)).1.2, ?_⟩⟩
  · obtain ⟨q, hq, hc⟩ := List.mem_flatMap.mp hc
    exact (cut_canon q p (h.1 q hq)).1.1 c hc
  · refine h.2.imp_of_mem fun {q q'} hq hq' hlt a ha b hb => ?_
    have := (cut_canon q p (h.1 q hq)).2 a ha
    have := (cut_canon q' p (h.1 q' hq')).2 b hb
    omega

theorem foldl_minus_mem (priv : List Iv) : ∀ (qs : List Iv) (x : Nat),
    CoveredIv x (priv.foldl minus qs) ↔ CoveredIv x qs ∧ ∀ p ∈ priv, ¬ p.mem x := by
  induction priv with
  | nil => intro qs x; simp
  | cons p ps ih =>
    intro qs x
    simp only [List.foldl_cons, ih, minus_mem, List.forall_mem_cons, and_assoc]

theorem foldl_minus_canon (priv : List Iv) : ∀ (qs : List Iv), CanonIv qs → CanonIv (priv.foldl minus qs) := by
  induction priv with
  | nil => intro qs h; exact h
  | cons p ps ih => intro qs h; exact ih _ (minus_canon qs p h)

theorem subtract_mem (b : Iv) (priv : List Iv) (x : Nat) :
    CoveredIv x (subtract b priv) ↔ b.mem x ∧ ∀ p ∈ priv, ¬ p.mem x := by
  rw [subtract, foldl_minus_mem, coveredIv_cons]
  simp [CoveredIv]

theorem subtract_canon (b : Iv) (priv : List Iv) (hb : b.lo < b.hi) : CanonIv (subtract b priv) :=
  foldl_minus_canon priv [b] ⟨by simpa using hb, by simp⟩

/-- a piece contains its first and its last point, and these are points of the bank -/
theorem subtract_within (b : Iv) (priv : List Iv) (hb : b.lo < b.hi) (c : Iv) (hc : c ∈ subtract b priv) :
    b.lo ≤ c.lo ∧ c.hi ≤ b.hi := by
  have := (subtract_canon b priv hb).1 c hc
  have h1 := ((subtract_mem b priv c.lo).mp ⟨c, hc, by simp only [Iv.mem]; omega⟩).1
  have h2 := ((subtract_mem b priv (c.hi - 1)).mp ⟨c, hc, by simp only [Iv.mem]; omega⟩).1
  simp only [Iv.mem] at h1 h2
  omega

theorem tail_after {y : Iv} {b : List Iv} (hb : CanonIv (y :: b)) {w : Nat} (hw : CoveredIv w b) : y.hi < w := by
  obtain ⟨c, hc, hw⟩ := hw
  have := (List.pairwise_cons.mp hb.2).1 c hc
  simp only [Iv.mem] at hw; omega

/-- The head's end `y.hi` is not a point of the list: an interval of its points that starts with the head ends
    inside it. -/
theorem head_sub {x y : Iv} {b : List Iv} (hx : x.lo < x.hi) (hb : CanonIv (y :: b))
    (h : ∀ w, x.mem w → CoveredIv w (y :: b)) : y.lo ≤ x.lo ∧ (x.lo ≤ y.lo → x.hi ≤ y.hi) := by
  have hy := hb.1 y (List.mem_cons_self ..)
  simp only [coveredIv_cons, Iv.mem] at h
  refine ⟨?_, fun hle => Nat.le_of_not_lt fun hlt => ?_⟩
  · rcases h x.lo (by omega) with h | h
    · omega
    · have := tail_after hb h; omega
  · rcases h y.hi (by omega) with h | h
    · omega
    · have := tail_after hb h; omega

theorem canon_unique : ∀ (a b : List Iv), CanonIv a → CanonIv b → (∀ x, CoveredIv x a ↔ CoveredIv x b) → a = b
  | [], [], _, _, _ => rfl
  | [], y :: b, _, hb, h => by
    have := hb.1 y (List.mem_cons_self ..)
    have := (h y.lo).mpr ⟨y, List.mem_cons_self .., by simp only [Iv.mem]; omega⟩
    simp [CoveredIv] at this
  | x :: a, [], ha, _, h => by
    have := ha.1 x (List.mem_cons_self ..)
    have := (h x.lo).mp ⟨x, List.mem_cons_self .., by simp only [Iv.mem]; omega⟩
    simp [CoveredIv] at this
  | x :: a, y :: b, ha, hb, h => by
    have hx := ha.1 x (List.mem_cons_self ..)
    have hy := hb.1 y (List.mem_cons_self ..)
    have h1 := head_sub hx hb fun w hw => (h w).mp ((coveredIv_cons ..).mpr (.inl hw))
    have h2 := head_sub hy ha fun w hw => (h w).mpr ((coveredIv_cons ..).mpr (.inl hw))
    have hxy : x = y := by cases x; cases y; simp only [Iv.mk.injEq] at *; omega
    subst hxy
    have hpa := List.pairwise_cons.mp ha.2
    have hpb := List.pairwise_cons.mp hb.2
    congr 1
    refine canon_unique a b ⟨fun c hc => ha.1 c (List.mem_cons_of_mem _ hc), hpa.2⟩
      ⟨fun c hc => hb.1 c (List.mem_cons_of_mem _ hc), hpb.2⟩ fun w => ?_
    have hw := h w
    simp only [coveredIv_cons] at hw
    have off : ∀ {l}, CanonIv (x :: l) → CoveredIv w l → ¬ x.mem w := fun hl hc hm => by
      have := tail_after hl hc; simp only [Iv.mem] at hm; omega
    exact ⟨fun hc => (hw.mp (.inr hc)).resolve_left (off ha hc), fun hc => (hw.mpr (.inr hc)).resolve_left (off hb hc)⟩

end GceTcb.Spec.Intervals

namespace GceTcb.Intervals
open GceTcb.Spec.Intervals

def toIv (g : Gpr) : Iv := ⟨g.start, g.start + g.len⟩
def ofIv (i : Iv) : Gpr := ⟨i.lo, i.hi - i.lo⟩

theorem ofIv_toIv (g : Gpr) : ofIv (toIv g) = g := by
  cases g; simp only [toIv, ofIv]; congr 1; omega

theorem map_ofIv_toIv (l : List Gpr) : (l.map toIv).map ofIv = l := by
  simp [Function.comp_def, ofIv_toIv]

theorem mem_toIv (x : Nat) (g : Gpr) : (toIv g).mem x ↔ g.mem x := by
  simp [toIv, Iv.mem, Gpr.mem]

theorem covered_toIv (x : Nat) (l : List Gpr) : CoveredIv x (l.map toIv) ↔ Covered x l := by
  simp only [CoveredIv, Covered, List.mem_map]
  exact ⟨fun ⟨_, ⟨g, hg, e⟩, hx⟩ => ⟨g, hg, (mem_toIv x g).mp (e ▸ hx)⟩,
    fun ⟨g, hg, hx⟩ => ⟨toIv g, ⟨g, hg, rfl⟩, (mem_toIv x g).mpr hx⟩⟩

theorem canon_toIv (l : List Gpr) (h : Canon l) : CanonIv (l.map toIv) := by
  refine ⟨List.forall_mem_map.mpr fun g hg => ?_, List.pairwise_map.mpr h.2⟩
  have := h.1 g hg
  simp only [toIv]; omega

theorem covered_subtract (b : Gpr) (P : List Gpr) (x : Nat) :
    CoveredIv x (subtract (toIv b) (P.map toIv)) ↔ b.mem x ∧ ¬ Covered x P := by
  rw [subtract_mem, mem_toIv, ← covered_toIv]
  simp [CoveredIv]

/-- One bank, against ANY list `P` with the same coverage inside the bank. -/
theorem bank_eq (r : Gpr) (ps P : List Gpr) (hr : r.len ≠ 0) (hs : Srt ps)
    (hP : ∀ x, r.mem x → (Covered x ps ↔ Covered x P)) :
    (bankOut r ps).map toIv = subtract (toIv r) (P.map toIv) := by
  refine canon_unique _ _ (canon_toIv _ (bankOut_canon ps r hr).1)
    (subtract_canon _ _ (by simp only [toIv]; omega)) fun x => ?_
  rw [covered_toIv, bankOut_covered r ps hr hs, covered_subtract]
  exact and_congr_right fun h => not_congr (hP x h)

theorem outer_eq (P : List Gpr) : ∀ (rs ps : List Gpr), NoOverflow rs → NoOverflow ps → Srt rs → Srt ps →
    (∀ b ∈ rs, b.len ≠ 0 → ∀ x, b.mem x → (Covered x ps ↔ Covered x P)) →
    ((outer ps rs).out).map toIv =
      (rs.filter (fun b => b.len ≠ 0)).flatMap (fun b => subtract (toIv b) (P.map toIv)) := by
  intro rs
  induction rs with
  | nil => intro ps _ _ _ _ _; simp [outer]
  | cons r rs' ih =>
    intro ps hnr hnp hsr hsp hcov
    obtain ⟨hr64, hnr'⟩ := List.forall_mem_cons.mp hnr
    obtain ⟨hrb, hsr'⟩ := List.pairwise_cons.mp hsr
    obtain ⟨hcr, hcov'⟩ := List.forall_mem_cons.mp hcov
    rw [outer]
    by_cases hz : r.len % 2 ^ 64 = 0
    · have hz' : r.len = 0 := by omega
      simp only [hz, dite_true]
      rw [List.filter_cons_of_neg (by simp [hz'])]
      exact ih ps hnr' hnp hsr' hsp hcov'
    · have hz' : r.len ≠ 0 := by omega
      simp only [hz, dite_false]
      rw [List.filter_cons_of_pos (by simp [hz'])]
      obtain ⟨e1, e2, e3⟩ := inner_eq_scan ps r hz hnp hr64
      rw [e1, e2, e3, List.flatMap_cons, List.map_append]
      obtain ⟨hsub, hrest⟩ := scan_rest ps r hz'
      congr 1
      · exact bank_eq r ps P hz' hsp (hcr hz')
      · refine ih _ hnr' (fun g hg => hnp g (hsub.subset hg)) hsr' (hsp.sublist hsub) fun b hb hb0 x hbx => ?_
        -- a later bank starts after this one's end
        have := hrb b hb hz' hb0
        rw [← hcov' b hb hb0 x hbx]
        exact ⟨fun ⟨g, hg, hx⟩ => ⟨g, hsub.subset hg, hx⟩, hrest x (by simp only [Gpr.mem] at hbx; omega)⟩

theorem perm_sorted_eq : ∀ (l1 l2 : List Iv), l1.Perm l2 →
    l1.Pairwise (fun a b => a.lo < b.lo) → l2.Pairwise (fun a b => a.lo ≤ b.lo) → l1 = l2
  | [], _, hp, _, _ => hp.nil_eq
  | _ :: _, [], hp, _, _ => absurd hp.symm (by simp)
  | a :: t, b :: u, hp, h1, h2 => by
    rw [List.pairwise_cons] at h1 h2
    have hab : a = b := by
      rcases List.mem_cons.mp (hp.mem_iff.mp (List.mem_cons_self ..)) with rfl | ha
      · rfl
      · rcases List.mem_cons.mp (hp.mem_iff.mpr (List.mem_cons_self ..)) with rfl | hb
        · rfl
        · have := h1.1 b hb; have := h2.1 a ha; omega
    subst hab
    rw [perm_sorted_eq t u hp.cons_inv h1.2 h2.2]

theorem insertAsc_perm (a : Iv) (l : List Iv) : (insertAsc a l).Perm (a :: l) := by
  induction l with
  | nil => exact .refl _
  | cons b t ih =>
    rw [insertAsc]
    split
    · exact (ih.cons b).trans (.swap a b t)
    · exact .refl _

theorem sortAsc_perm (l : List Iv) : (sortAsc l).Perm l := by
  induction l with
  | nil => exact .refl _
  | cons a t ih => exact (insertAsc_perm a (sortAsc t)).trans (ih.cons a)

theorem insertAsc_sorted (a : Iv) (l : List Iv) (h : l.Pairwise (fun x y => x.lo ≤ y.lo)) :
    (insertAsc a l).Pairwise (fun x y => x.lo ≤ y.lo) := by
  induction l with
  | nil => simp [insertAsc]
  | cons b t ih =>
    obtain ⟨hb, ht⟩ := List.pairwise_cons.mp h
    rw [insertAsc]
    split
    · simp only [List.pairwise_cons, (insertAsc_perm a t).mem_iff, List.forall_mem_cons]
      exact ⟨⟨by omega, hb⟩, ih ht⟩
    · simp only [List.pairwise_cons, List.forall_mem_cons]
      exact ⟨⟨by omega, fun c hc => by have := hb c hc; omega⟩, hb, ht⟩

theorem sortAsc_sorted (l : List Iv) : (sortAsc l).Pairwise (fun x y => x.lo ≤ y.lo) := by
  induction l with
  | nil => exact .nil
  | cons a t ih => exact insertAsc_sorted a _ ih

theorem disjoint_perm {a b : List Gpr} (h : a.Perm b) (hd : DisjointL a) : DisjointL b :=
  (h.pairwise_iff (fun hxy z hz => hxy z ⟨hz.2, hz.1⟩)).mp hd

theorem noOverflow_perm {a b : List Gpr} (h : a.Perm b) (hn : NoOverflow a) : NoOverflow b :=
  fun g hg => hn g (h.mem_iff.mpr hg)

theorem filter_toIv (l : List Gpr) :
    (l.map toIv).filter Iv.nonempty = (l.filter (fun b => b.len ≠ 0)).map toIv := by
  rw [List.filter_map]
  congr 2
  funext b
  simp [Iv.nonempty, toIv, Nat.pos_iff_ne_zero]

theorem flatMap_congr_mem {α β : Type} {f g : α → List β} : ∀ (l : List α), (∀ a ∈ l, f a = g a) →
    l.flatMap f = l.flatMap g :=
  fun l h => by rw [List.flatMap_def, List.flatMap_def, List.map_congr_left h]

theorem mem_filter_len {b : Gpr} {l : List Gpr} : b ∈ l.filter (fun b => b.len ≠ 0) ↔ b ∈ l ∧ b.len ≠ 0 := by
  simp

theorem filter_strict {l : List Gpr} (h : Srt l) :
    ((l.filter (fun b => b.len ≠ 0)).map toIv).Pairwise (fun a b => a.lo < b.lo) := by
  refine List.pairwise_map.mpr ((h.filter _).imp_of_mem fun {a b} ha hb hab => ?_)
  have := (mem_filter_len.mp ha).2
  have := hab this (mem_filter_len.mp hb).2
  simp only [toIv]; omega

theorem core_form (P ps' rs' : List Gpr) (hP : ∀ x, Covered x ps' ↔ Covered x P)
    (hsp : SortedByStart ps') (hsr : SortedByStart rs')
    (hnp : NoOverflow ps') (hnr : NoOverflow rs') (hdp : DisjointL ps') (hdr : DisjointL rs') :
    (unacceptedCore ps' rs').map toIv =
      (rs'.filter (fun b => b.len ≠ 0)).flatMap (fun b => subtract (toIv b) (P.map toIv)) :=
  outer_eq P rs' ps' hnr hnp (srt_of_sorted_disjoint hsr hdr) (srt_of_sorted_disjoint hsp hdp)
    (fun _ _ _ x _ => hP x)

/-- For any start-sorted arrangements `ps'`, `rs'` of the private ranges and the banks
    (whatever the unstable Go sort produced), if no region overflows 64 bits and each list is pairwise
    disjoint, the loop returns the specification's difference. -/
theorem unacceptedCore_eq_difference (ps rs ps' rs' : List Gpr)
    (hpp : ps'.Perm ps) (hsp : SortedByStart ps') (hrp : rs'.Perm rs) (hsr : SortedByStart rs')
    (hnp : NoOverflow ps) (hnr : NoOverflow rs) (hdp : DisjointL ps) (hdr : DisjointL rs) :
    unacceptedCore ps' rs' = (difference (rs.map toIv) (ps.map toIv)).map ofIv := by
  have hdr' := disjoint_perm hrp.symm hdr
  have key := core_form ps ps' rs' (fun _ => covered_perm hpp) hsp hsr (noOverflow_perm hpp.symm hnp)
    (noOverflow_perm hrp.symm hnr) (disjoint_perm hpp.symm hdp) hdr'
  -- the non-empty banks in ascending order are determined by the bank set
  have h2 : (rs'.filter (fun b => b.len ≠ 0)).map toIv = sortAsc ((rs.map toIv).filter Iv.nonempty) := by
    refine perm_sorted_eq _ _ ?_ (filter_strict (srt_of_sorted_disjoint hsr hdr')) (sortAsc_sorted _)
    rw [filter_toIv]
    exact ((hrp.filter _).map toIv).trans (sortAsc_perm _).symm
  rw [difference, ← h2, List.flatMap_map, ← key, map_ofIv_toIv]

theorem unacceptedCore_pointwise (ps rs ps' rs' : List Gpr)
    (hpp : ps'.Perm ps) (hsp : SortedByStart ps') (hrp : rs'.Perm rs) (hsr : SortedByStart rs')
    (hnp : NoOverflow ps) (hnr : NoOverflow rs) (hdp : DisjointL ps) (hdr : DisjointL rs) (x : Nat) :
    Covered x (unacceptedCore ps' rs') ↔ (Covered x rs ∧ ¬ Covered x ps) := by
  have key := core_form ps ps' rs' (fun _ => covered_perm hpp) hsp hsr (noOverflow_perm hpp.symm hnp)
    (noOverflow_perm hrp.symm hnr) (disjoint_perm hpp.symm hdp) (disjoint_perm hrp.symm hdr)
  rw [← covered_toIv, key, coveredIv_flatMap, ← covered_perm hrp]
  simp only [covered_subtract, mem_filter_len]
  constructor
  · rintro ⟨b, hb, hx, hn⟩
    exact ⟨⟨b, hb.1, hx⟩, hn⟩
  · rintro ⟨⟨b, hb, hbx⟩, hn⟩
    exact ⟨b, ⟨hb, by simp only [Gpr.mem] at hbx; omega⟩, hbx, hn⟩

theorem unacceptedCore_sorted (ps' rs' : List Gpr) (hsp : SortedByStart ps') (hsr : SortedByStart rs')
    (hnp : NoOverflow ps') (hnr : NoOverflow rs') (hdp : DisjointL ps') (hdr : DisjointL rs') :
    (∀ a ∈ unacceptedCore ps' rs', a.len ≠ 0) ∧
    (unacceptedCore ps' rs').Pairwise (fun a b => a.start + a.len ≤ b.start) := by
  have key := core_form ps' ps' rs' (fun _ => Iff.rfl) hsp hsr hnp hnr hdp hdr
  have hne : ∀ b ∈ rs'.filter (fun b => b.len ≠ 0), (toIv b).lo < (toIv b).hi := fun b hb => by
    have := (mem_filter_len.mp hb).2
    simp only [toIv]; omega
  constructor
  · intro a ha
    have := List.mem_map_of_mem (f := toIv) ha
    rw [key] at this
    obtain ⟨b, hb, hc⟩ := List.mem_flatMap.mp this
    have := (subtract_canon _ (ps'.map toIv) (hne b hb)).1 _ hc
    simp only [toIv] at this; omega
  · refine List.pairwise_map.mp (?_ : ((unacceptedCore ps' rs').map toIv).Pairwise (fun a b => a.hi ≤ b.lo))
    rw [key, List.pairwise_flatMap]
    refine ⟨fun b hb => (subtract_canon _ _ (hne b hb)).2.imp Nat.le_of_lt,
      ((srt_of_sorted_disjoint hsr hdr).filter _).imp_of_mem fun {a b} ha hb hab x hx y hy => ?_⟩
    -- pieces stay inside their banks, and the non-empty banks follow each other
    have := subtract_within _ _ (hne a ha) x hx
    have := subtract_within _ _ (hne b hb) y hy
    have := hab (mem_filter_len.mp ha).2 (mem_filter_len.mp hb).2
    simp only [toIv] at *
    omega

theorem insertByStart_perm (a : Gpr) (l : List Gpr) : (insertByStart a l).Perm (a :: l) := by
  induction l with
  | nil => exact .refl _
  | cons b t ih =>
    rw [insertByStart]
    split
    · exact (ih.cons b).trans (.swap a b t)
    · exact .refl _

theorem sortByStart_perm (l : List Gpr) : (sortByStart l).Perm l := by
  induction l with
  | nil => exact .refl _
  | cons a t ih => exact (insertByStart_perm a (sortByStart t)).trans (ih.cons a)

theorem insertByStart_sorted (a : Gpr) (l : List Gpr) (ha : a.start < 2 ^ 64) (hl : ∀ g ∈ l, g.start < 2 ^ 64)
    (h : SortedByStart l) : SortedByStart (insertByStart a l) := by
  unfold SortedByStart at *
  induction l with
  | nil => simp [insertByStart]
  | cons b t ih =>
    obtain ⟨hb, ht⟩ := List.pairwise_cons.mp h
    obtain ⟨hb64, hl'⟩ := List.forall_mem_cons.mp hl
    rw [insertByStart]
    simp only [startLt, decide_eq_true_eq, Nat.mod_eq_of_lt ha, Nat.mod_eq_of_lt hb64]
    split
    · simp only [List.pairwise_cons, (insertByStart_perm a t).mem_iff, List.forall_mem_cons]
      exact ⟨⟨by omega, hb⟩, ih hl' ht⟩
    · simp only [List.pairwise_cons, List.forall_mem_cons]
      exact ⟨⟨by omega, fun c hc => by have := hb c hc; omega⟩, hb, ht⟩

theorem sortByStart_sorted (l : List Gpr) (hl : ∀ g ∈ l, g.start < 2 ^ 64) : SortedByStart (sortByStart l) := by
  induction l with
  | nil => exact List.Pairwise.nil
  | cons a t ih =>
    obtain ⟨ha, ht⟩ := List.forall_mem_cons.mp hl
    exact insertByStart_sorted a _ ha (fun g hg => ht g ((sortByStart_perm t).mem_iff.mp hg)) (ih ht)

end GceTcb.Intervals
