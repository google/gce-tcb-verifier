import GceTcb.Model.Mrtd
import GceTcb.Proofs.TdxIntervals
/-
C05 — machine shapes: a decidable well-formedness check of the bank list of one shape, and the lemma
lifting it to the hypotheses of the interval theorem.  Core-only.
-/
namespace GceTcb.Mrtd
open GceTcb.Intervals

def threeGib : Nat := 3 * 1024 * 1024 * 1024
def fourGib' : Nat := 4 * 1024 * 1024 * 1024
def twoMib : Nat := 2 * 1024 * 1024

/-- a bank avoids the MMIO hole [3 GiB, 4 GiB) unless it is exactly the firmware window [4 GiB − 2 MiB, 4 GiB) -/
def avoidsHole (g : Gpr) : Prop :=
  g.start + g.len ≤ threeGib ∨ fourGib' ≤ g.start ∨ (g.start = fourGib' - twoMib ∧ g.len = twoMib)

instance (g : Gpr) : Decidable (avoidsHole g) := by unfold avoidsHole; exact inferInstance

/-- What C05 states about the banks of one shape. -/
def BanksWellFormed (s : Shape) (banks : List Gpr) : Prop :=
  banks.Pairwise (fun a b => a.start + a.len ≤ b.start) ∧        -- ascending and disjoint
  (∀ g ∈ banks, g.start + g.len < 2 ^ 64) ∧                      -- no 64-bit overflow
  (∀ g ∈ banks, avoidsHole g) ∧
  (banks.map (·.len)).sum = s.size * 1024 * 1024 * 1024 + twoMib ∧ -- the shape's RAM plus the firmware window
  (∀ g ∈ banks, g.len ≤ s.maxSizePerNode * 1024 * 1024 * 1024) ∧   -- per-node maximum
  banks.length = 2 + s.nodes

instance (s : Shape) (banks : List Gpr) : Decidable (BanksWellFormed s banks) := by
  unfold BanksWellFormed; exact inferInstance

def BanksOKOutcome (s : Shape) : Outcome (List Gpr) → Prop
  | .ok banks => BanksWellFormed s banks
  | .err _ => False
  | .panic _ => False

instance (s : Shape) : (o : Outcome (List Gpr)) → Decidable (BanksOKOutcome s o)
  | .ok banks => inferInstanceAs (Decidable (BanksWellFormed s banks))
  | .err _ => isFalse id
  | .panic _ => isFalse id

/-- regionsForShape does not panic on the shape and yields well-formed banks -/
def ShapeOK (s : Shape) : Prop := BanksOKOutcome s (regionsForShape s)

instance (s : Shape) : Decidable (ShapeOK s) := by
  unfold ShapeOK; exact inferInstance

def shapeOfEntry (e : String × Nat × Nat × Nat) : Shape := ⟨e.2.1, e.2.2.1, e.2.2.2⟩

/-- well-formed banks satisfy the preconditions of the interval theorem -/
theorem banks_preconditions {s : Shape} {banks : List Gpr} (h : BanksWellFormed s banks) :
    NoOverflow banks ∧ DisjointL banks ∧ SortedByStart banks :=
  -- ascending ends give ascending starts (an empty bank may tie with its successor)
  ⟨h.2.1, h.1.imp fun {a b} hab x hx => by simp only [Gpr.mem] at hx; omega, h.1.imp fun {a b} hab => by omega⟩

theorem shapeOK_of_table (table : List (String × Nat × Nat × Nat)) (h : ∀ e ∈ table, ShapeOK (shapeOfEntry e))
    (name : String) (s : Shape) (hs : findShape table name = some s) :
    ∃ banks, machineTypeToRAMBanks table name = .ok banks ∧ BanksWellFormed s banks := by
  obtain ⟨e, hf, rfl⟩ := Option.map_eq_some_iff.mp hs
  have hok := h e (List.mem_of_find?_eq_some hf)
  unfold ShapeOK shapeOfEntry at hok
  simp only [machineTypeToRAMBanks, hs]
  generalize regionsForShape _ = o at hok ⊢
  cases o with
  | ok banks => exact ⟨banks, rfl, hok⟩
  | err c => exact hok.elim
  | panic c => exact hok.elim
