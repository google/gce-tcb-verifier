import GceTcb.Model.Endorse
import GceTcb.Spec.Endorse
import GceTcb.Proofs.Outcome
/- Lemmas for C06 and C15 about `Model/Endorse`.  Each function of the measuring half is brought once into
   `Outcome.bind` form; what it returns, when it succeeds and that it does not panic are read off that form.
   `signDocEff` is taken apart once, by cases (`signDocEff_cases`). -/
namespace GceTcb.Endorse
open GceTcb GceTcb.Endorse.Spec

theorem paired_append {α β : Type} {R : α → β → Prop} {as₁ as₂ : List α} {bs₁ bs₂ : List β}
    (h₁ : Paired R as₁ bs₁) (h₂ : Paired R as₂ bs₂) : Paired R (as₁ ++ as₂) (bs₁ ++ bs₂) := by
  induction h₁ with
  | nil => exact h₂
  | cons h _ ih => exact Paired.cons h ih

theorem paired_imp_mem {α β : Type} {R S : α → β → Prop} {as : List α} {bs : List β}
    (h : Paired R as bs) (himp : ∀ a b, a ∈ as → R a b → S a b) : Paired S as bs := by
  induction h with
  | nil => exact Paired.nil
  | cons h _ ih => exact .cons (himp _ _ (by simp) h) (ih fun a b ha => himp a b (by simp [ha]))

theorem paired_exists {α β : Type} {R : α → β → Prop} {as : List α} {bs : List β}
    (h : Paired R as bs) (a : α) (ha : a ∈ as) : ∃ b ∈ bs, R a b := by
  induction h with
  | nil => cases ha
  | cons h _ ih =>
    rcases List.mem_cons.mp ha with rfl | ha
    · exact ⟨_, by simp, h⟩
    · obtain ⟨b, hb, hr⟩ := ih ha
      exact ⟨b, by simp [hb], hr⟩

theorem paired_length {α β : Type} {R : α → β → Prop} {as : List α} {bs : List β}
    (h : Paired R as bs) : as.length = bs.length := by
  induction h with
  | nil => rfl
  | cons _ _ ih => simp [ih]

attribute [local simp] Outcome.isOk_ok Outcome.isOk_err

theorem mapInsert_fresh (m : List (Nat × Bytes)) (k : Nat) (v : Bytes) (h : k ∉ m.map (·.1)) :
    mapInsert m k v = m ++ [(k, v)] := by
  rw [mapInsert, if_neg]
  intro ha
  obtain ⟨p, hp, hk⟩ := List.any_eq_true.mp ha
  exact h (List.mem_map.mpr ⟨p, hp, beq_iff_eq.mp hk⟩)

section measuring
variable {P : Prims} {T : Tables} {img : Bytes} {pr : Nat} {early : Bool}

theorem generateLDs_cons (c : Nat) (cs : List Nat) (acc : List (Nat × Bytes)) :
    generateLDs P img pr (c :: cs) acc =
      (P.launchDigest img c pr).bind fun ld => generateLDs P img pr cs (mapInsert acc c ld) := by
  rw [generateLDs]; cases P.launchDigest img c pr <;> rfl

theorem generateLDs_ok (P : Prims) (img : Bytes) (pr : Nat) :
    ∀ (cs : List Nat) (acc m : List (Nat × Bytes)), cs.Nodup → (∀ c ∈ cs, c ∉ acc.map (·.1)) →
      generateLDs P img pr cs acc = .ok m →
      m.map (·.1) = acc.map (·.1) ++ cs ∧
      ∀ p ∈ m, p ∈ acc ∨ (p.1 ∈ cs ∧ P.launchDigest img p.1 pr = .ok p.2) := by
  intro cs
  induction cs with
  | nil =>
    intro acc m _ _ h
    cases h
    exact ⟨by simp, fun p hp => Or.inl hp⟩
  | cons c cs ih =>
    intro acc m hn hd h
    rw [generateLDs_cons, Outcome.bind_eq_ok] at h
    obtain ⟨ld, hl, h⟩ := h
    rw [mapInsert_fresh acc c ld (hd c (by simp))] at h
    have hn' := List.nodup_cons.mp hn
    obtain ⟨k1, k2⟩ := ih (acc ++ [(c, ld)]) m hn'.2 (by
      intro x hx
      simp only [List.map_append, List.map_cons, List.map_nil, List.mem_append, List.mem_singleton, not_or]
      exact ⟨hd x (by simp [hx]), fun hxc => hn'.1 (hxc ▸ hx)⟩) h
    refine ⟨by simpa using k1, ?_⟩
    intro p hp
    rcases k2 p hp with hacc | ⟨hc, hv⟩
    · rcases List.mem_append.mp hacc with h1 | h1
      · exact Or.inl h1
      · cases List.mem_singleton.mp h1
        exact Or.inr ⟨by simp, hl⟩
    · exact Or.inr ⟨by simp [hc], hv⟩

theorem generateLDs_isOk (cs : List Nat) (acc : List (Nat × Bytes)) :
    (generateLDs P img pr cs acc).isOk = true ↔ ∀ c ∈ cs, (P.launchDigest img c pr).isOk = true := by
  induction cs generalizing acc with
  | nil => simp [generateLDs]
  | cons c cs ih =>
    rw [generateLDs_cons, Outcome.isOk_bind]
    simp only [ih, List.mem_cons, forall_eq_or_imp, Outcome.isOk_iff, exists_and_right]

theorem generateLDs_noPanic (hP : ∀ k, (P.launchDigest img k pr).isPanic = false) (cs : List Nat)
    (acc : List (Nat × Bytes)) : (generateLDs P img pr cs acc).isPanic = false := by
  induction cs generalizing acc with
  | nil => rfl
  | cons c cs ih => rw [generateLDs_cons]; exact Outcome.isPanic_bind (hP c) fun _ => ih _

/-- The second (early-accept) measurement as the loop uses it: an error is dropped, the zero value of
    `[48]byte` stands in. -/
def dropErr : Outcome Bytes → Outcome Bytes
  | .err _ => .ok zeros48
  | x => x

theorem dropErr_eq_ok (x : Outcome Bytes) (m : Bytes) :
    dropErr x = .ok m ↔ x = .ok m ∨ (∃ e, x = .err e) ∧ m = zeros48 := by
  cases x <;> simp [dropErr, eq_comm]

theorem dropErr_isOk (x : Outcome Bytes) : (dropErr x).isOk = !x.isPanic := by cases x <;> rfl
theorem dropErr_isPanic (x : Outcome Bytes) : (dropErr x).isPanic = x.isPanic := by cases x <;> rfl

theorem generateMRTDs_nil (acc : List TdxRow) :
    generateMRTDs P T img early [] acc = (P.mrtd img "" .default).bind fun m => .ok (acc ++ [⟨0, false, m⟩]) := by
  rw [generateMRTDs]; cases P.mrtd img "" .default <;> rfl

theorem generateMRTDs_cons (s : String) (ss : List String) (acc : List TdxRow) :
    generateMRTDs P T img early (s :: ss) acc =
      match shapeSize T s with
      | none => .err "unknown-shape"
      | some sz => (P.mrtd img s .tdhobBug).bind fun m =>
        if early then (dropErr (P.mrtd img s .earlyAccept)).bind fun m2 =>
          generateMRTDs P T img early ss (acc ++ [⟨sz % 2^32, false, m⟩, ⟨sz % 2^32, true, m2⟩])
        else generateMRTDs P T img early ss (acc ++ [⟨sz % 2^32, false, m⟩]) := by
  rw [generateMRTDs]
  cases shapeSize T s with
  | none => rfl
  | some sz =>
    cases P.mrtd img s .tdhobBug <;> cases early <;> try rfl
    cases P.mrtd img s .earlyAccept <;> rfl

theorem tdxConfigs_nil (early : Bool) : tdxConfigs [] early = [("", .default)] := rfl

theorem tdxConfigs_cons (s : String) (ss : List String) (early : Bool) :
    tdxConfigs (s :: ss) early =
      (if early then [(s, TdxMode.tdhobBug), (s, TdxMode.earlyAccept)] else [(s, TdxMode.tdhobBug)]) ++
        tdxConfigs ss early := by
  simp [tdxConfigs]

theorem mem_tdxConfigs_early (s : String) (ss : List String) (early : Bool) :
    (s, TdxMode.earlyAccept) ∈ tdxConfigs ss early ↔ early = true ∧ s ∈ ss := by
  cases early <;> simp [tdxConfigs]

theorem generateMRTDs_ok (P : Prims) (T : Tables) (img : Bytes) (early : Bool) :
    ∀ (ss : List String) (acc rows : List TdxRow), generateMRTDs P T img early ss acc = .ok rows →
      ∃ tail, rows = acc ++ tail ∧ Paired (WrittenRow P T img) (tdxConfigs ss early) tail := by
  intro ss
  induction ss with
  | nil =>
    intro acc rows h
    obtain ⟨m, hm, h⟩ := Outcome.bind_eq_ok.mp (generateMRTDs_nil .. ▸ h)
    exact ⟨_, (Outcome.ok.inj h).symm, .cons ⟨⟨rfl, rfl⟩, .inl hm⟩ .nil⟩
  | cons s ss ih =>
    intro acc rows h
    rw [generateMRTDs_cons] at h
    cases hs : shapeSize T s with
    | none => rw [hs] at h; cases h
    | some sz =>
      rw [hs] at h
      obtain ⟨m, hm, h⟩ := Outcome.bind_eq_ok.mp h
      have row1 : WrittenRow P T img (s, .tdhobBug) ⟨sz % 2^32, false, m⟩ := ⟨⟨⟨sz, hs, rfl⟩, rfl⟩, .inl hm⟩
      rw [tdxConfigs_cons]
      cases early with
      | false =>
        obtain ⟨tail, rfl, hp⟩ := ih _ rows h
        exact ⟨_ :: tail, by simp, .cons row1 hp⟩
      | true =>
        obtain ⟨m2, hm2, h⟩ := Outcome.bind_eq_ok.mp h
        obtain ⟨tail, rfl, hp⟩ := ih _ rows h
        have row2 : WrittenRow P T img (s, .earlyAccept) ⟨sz % 2^32, true, m2⟩ :=
          ⟨⟨⟨sz, hs, rfl⟩, rfl⟩, ((dropErr_eq_ok _ _).mp hm2).imp_right (⟨rfl, ·⟩)⟩
        exact ⟨_ :: _ :: tail, by simp, .cons row1 (.cons row2 hp)⟩

theorem generateMRTDs_isOk (ss : List String) (acc : List TdxRow) :
    (generateMRTDs P T img early ss acc).isOk = true ↔
      (∀ s ∈ ss, (shapeSize T s).isSome = true ∧ (P.mrtd img s .tdhobBug).isOk = true ∧
          (early = true → (P.mrtd img s .earlyAccept).isPanic = false)) ∧
      (P.mrtd img "" .default).isOk = true := by
  induction ss generalizing acc with
  | nil => simp [generateMRTDs_nil, Outcome.isOk_bind, ← Outcome.isOk_iff]
  | cons s ss ih =>
    rw [generateMRTDs_cons, List.forall_mem_cons]
    cases shapeSize T s with
    | none => simp
    | some sz => cases early <;> simp [Outcome.isOk_bind, ih, ← Outcome.isOk_iff, dropErr_isOk, and_assoc]

theorem generateMRTDs_noPanic (hP : ∀ s m, (P.mrtd img s m).isPanic = false) (ss : List String)
    (acc : List TdxRow) : (generateMRTDs P T img early ss acc).isPanic = false := by
  induction ss generalizing acc with
  | nil => rw [generateMRTDs_nil]; exact Outcome.isPanic_bind (hP _ _) fun _ => rfl
  | cons s ss ih =>
    rw [generateMRTDs_cons]
    cases shapeSize T s with
    | none => rfl
    | some sz =>
      refine Outcome.isPanic_bind (hP _ _) fun m => ?_
      cases early with
      | false => exact ih _
      | true => exact Outcome.isPanic_bind ((dropErr_isPanic _).trans (hP _ _)) fun _ => ih _

theorem written_measured_iff {ss : List String} {rows : List TdxRow}
    (hp : Paired (WrittenRow P T img) (tdxConfigs ss early) rows) :
    Paired (MeasuredRow P T img) (tdxConfigs ss early) rows ↔
      (early = true → ∀ s ∈ ss, (P.mrtd img s .earlyAccept).isOk = true) := by
  constructor
  · intro hm he s hs
    obtain ⟨row, _, hr⟩ := paired_exists hm _ ((mem_tdxConfigs_early s ss early).mpr ⟨he, hs⟩)
    exact Outcome.isOk_iff.mpr ⟨_, hr.2⟩
  · intro hall
    refine paired_imp_mem hp fun cfg row hmem hw => ⟨hw.1, hw.2.resolve_right ?_⟩
    rintro ⟨hmode, ⟨e, he⟩, _⟩
    obtain ⟨s, m⟩ := cfg
    cases hmode
    obtain ⟨h1, h2⟩ := (mem_tdxConfigs_early s ss early).mp hmem
    have := hall h1 s h2
    rw [he] at this
    cases this

variable {c : Ctx}

theorem snpPart_eq {r : SnpRequest} (hr : c.snp = some r) :
    snpPart P T c =
      match P.parseUuid (canonFamily T r) with
      | none => .err "family_id"
      | some fam =>
        match P.parseUuid (canonImage c.rndImageId r) with
        | none => .err "image_id"
        | some iid =>
          (generateLDs P c.image r.product (vmsaCounts T r) []).bind fun lds =>
            .ok (some ⟨r.svn, fam, iid, T.policy, lds, c.svsmMeasurement⟩) := by
  simp only [snpPart, hr, unsignedSnp]
  cases P.parseUuid (canonFamily T r) <;> cases P.parseUuid (canonImage c.rndImageId r) <;> try rfl
  cases generateLDs P c.image r.product (vmsaCounts T r) [] <;> rfl

theorem tdxPart_eq {t : TdxRequest} (ht : c.tdx = some t) :
    tdxPart P T c =
      (generateMRTDs P T c.image t.includeEarlyAccept t.machineShapes []).bind fun rows =>
        .ok (some ⟨t.svn, rows⟩) := by
  simp only [tdxPart, ht, unsignedTdx]
  cases generateMRTDs P T c.image t.includeEarlyAccept t.machineShapes [] <;> rfl

theorem goldenMeasurement_eq :
    goldenMeasurement P T c =
      if c.tdx.isNone && c.snp.isNone then .err "no-technology"
      else (snpPart P T c).bind fun snp => (tdxPart P T c).bind fun tdx =>
        .ok ⟨P.sha384 c.image, c.clSpec, c.commit, snp, tdx, [], [], none⟩ := by
  unfold goldenMeasurement; cases snpPart P T c <;> cases tdxPart P T c <;> rfl

theorem goldenMeasurement_ok (P : Prims) (T : Tables) (c : Ctx) (g : Golden)
    (h : goldenMeasurement P T c = .ok g) :
    (c.tdx.isNone && c.snp.isNone) = false ∧
    ∃ snp tdx, snpPart P T c = .ok snp ∧ tdxPart P T c = .ok tdx ∧
      g = ⟨P.sha384 c.image, c.clSpec, c.commit, snp, tdx, [], [], none⟩ := by
  rw [goldenMeasurement_eq] at h
  split at h
  · cases h
  · rename_i hn
    simp only [Outcome.bind_eq_ok, Outcome.ok.injEq] at h
    obtain ⟨snp, hs, tdx, ht, rfl⟩ := h
    exact ⟨(Bool.not_eq_true _).mp hn, snp, tdx, hs, ht, rfl⟩

theorem snpPart_some (P : Prims) (T : Tables) (c : Ctx) (r : SnpRequest) (hr : c.snp = some r)
    (o : Option SnpDoc) (h : snpPart P T c = .ok o) :
    ∃ fam iid lds, P.parseUuid (canonFamily T r) = some fam ∧
      P.parseUuid (canonImage c.rndImageId r) = some iid ∧
      generateLDs P c.image r.product (vmsaCounts T r) [] = .ok lds ∧
      o = some ⟨r.svn, fam, iid, T.policy, lds, c.svsmMeasurement⟩ := by
  rw [snpPart_eq hr] at h
  revert h
  cases P.parseUuid (canonFamily T r) <;> cases P.parseUuid (canonImage c.rndImageId r) <;>
    simp [Outcome.bind_eq_ok, @eq_comm _ o]

theorem tdxPart_some (P : Prims) (T : Tables) (c : Ctx) (t : TdxRequest) (ht : c.tdx = some t)
    (o : Option TdxDoc) (h : tdxPart P T c = .ok o) :
    ∃ rows, generateMRTDs P T c.image t.includeEarlyAccept t.machineShapes [] = .ok rows ∧
      o = some ⟨t.svn, rows⟩ := by
  simpa only [@eq_comm _ o, tdxPart_eq ht, Outcome.bind_eq_ok, Outcome.ok.injEq] using h

theorem snpPart_isOk :
    (snpPart P T c).isOk = true ↔
      ∀ r, c.snp = some r →
        (P.parseUuid (canonFamily T r)).isSome = true ∧
        (P.parseUuid (canonImage c.rndImageId r)).isSome = true ∧
        ∀ k ∈ vmsaCounts T r, (P.launchDigest c.image k r.product).isOk = true := by
  cases hr : c.snp with
  | none => simp [snpPart, hr]
  | some r =>
    simp only [snpPart_eq hr, Option.some.injEq, forall_eq']
    cases P.parseUuid (canonFamily T r) <;> cases P.parseUuid (canonImage c.rndImageId r) <;>
      simp [Outcome.isOk_bind, ← Outcome.isOk_iff, generateLDs_isOk]

theorem tdxPart_isOk :
    (tdxPart P T c).isOk = true ↔
      ∀ t, c.tdx = some t →
        (∀ s ∈ t.machineShapes, (shapeSize T s).isSome = true ∧ (P.mrtd c.image s .tdhobBug).isOk = true ∧
            (t.includeEarlyAccept = true → (P.mrtd c.image s .earlyAccept).isPanic = false)) ∧
        (P.mrtd c.image "" .default).isOk = true := by
  cases ht : c.tdx with
  | none => simp [tdxPart, ht]
  | some t =>
    simp only [tdxPart_eq ht, Outcome.isOk_bind, Outcome.isOk_ok, and_true, ← Outcome.isOk_iff, generateMRTDs_isOk,
      Option.some.injEq, forall_eq']

theorem goldenMeasurement_noPanic (h1 : ∀ k pr, (P.launchDigest c.image k pr).isPanic = false)
    (h2 : ∀ s m, (P.mrtd c.image s m).isPanic = false) : (goldenMeasurement P T c).isPanic = false := by
  have hs : (snpPart P T c).isPanic = false := by
    cases hr : c.snp with
    | none => rw [snpPart, hr]; rfl
    | some r =>
      rw [snpPart_eq hr]
      cases P.parseUuid (canonFamily T r) <;> cases P.parseUuid (canonImage c.rndImageId r) <;> try rfl
      exact Outcome.isPanic_bind (generateLDs_noPanic (h1 · _) _ _) fun _ => rfl
  have ht : (tdxPart P T c).isPanic = false := by
    cases ht : c.tdx with
    | none => rw [tdxPart, ht]; rfl
    | some t => rw [tdxPart_eq ht]; exact Outcome.isPanic_bind (generateMRTDs_noPanic h2 _ _) fun _ => rfl
  rw [goldenMeasurement_eq]
  split
  · rfl
  · exact Outcome.isPanic_bind hs fun _ => Outcome.isPanic_bind ht fun _ => rfl

end measuring

theorem signDocEff_cases (keys : Option Keys) (ts : Int × Nat) (doc : Golden) :
    (∃ k ca signer key cert bundle d, keys = some k ∧ k.ca = some ca ∧ k.signer = some signer ∧
      ca.primary = .ok key ∧ ca.certificate key = .ok cert ∧ ca.bundle key = .ok bundle ∧
      d = { doc with cert := cert, caBundle := bundle, timestamp := some ts } ∧
      signDocEff keys ts doc =
        ([.caPrimary, .caCertificate key, .caBundle key, .sign key d], (signer key d).bind fun sig => .ok (d, sig))) ∨
    ((signDocEff keys ts doc).2.isOk = false ∧ ∀ k d, SignEff.sign k d ∉ (signDocEff keys ts doc).1) := by
  unfold signDocEff
  split
  · exact .inr ⟨rfl, by simp⟩
  rename_i k
  split
  · exact .inr ⟨rfl, by simp⟩
  rename_i ca hca
  split
  · exact .inr ⟨rfl, by simp⟩
  rename_i signer hsg
  split
  · exact .inr ⟨rfl, by simp⟩
  · exact .inr ⟨rfl, by simp⟩
  rename_i key hp
  split
  · exact .inr ⟨rfl, by simp⟩
  · exact .inr ⟨rfl, by simp⟩
  rename_i cert hc
  split
  · exact .inr ⟨rfl, by simp⟩
  · exact .inr ⟨rfl, by simp⟩
  rename_i bundle hb
  refine .inl ⟨k, ca, signer, key, cert, bundle, _, rfl, hca, hsg, hp, hc, hb, rfl, ?_⟩
  dsimp only
  cases signer key { doc with cert := cert, caBundle := bundle, timestamp := some ts } <;> rfl

/-! ### concrete inputs used by the non-vacuity examples of the property file -/

/-- toy primitives: digests are tagged copies of their inputs; counts above 100 and the shape
    "c3-standard-8" in early-accept mode fail -/
def exPrims : Prims :=
  { sha384 := fun b => 0xAA :: b
    launchDigest := fun img k pr => if k ≤ 100 then .ok (UInt8.ofNat k :: UInt8.ofNat pr :: img) else .err "ld"
    mrtd := fun img s m =>
      if s == "c3-standard-8" && m == .earlyAccept then .err "mrtd"
      else .ok (UInt8.ofNat s.length :: (match m with | .tdhobBug => 1 | .earlyAccept => 2 | .default => 3) :: img)
    parseUuid := fun s => if s.length == 36 then some [UInt8.ofNat s.length] else none }

def exTables : Tables := ⟨[1, 2, 4], [("c3-standard-4", 16, 1, 176), ("c3-standard-8", 32, 1, 176)], "f73a6949-e8f3-473b-9553-e40e056fa3a2", 7⟩

def exCtx (vm : Nat) (shapes : List String) : Ctx :=
  { snp := some ⟨5, "", "", vm, 1⟩, tdx := some ⟨6, true, shapes⟩, image := [9], clSpec := 77, commit := [1, 2],
    svsmMeasurement := [3], rndImageId := "87654321-dead-beef-c0de-123456789abc" }

/-- Reading the two ids (`String.length` of 36 characters, twice) is most of what evaluating `goldenMeasurement` on
    these requests costs; it is done here, once for all the examples. -/
theorem exSnpPart (vm : Nat) (shapes : List String) :
    snpPart exPrims exTables (exCtx vm shapes) =
      (generateLDs exPrims [9] 1 (vmsaCounts exTables ⟨5, "", "", vm, 1⟩) []).bind fun lds =>
        .ok (some ⟨5, [36], [36], 7, lds, [3]⟩) := by
  have hf : exPrims.parseUuid (canonFamily exTables ⟨5, "", "", vm, 1⟩) = some [36] := by
    show exPrims.parseUuid exTables.familyId = _
    decide +kernel
  have hi : exPrims.parseUuid (canonImage (exCtx vm shapes).rndImageId ⟨5, "", "", vm, 1⟩) = some [36] := by
    show exPrims.parseUuid (exCtx 0 []).rndImageId = _
    decide +kernel
  rw [snpPart_eq (r := ⟨5, "", "", vm, 1⟩) rfl, hf, hi]
  rfl

end GceTcb.Endorse
