import GceTcb.Model.ToolChain
import GceTcb.Proofs.KeyCli
import GceTcb.Proofs.EndorseCli
import GceTcb.Proofs.RpCli
import GceTcb.Proofs.Pipeline
/-
Lemmas for Props/C03Tools.lean: the agreement hypotheses between the writing and the reading side (`Agree`) and what
makes a document `Written` under a certificate and its root; the invariant that makes signer and verifier meet
(`Bound`: the key the key directory holds under the primary's name is the key the recorded certificate certifies),
kept by command-line histories whose accepted bootstraps run on a clean store; what an `endorse` run that exits 0
wrote after such a history (`endorse_facts`); what the relying party's commands do with a `Written` document.
-/
namespace GceTcb.ToolChain
open GceTcb GceTcb.KeyHistory

variable {Cert Roots R Q : Type} {K : Kit Cert Roots R Q}

/-- What the relying party's proto.Unmarshal reads out of the document endorse.SignDoc marshalled (the fields of
    Model/Verify.lean's `Golden`; identical to `VerifyWire.goldenOfWire ∘ ProtoEndorse.ofGolden`). -/
def viewGolden (d : Endorse.Golden) : Verify.Golden :=
  { timestamp := d.timestamp.map fun t => ⟨t.1, (t.2 : Int)⟩, clSpec := d.clSpec, commit := d.commit, cert := d.cert,
    digest := d.digest, sevSnp := d.snp.map fun s => ⟨s.svsm, s.measurements⟩,
    tdx := d.tdx.map fun t => ⟨t.rows.map fun r => (r.ramGib, r.mrtd)⟩, other := d.caBundle }

def validAt (c : KeyHistory.Cert) (t : Nat) : Prop := c.notBefore ≤ t ∧ t ≤ c.notAfter

/-- The contracts of the third-party code BETWEEN the tools: what one tool's encoder writes, the other tool's decoder
    reads back (protobuf, DER, PEM); the key that signs is the key the certificate certifies (RSA-PSS); a signing
    certificate issued by a self-signed CA root chains to a pool holding that root at any time inside both validity
    windows (crypto/x509).  These are the `Laws` of Model/Pipeline.lean / `CryptoLaws` of Proofs/ProtoPipeline.lean,
    restated between `Codec` (writer) and `RpCli.Prims` (reader). -/
structure Agree (K : Kit Cert Roots R Q) : Prop where
  endorsement_rt : ∀ e, K.RW.P.v.unmarshalEndorsement (K.C.marshalEndorsement e) = some e
  golden_rt : ∀ d, K.RW.P.v.unmarshalGolden (K.C.marshalGolden d) = some (viewGolden d)
  der_nonempty : ∀ c, (K.C.certDer c).isEmpty = false
  der_parse : ∀ c, K.RW.P.v.parseCert (K.C.certDer c) = some (K.C.certOf c)
  pem_root : ∀ r, K.RW.P.pemCerts (K.C.rootPem r) = [K.C.certOf r]
  chain_ok : ∀ (r c : KeyHistory.Cert) (now : Nat), RootProfile r → SignProfile c → IssuedBy r c →
    validAt r now → validAt c now →
    K.RW.P.v.verifyChain (K.C.certOf c) (K.RW.P.poolOf [K.C.certOf r]) now = true
  sig_ok : ∀ (c : KeyHistory.Cert) (m : Bytes),
    K.RW.P.v.checkSigPss256 (K.C.certOf c) m (K.C.signPss c.subjectKey m) = true

def HasProvenance (d : Endorse.Golden) : Prop := d.clSpec ≠ 0 ∨ d.commit ≠ []

/-- The endorsement `endorse` makes of document `d` under the certificate `c`.  (The statements of
    Props/C03Tools.lean write the pair out.) -/
def signed (C : Codec Cert) (c : KeyHistory.Cert) (d : Endorse.Golden) : Verify.Endorsement :=
  ⟨C.marshalGolden d, C.signPss c.subjectKey (C.marshalGolden d)⟩

/-- The bytes `endorse` stores: `signed`, marshalled. -/
def stored (C : Codec Cert) (c : KeyHistory.Cert) (d : Endorse.Golden) : Bytes :=
  C.marshalEndorsement ⟨C.marshalGolden d, C.signPss c.subjectKey (C.marshalGolden d)⟩

theorem stored_eq (C : Codec Cert) (c : KeyHistory.Cert) (d : Endorse.Golden) :
    stored C c d = C.marshalEndorsement (signed C c d) := rfl

/-- `d` is a document as `endorse` signs it under the certificate `c` issued by the root `r`: what `endorse_facts`
    establishes about the file written, whatever the world and the time it is read in. -/
structure Written (C : Codec Cert) (r c : KeyHistory.Cert) (d : Endorse.Golden) : Prop where
  cert : d.cert = C.certDer c
  timestamp : d.timestamp.isSome = true
  provenance : HasProvenance d
  root : RootProfile r
  sign : SignProfile c
  issued : IssuedBy r c

/-- verify.EndorsementProto on what `endorse` signed, with the pool of the issuing root and at a time inside both
    validity windows: every check up to and including the signature passes; what is left is the part after it. -/
theorem endorsementProto_written (hA : Agree K) {r c : KeyHistory.Cert} {d : Endorse.Golden}
    (hw : Written K.C r c d) {now : Nat} (hvr : validAt r now) (hvc : validAt c now) (o : Verify.Options Roots Nat)
    (hro : o.roots = some (K.RW.P.poolOf [K.C.certOf r])) (hno : o.now = now) :
    Verify.endorsementProto K.RW.P.vp (signed K.C c d) o = Verify.afterSignature (viewGolden d) o := by
  have hprov : ∀ x : Bool, (x && d.clSpec == 0 && d.commit.isEmpty) = false := by
    intro x
    rcases hw.provenance with h | h
    · simp [h]
    · cases hc : d.commit with
      | nil => exact absurd hc h
      | cons a t => simp
  obtain ⟨ts, hts⟩ := Option.isSome_iff_exists.mp hw.timestamp
  simp only [Verify.endorsementProto, Verify.verifySigned, signed, RpCli.Prims.vp, hA.golden_rt, Verify.beforeSignature,
    Verify.checkProvenance, viewGolden, hts, Option.map_some, hprov, Bool.false_eq_true, if_false,
    Verify.checkCertificate, hw.cert, hA.der_nonempty, hro, hno, hA.der_parse,
    hA.chain_ok r c now hw.root hw.sign hw.issued hvr hvc, if_true, hA.sig_ok, Bool.not_true]

theorem readEndorsement_stored (hA : Agree K) (b : Verify.Backend Nat) {p : String}
    {c : KeyHistory.Cert} {d : Endorse.Golden} (hp : b.readFile p = some (stored K.C c d)) :
    Verify.readEndorsement K.RW.P.vp b p = .ok (signed K.C c d) := by
  simp only [Verify.readEndorsement, hp, stored_eq, RpCli.Prims.vp, hA.endorsement_rt]

theorem rootOfTrust_kept (hA : Agree K) (b : Verify.Backend Nat) {q : String} (hq : q ≠ "")
    {r : KeyHistory.Cert} (hr : b.readFile q = some (K.C.rootPem r)) :
    Verify.rootOfTrust K.RW.P.vp b q = .ok (K.RW.P.poolOf [K.C.certOf r]) := by
  have hne : (q != "") = true := by simp [hq]
  simp [Verify.rootOfTrust, hne, hr, RpCli.Prims.vp, RpCli.loadRootPool, hA.pem_root]

theorem contextOf_fields (P : EndorseCli.Params) (U : String → Option Bytes) (E : EndorseCli.Env)
    (fl : EndorseCli.CliFlags) (r : EndorseCli.Request) (h : EndorseCli.contextOf P U E fl = .ok r) :
    r.fl.measurementOnly = fl.measurementOnly ∧ r.fl.cfg.dryRun = fl.dryRun ∧
    r.fl.cfg.snapshot = (fl.snapshotDir != "") ∧ r.ctx.clSpec = fl.clspec := by
  unfold EndorseCli.contextOf at h
  rcases EndorseCli.ecOf_cases P U E fl with ⟨e, he⟩ | ⟨_, _, _, _, _, _, _, _, _, he⟩ <;> rw [he] at h <;> cases h
  exact ⟨rfl, rfl, rfl, rfl⟩

/-- The document endorse.SignDoc builds from the measured one: certificate, CA bundle and timestamp filled in. -/
def docOf (C : Codec Cert) (g : Endorse.Golden) (c rt : KeyHistory.Cert) (ts : Int × Nat) : Endorse.Golden :=
  { g with cert := C.certDer c, caBundle := C.rootPem rt, timestamp := some ts }

theorem signDoc_keysOf (C : Codec Cert) (cfg : KeyHistory.Cfg) (s : KeyHistory.State) (ts : Int × Nat)
    (g d : Endorse.Golden) (sig : Bytes)
    (h : Endorse.signDoc (some (keysOf C cfg s)) ts g = .ok (d, sig)) :
    ∃ c rt k, certificate s.ca s.ca.primarySigning = some c ∧ bundle cfg s.ca = some rt ∧
      KeyHistory.get s.km.live s.ca.primarySigning = some k ∧ d = docOf C g c rt ts ∧
      sig = C.signPss k (C.marshalGolden d) := by
  unfold Endorse.signDoc Endorse.signDocEff keysOf at h
  simp only [if_true] at h
  cases hc : certificate s.ca s.ca.primarySigning with
  | none => simp [hc] at h
  | some c =>
    cases hb : bundle cfg s.ca with
    | none => simp [hc, hb] at h
    | some rt =>
      cases hk : KeyHistory.get s.km.live s.ca.primarySigning with
      | none => simp [hc, hb, hk] at h
      | some k =>
        simp only [hc, hb, hk, Outcome.ok.injEq, Prod.mk.injEq] at h
        exact ⟨c, rt, k, rfl, rfl, rfl, h.1.symm, by rw [← h.2, ← h.1]⟩

/-- The certificate the authority records for its primary signing key certifies the key the key directory holds under
    that name (if it still holds one).  No other recorded name has a live key (`InvKM.onlyPrimary`), so together with
    `Inv` this is `C03_tools_key_bound`. -/
def Bound (s : State) : Prop :=
  ∀ p c k, KeyHistory.get s.ca.entries s.ca.primarySigning = some p → KeyHistory.get s.ca.objects p = some c →
    KeyHistory.get s.km.live s.ca.primarySigning = some k → c.subjectKey = k

variable {cfg : Cfg} {s : State}

theorem Bound_noEntries (km : KM) (ca : CA) (h : KeyHistory.get ca.entries ca.primarySigning = none) : Bound ⟨km, ca⟩ := by
  intro p c k hn
  rw [h] at hn; cases hn

theorem Bound_init : Bound State.init := Bound_noEntries _ _ rfl

theorem Bound_wipeout (h : Bound s) (c k : Bool) : Bound (wipeout s c k) := by
  intro p x y hn hp hk
  unfold wipeout at hn hp hk
  cases c with
  | true => simp [CA.empty, KeyHistory.get] at hn
  | false =>
    cases k with
    | true => simp [KM.wipe, KeyHistory.get] at hk
    | false => exact h p x y hn hp hk

/-- the key manager after a rotation step holds nothing the one after `gen` did not hold -/
def KmSub (km' : KM) (s : State) : Prop :=
  ∀ n x, KeyHistory.get km'.live n = some x → KeyHistory.get (s.km.gen (bump s.ca.primarySigning)).live n = some x

theorem Bound_rotated (hb : Bound s) {km' : KM} (hkm : KmSub km' s) {ca' : CA}
    (h : ca' = s.ca ∨ ca'.primarySigning = bump s.ca.primarySigning ∧ ∀ p c,
      KeyHistory.get ca'.entries (bump s.ca.primarySigning) = some p → KeyHistory.get ca'.objects p = some c →
        c.subjectKey = s.km.next) : Bound ⟨km', ca'⟩ := by
  intro p c k hn hp hk
  have hl := hkm _ k hk
  rw [live_gen] at hl
  rcases h with rfl | ⟨h1, h2⟩
  · rw [if_neg (bump_ne_self _).symm] at hl
    exact hb p c k hn hp hl
  · simp only [h1, if_true, Option.some.injEq] at hn hl
    subst hl
    exact h2 p c hn hp

theorem Bound_caAfterRotate (hg : cfg.guard = true) (hi : InvCA cfg s.ca) (hb : Bound s)
    (f : Flags) (oc : Option KeyHistory.Cert) (hoc : ∀ c, oc = some c → c.subjectKey = s.km.next) {km' : KM}
    (hkm : KmSub km' s) : Bound ⟨km', (caAfterRotate cfg f s.ca (bump s.ca.primarySigning) oc).1⟩ := by
  refine Bound_rotated hb hkm ?_
  rcases caAfterRotate_shape (cfg := cfg) f oc hi.kver_fresh with e | ⟨_, e⟩ | ⟨c, hc, ⟨e, _⟩ | ⟨_, _, _, hgf⟩⟩
  · exact Or.inl e
  · rw [e]
    exact Or.inr ⟨rfl, fun p c hn => by rw [hi.kver_fresh] at hn; cases hn⟩
  · rw [e]
    refine Or.inr ⟨rfl, fun p c' hn hp => ?_⟩
    simp only [caWrite, get_put_self, Option.some.injEq] at hn hp
    subst hn
    rw [get_put_self] at hp
    cases hp
    exact hoc c hc
  · rw [hg] at hgf; cases hgf

theorem Bound_rotateKeyX (hg : cfg.guard = true) (hi : Inv cfg s) (hb : Bound s)
    (f : Flags) (c : KeyCli.RotCtx) : Bound (KeyCli.rotateKeyX cfg f s c).1 := by
  have hsub : KmSub (s.km.gen (bump s.ca.primarySigning)) s := fun n x h => h
  have hsub2 : KmSub (destroyOld (s.km.gen (bump s.ca.primarySigning)) s.ca.primarySigning) s :=
    fun n x h => (live_destroyOld h).1
  cases hx : KeyCli.rotCertX cfg s c with
  | some x =>
    rw [KeyCli.rotateKeyX_eq_of_cert (by rw [hx, KeyCli.rotCertX_some hx])]
    rcases rotateKey_shape cfg f s c.cn c.serial.toNat (KeyCli.modelTime c.now) with e | ⟨oc, hoc, _, e⟩
    · rw [e]; exact Bound_rotated hb hsub (Or.inl rfl)
    · rw [e]
      exact Bound_caAfterRotate hg hi.1 hb f oc (fun c' hc' => (rotCert_fields (hoc c' hc')).2.2.2.2) hsub2
  | none =>
    rcases KeyCli.rotateKeyX_none (f := f) hx with e | ⟨_, e⟩
    · rw [e]; exact Bound_rotated hb hsub (Or.inl rfl)
    · rw [e]; exact Bound_caAfterRotate hg hi.1 hb f none (by intro c h; cases h) hsub2

theorem Bound_bootstrapX_clean (hg : cfg.guard = true) (f : Flags) (c : KeyCli.BootCtx)
    (hclean : Clean s) : Bound (KeyCli.bootstrapX cfg f c s).1 := by
  rcases KeyCli.bootstrapX_clean_shape cfg f c hclean with e | e | ⟨rc, e⟩
  · rw [e, hclean.eq]
    generalize KeyCli.bootArgs c = a
    by_cases hsame : cfg.ca = .gcsca ∧ a.signCn = a.rootCn ∧ a.signSerial = a.rootSerial
    · rw [bootstrap_clean_collide cfg f _ _ hsame.1 hg hsame.2]
      exact Bound_noEntries _ _ rfl
    · have hne : cfg.ca = .gcsca → ¬ (a.signCn = a.rootCn ∧ a.signSerial = a.rootSerial) := fun hc hh => hsame ⟨hc, hh⟩
      rw [bootstrap_clean cfg f _ _ hne]
      -- the primary is `firstName`: key `next + 1`, certified by the certificate recorded for it
      intro p x y hn hp hk
      have e1 : firstName ≠ rootName := firstName_ne_root
      cases hc : cfg.ca with
      | memca =>
        simp only [cleanCA, hc, KeyHistory.get, e1, if_false, if_true, Option.some.injEq] at hn hp hk
        subst hn hk
        have : ObjKey.byName firstName ≠ ObjKey.byName rootName := by decide
        simp only [this, if_false, if_true, Option.some.injEq] at hp
        subst hp; rfl
      | gcsca =>
        simp only [cleanCA, hc, KeyHistory.get, e1, if_false, if_true, Option.some.injEq] at hn hp hk
        subst hn hk
        have : ObjKey.byCert a.signCn a.signSerial ≠ ObjKey.byCert a.rootCn a.rootSerial := by
          intro e; injection e with e2 e3; exact hne hc ⟨e2, e3⟩
        simp only [this, if_false, if_true, Option.some.injEq] at hp
        subst hp; rfl
  · rw [e]
    exact Bound_noEntries _ _ (by unfold bootView; cases cfg.ca <;> rfl)
  · rw [e]
    exact Bound_noEntries _ _ (by unfold bootPutRoot bootView; cases cfg.ca <;> rfl)

variable {W : KeyCli.Wiring} {pt : String → Option (Int × Nat)}

theorem Bound_cliStep (hg : W.guard = true) (E : KeyCli.Env) (hi : Inv W.cfg s) (hb : Bound s) (f : KeyCli.CliFlags)
    (hclean : f.sub = .bootstrap → (KeyCli.cmdOf W pt E s f).isOk = true → Clean s) :
    Bound (KeyCli.cliStep W pt E s f).1 := by
  unfold KeyCli.cliStep
  cases hc : KeyCli.cmdOf W pt E s f with
  | err e => exact hb
  | panic x => exact hb
  | ok hd =>
    show Bound (KeyCli.libStep W.cfg s hd.cmd).1
    cases hcmd : hd.cmd with
    | bootstrap o c =>
      exact Bound_bootstrapX_clean (cfg := W.cfg) hg o c
        (hclean (KeyCli.cmdOf_isBootstrap hc (by rw [hcmd]; rfl)) (by rw [hc]; rfl))
    | rotate o c => exact Bound_rotateKeyX (cfg := W.cfg) hg hi hb o c
    | wipeout o c => exact Bound_wipeout hb c.ca c.keys

theorem InvBound_cliRun (hg : W.guard = true) (h : List (KeyCli.Env × KeyCli.CliFlags)) :
    ∀ s : State, Inv W.cfg s → Bound s → KeyCli.CliCleanRun W pt s h →
      Inv W.cfg (KeyCli.cliRun W pt s h) ∧ Bound (KeyCli.cliRun W pt s h) := by
  induction h with
  | nil => intro s hi hb _; exact ⟨hi, hb⟩
  | cons l t ih =>
    intro s hi hb hc
    exact ih _ (KeyCli.Inv_cliStep hg pt l.1 hi l.2 hc.1) (Bound_cliStep hg l.1 hi hb l.2 hc.1) hc.2

variable (K)

theorem run_append (a b : List Step) : ∀ w : World,
    run K w (a ++ b) = ((run K (run K w a).1 b).1, (run K w a).2 ++ (run K (run K w a).1 b).2) := by
  induction a with
  | nil => intro w; rfl
  | cons x t ih => intro w; simp only [List.cons_append, run, ih, List.cons_append]

theorem run_keySteps (h : List (KeyCli.Env × KeyCli.CliFlags)) : ∀ w : World,
    (run K w (keySteps h)).1 = { w with keys := KeyCli.cliRun K.W K.pt w.keys h } := by
  induction h with
  | nil => intro w; rfl
  | cons l t ih =>
    intro w
    simp only [keySteps, List.map_cons, run, step] at ih ⊢
    rw [ih]
    rfl

theorem run_snoc (w : World) (l : List Step) (s : Step) :
    (run K w (l ++ [s])).1 = (step K (run K w l).1 s).1 := by
  rw [run_append]; rfl

theorem read_keySteps (h : List (KeyCli.Env × KeyCli.CliFlags)) (w : World) (x : String) :
    (run K w (keySteps h)).1.read x = w.read x := by
  rw [run_keySteps]; rfl

theorem read_exportRoot (w : World) (q : String) {rt : KeyHistory.Cert}
    (h : bundle K.W.cfg w.keys.ca = some rt) (x : String) :
    (step K w (.exportRoot q)).1.read x = if x = q then some (K.C.rootPem rt) else w.read x := by
  simp only [step, exportRoot, h, World.read, get_put]

theorem keys_exportRoot (w : World) (q : String) : (step K w (.exportRoot q)).1.keys = w.keys := by
  simp only [step, exportRoot]; split <;> rfl

variable {KE : KeyCli.Env} {wf : KeyCli.CliFlags} {E : EndorseEnv} {fl : EndorseCli.CliFlags}

theorem read_endorse (w : World) {p : String} {content : Bytes} (h : endorseWrites K w KE wf E fl = some (p, content))
    (x : String) : (step K w (.endorse KE wf E fl)).1.read x = if x = p then some content else w.read x := by
  simp only [step, h, World.read, get_put]

theorem keys_endorse (w : World) : (step K w (.endorse KE wf E fl)).1.keys = w.keys := by
  simp only [step]; split <;> rfl

theorem cliRun_append (W : KeyCli.Wiring) (pt : String → Option (Int × Nat)) (s : State)
    (a b : List (KeyCli.Env × KeyCli.CliFlags)) :
    KeyCli.cliRun W pt s (a ++ b) = KeyCli.cliRun W pt (KeyCli.cliRun W pt s a) b := by
  simp [KeyCli.cliRun, List.foldl_append]

theorem bundle_caAfterRotate {ca : CA} (hi : InvCA cfg ca) (f : Flags) (oc : Option KeyHistory.Cert) :
    bundle cfg (caAfterRotate cfg f ca (bump ca.primarySigning) oc).1 = bundle cfg ca := by
  have hk : bump ca.primarySigning ≠ ca.primaryRoot := by
    rcases hi.rootOrEmpty with h1 | ⟨h1, _⟩
    · rw [h1]; exact bump_ne_root _
    · rw [h1]; exact bump_ne_noName _
  rcases caAfterRotate_shape (cfg := cfg) f oc hi.kver_fresh with e | ⟨_, e⟩ | ⟨c, _, ⟨e, _⟩ | ⟨e, _, hc, _⟩⟩
  · rw [e]
  · rw [e]; exact bundle_setSigning cfg ca _
  · rw [e]
    exact caWrite_bundle hi.sync (fun hc => by simp [defaultPath, hc]) hk
  · rw [e]
    unfold bundle
    rw [hc]
    rfl

theorem bundle_rotate_line (E : KeyCli.Env) (hi : Inv W.cfg s) (f : KeyCli.CliFlags) (hs : f.sub = .rotate) :
    bundle W.cfg (KeyCli.cliStep W pt E s f).1.ca = bundle W.cfg s.ca := by
  unfold KeyCli.cliStep
  cases hc : KeyCli.cmdOf W pt E s f with
  | err e => rfl
  | panic x => rfl
  | ok hd =>
    obtain ⟨p, _, _, _, h4, _⟩ := KeyCli.cmdOf_ok_iff.mp hc
    have hcmd := KeyCli.initCtx_ok_iff.mp h4
    rw [hs] at hcmd
    obtain ⟨_, n, _, hcmd⟩ := hcmd
    simp only [hcmd, KeyCli.libStep]
    rcases KeyCli.rotateKeyX_ca W.cfg ⟨f.overwrite, f.keepGoing⟩ s ⟨f.signingKeyCn, n, KeyCli.nowOf E p.ts⟩ with
      e | ⟨oc, e⟩
    · rw [e]
    · rw [e]; exact bundle_caAfterRotate hi.1 _ oc

def RotateOnly (h : List (KeyCli.Env × KeyCli.CliFlags)) : Prop := ∀ l ∈ h, l.2.sub = .rotate

theorem cleanRun_rotateOnly (W : KeyCli.Wiring) (pt : String → Option (Int × Nat))
    (h : List (KeyCli.Env × KeyCli.CliFlags)) (hr : RotateOnly h) : ∀ s, KeyCli.CliCleanRun W pt s h := by
  induction h with
  | nil => intro s; trivial
  | cons l t ih =>
    intro s
    refine ⟨fun hb => ?_, ih (fun x hx => hr x (List.mem_cons_of_mem _ hx)) _⟩
    have := hr l List.mem_cons_self
    rw [this] at hb; cases hb

theorem bundle_rotations (hg : W.guard = true) (h : List (KeyCli.Env × KeyCli.CliFlags)) (hr : RotateOnly h) :
    ∀ s : State, Inv W.cfg s → bundle W.cfg (KeyCli.cliRun W pt s h).ca = bundle W.cfg s.ca := by
  induction h with
  | nil => intro s _; rfl
  | cons l t ih =>
    intro s hi
    have hl := hr l List.mem_cons_self
    have hstep : Inv W.cfg (KeyCli.cliStep W pt l.1 s l.2).1 :=
      KeyCli.Inv_cliStep hg pt l.1 hi l.2 (fun hb => by rw [hl] at hb; cases hb)
    show bundle W.cfg (KeyCli.cliRun W pt (KeyCli.cliStep W pt l.1 s l.2).1 t).ca = _
    rw [ih (fun x hx => hr x (List.mem_cons_of_mem _ hx)) _ hstep, bundle_rotate_line l.1 hi l.2 hl]

/-- The rows of the command tree and of the flag table that the three command lines below touch. -/
theorem line_tables :
    (∀ c ∈ ["verify", "sev validate", "tdx validate"],
      RpCli.isCommand c = true ∧ RpCli.kindOf c "root_cert" = some "String") ∧
    ∀ c ∈ ["sev validate", "tdx validate"], RpCli.kindOf c "endorsement" = some "String" := by decide +kernel

theorem rp_verify_eq (w : World) (now : Nat) (q p : String) :
    (rpRun K w now (verifyLine q p)).result = Verify.cliVerify K.RW.P.vp ⟨w.read, none, now⟩ p q := by
  have hw : RpCli.wellFormed K.RW.L (verifyLine q p) = true := by
    simp [RpCli.wellFormed, verifyLine, RpCli.flagOk, line_tables.1 "verify"]
  have hps : (RpCli.parsed K.RW.L (verifyLine q p)).verifyShow = false ∧
      (RpCli.parsed K.RW.L (verifyLine q p)).verifyRoot = q := by
    rw [RpCli.parsed_verifyShow _ _ (rfl : (verifyLine q p).cmd = "verify"),
      RpCli.parsed_verifyRoot _ _ (rfl : (verifyLine q p).cmd = "verify")]
    simp [RpCli.namedShow, RpCli.namedRoot, verifyLine, RpCli.lastOf, RpCli.optBool]
  have hargs : (verifyLine q p).args = [p] := rfl
  unfold rpRun RpCli.run
  rw [RpCli.callOf_verify _ _ _ _ hw rfl rfl]
  simp only [RpCli.verifyCall, hargs, hps, Verify.cliVerify, Bool.not_false, if_true, RpCli.Env.backend, rpEnv]
  cases Verify.readEndorsement K.RW.P.vp ⟨w.read, none, now⟩ p with
  | error c => rfl
  | ok e => cases Verify.rootOfTrust K.RW.P.vp ⟨w.read, none, now⟩ q <;> rfl

/-- An `endorse` command line that exits 0 (not dry-run, not measurement-only, not in snapshot mode) after a history of
    key-management lines with clean accepted bootstraps: SignDoc found the primary's certificate, the root object and
    the primary's key — the key that certificate certifies —, and the file written holds exactly that document and
    signature; with provenance on the command line the document is `Written` under that certificate and root. -/
theorem endorse_facts (hg : K.W.guard = true) (h : List (KeyCli.Env × KeyCli.CliFlags))
    (hc : KeyCli.CliCleanRun K.W K.pt State.init h) (w : World) (hk : w.keys = KeyCli.cliRun K.W K.pt State.init h)
    (hres : (endorseRun K w KE wf E fl).result = .ok ())
    (hmo : fl.measurementOnly = false) (hdry : fl.dryRun = false) (hsnap : fl.snapshotDir = "") :
    ∃ r g c rt, EndorseCli.contextOf K.EP K.Pr.parseUuid (endorseEnvOf K w KE wf E) fl = .ok r ∧
      Endorse.goldenMeasurement K.Pr K.T r.ctx = .ok g ∧
      certificate (KeyCli.cliRun K.W K.pt State.init h).ca (KeyCli.cliRun K.W K.pt State.init h).ca.primarySigning =
        some c ∧
      bundle K.W.cfg (KeyCli.cliRun K.W K.pt State.init h).ca = some rt ∧
      endorseWrites K w KE wf E fl = some (outPathOf r.fl.cfg, stored K.C c (docOf K.C g c rt r.ts)) ∧
      (fl.clspec ≠ 0 → Written K.C rt c (docOf K.C g c rt r.ts)) := by
  obtain ⟨hi, hb⟩ := InvBound_cliRun hg h State.init (Inv_init K.W.cfg) Bound_init hc
  have hroot := KeyCli.RootInv_cliRun K.W K.pt h State.init (RootInv_empty K.W.cfg)
  rw [← hk] at hi hb hroot ⊢
  have hres' := hres
  unfold endorseRun EndorseCli.cliRun at hres
  cases hc : EndorseCli.contextOf K.EP K.Pr.parseUuid (endorseEnvOf K w KE wf E) fl with
  | err e => simp [hc] at hres
  | panic x => simp [hc] at hres
  | ok r =>
    obtain ⟨f1, f2, f3, f4⟩ := contextOf_fields _ _ _ _ _ hc
    simp only [hc] at hres
    unfold VF.virtualFirmware at hres
    cases hgm : Endorse.goldenMeasurement K.Pr K.T r.ctx with
    | err e => simp [hgm] at hres
    | panic x => simp [hgm] at hres
    | ok g =>
      simp only [hgm, f1, hmo, Bool.false_eq_true, if_false] at hres
      cases hs : Endorse.signDocEff (some (keysOf K.C K.W.cfg w.keys)) r.ts g with
      | mk effs o =>
        cases o with
        | err e => simp [hs] at hres
        | panic x => simp [hs] at hres
        | ok ds =>
          obtain ⟨d, sig⟩ := ds
          have hsd : Endorse.signDoc (some (keysOf K.C K.W.cfg w.keys)) r.ts g = .ok (d, sig) := by
            unfold Endorse.signDoc; rw [hs]
          obtain ⟨c, rt, k, h1, h2, h3, rfl, rfl⟩ := signDoc_keysOf _ _ _ _ _ _ _ hsd
          -- the key the directory holds under the primary's name is the one its certificate certifies
          obtain ⟨pth, he, ho⟩ : ∃ pth, KeyHistory.get w.keys.ca.entries w.keys.ca.primarySigning = some pth ∧
              KeyHistory.get w.keys.ca.objects pth = some c := by
            unfold certificate at h1
            cases he : KeyHistory.get w.keys.ca.entries w.keys.ca.primarySigning with
            | none => simp [he] at h1
            | some pth => simp only [he] at h1; exact ⟨pth, rfl, h1⟩
          cases hb pth c k he ho h3
          refine ⟨r, g, c, rt, rfl, hgm, h1, h2, ?_, fun hprov => ?_⟩
          · unfold endorseWrites
            simp only [hc, f1, f2, f3, hmo, hdry, hsnap, hres', hgm, hsd]
            simp [stored]
          · obtain ⟨hsp, rt', hrt', hiss⟩ := hi.1.good _ pth c he hi.1.ps_ne_root ho
            cases h2.symm.trans hrt'
            obtain ⟨_, _, _, _, _, rfl⟩ := Endorse.goldenMeasurement_ok _ _ _ _ hgm
            exact ⟨rfl, rfl, Or.inl (by rw [← f4] at hprov; exact hprov), RootInv_bundle hroot h2, hsp, hiss⟩

variable {K} {r c : KeyHistory.Cert} {d : Endorse.Golden}

/-- `gcetcbendorsement verify --root_cert q p` on ANY world that has at `p` what `endorse` stored and at `q` the root
    object that issued the embedded certificate: exit status 0 at any time inside both validity windows. -/
theorem verify_written (w : World) (now : Nat) (p q : String) (hA : Agree K) (hd : Written K.C r c d) (hq : q ≠ "")
    (hp : w.read p = some (stored K.C c d)) (hr : w.read q = some (K.C.rootPem r))
    (hvr : validAt r now) (hvc : validAt c now) : (step K w (.rp now (verifyLine q p))).2 = "ok" := by
  simp only [step, rp_verify_eq, Verify.cliVerify, readEndorsement_stored hA ⟨w.read, none, now⟩ hp,
    rootOfTrust_kept hA ⟨w.read, none, now⟩ hq hr]
  rw [endorsementProto_written hA hd hvr hvc _ rfl rfl]
  rfl

theorem snp_listed (d : Endorse.Golden) (sd : Endorse.SnpDoc) (n : Nat) (m : Bytes) (hd : d.snp = some sd) (hn : n ≠ 0)
    (hl : Verify.lookupNat sd.measurements n = some m) :
    Verify.snp (viewGolden d) ⟨some m, n⟩ = none := by
  have hne : sd.measurements.isEmpty = false := by
    cases hq : sd.measurements with
    | nil => rw [hq] at hl; simp [Verify.lookupNat] at hl
    | cons _ _ => rfl
  have hn' : (n != 0) = true := by simp [hn]
  simp only [Verify.snp, viewGolden, hd, Option.map_some, hn', if_true, hne, Bool.false_eq_true, if_false, hl,
    Option.getD_some]
  split
  · rfl
  · simp

def sevLine (s p q a : String) : RpCli.CmdLine :=
  ⟨"sev validate", [("launch_vmsas", s), ("endorsement", p), ("root_cert", q)], [a]⟩

/-- `sev validate --launch_vmsas s --endorsement p --root_cert q a` on ANY world that has at `p` what `endorse` stored, at
    `q` the issuing root and at `a` an SEV-SNP attestation carrying the 48-byte measurement the document lists for the
    count named: exit status 0 inside both validity windows, the third-party checks granted.  Everything after `p` is a
    chain of implications under one `∀`, so that the lemma is, as it stands, the last component of
    `C03_tools_sev_validate_listed`; `tdx_validate_written` and `tdx_measure_written` have that shape for the same reason. -/
theorem sev_validate_written (hA : Agree K) (hd : Written K.C r c d) (p : String) :
    ∀ (w : World) (q a s : String) (n now : Nat) (content : Bytes) (sa : Verify.Attestation) (sd : Endorse.SnpDoc)
      (vopts : Nat), q ≠ "" → p ≠ "" → w.read p = some (stored K.C c d) → w.read q = some (K.C.rootPem r) →
      w.read a = some content → K.RW.P.parseAttestation content = some (.sevSnp sa) →
      sa.measurement.length = 48 → K.RW.L.parseUint s = some n → n < 2 ^ 32 → n ≠ 0 →
      d.snp = some sd → Verify.lookupNat sd.measurements n = some sa.measurement →
      K.RW.P.v.sevPolicyOptions (signed K.C c d) n false (K.RW.tagS none) = some vopts →
      K.RW.P.v.snpBaseChecks sa.tag vopts = true → validAt r now → validAt c now →
      (step K w (.rp now (sevLine s p q a))).2 = "ok" := by
  intro w q a s n now content sa sd vopts hq hpne hp hr ha hpa hlen hs hn hn0 hsd hl hpol hbase hvr hvc
  have hcmd : (sevLine s p q a).cmd = "sev validate" := rfl
  have hw : RpCli.wellFormed K.RW.L (sevLine s p q a) = true := by
    simp [RpCli.wellFormed, sevLine, RpCli.flagOk, line_tables.1 "sev validate", line_tables.2 "sev validate",
      RpCli.kind_launch "sev validate", hs, hn]
  -- what cobra leaves in the command structs
  have hps : (RpCli.parsed K.RW.L (sevLine s p q a)).sevLaunchVmsas = n ∧
      (RpCli.parsed K.RW.L (sevLine s p q a)).sevValidateRoot = q ∧
      (RpCli.parsed K.RW.L (sevLine s p q a)).sevValidateEndorsementPath = p ∧
      (RpCli.parsed K.RW.L (sevLine s p q a)).sevValidateTestonlyForceGCS = false ∧
      (RpCli.parsed K.RW.L (sevLine s p q a)).sevBase = "" ∧
      (RpCli.parsed K.RW.L (sevLine s p q a)).sevOverwrite = false := by
    rw [RpCli.parsed_sevLaunchVmsas _ _ (Or.inl hcmd), RpCli.parsed_sevValidateRoot _ _ hcmd,
      (RpCli.parsed_sevValidate_rest _ _ hcmd).1, (RpCli.parsed_sevValidate_rest _ _ hcmd).2.1,
      (RpCli.parsed_sevValidate_rest _ _ hcmd).2.2, RpCli.parsed_sevOverwrite _ _ (Or.inl hcmd)]
    simp [RpCli.namedVmsas, RpCli.namedRoot, RpCli.namedEndorsementPath, RpCli.namedForceGCS, RpCli.namedBase,
      RpCli.namedOverwrite, sevLine, RpCli.lastOf, RpCli.optBool, hs]
  have hpne' : (p != "") = true := by simp [hpne]
  have hargs : (sevLine s p q a).args = [a] := rfl
  have ha' : (rpEnv w now).readFile a = some content := ha
  simp only [step, rpRun, RpCli.run]
  rw [RpCli.callOf_sevValidate _ _ _ _ hw hcmd rfl]
  simp only [RpCli.sevValidateCall, RpCli.sevBase, hps, hargs, ha', Verify.cliEndorsement, hpne', if_true,
    readEndorsement_stored hA (rpEnv w now).backend hp, rootOfTrust_kept hA (rpEnv w now).backend hq hr,
    bne_self_eq_false, Bool.false_eq_true, if_false]
  simp only [RpCli.exec, RpCli.Prims.vp, hpa, Verify.sevValidate, RpCli.SevValidateOptions.toVerify,
    Verify.sevEndorsement, hpol, Option.map_some, Option.getD_some, hbase, Bool.not_true, Bool.false_eq_true, if_false,
    Verify.certTableOptions, Verify.snpClosure, hlen, Verify.measurementSize, bne_self_eq_false,
    Verify.closureSerialized, Verify.sevClosureOpts, Option.isNone_some, Bool.and_false, Verify.closureCallOpts]
  rw [← RpCli.Prims.vp, endorsementProto_written hA hd hvr hvc _ rfl rfl]
  simp [Verify.afterSignature, snp_listed d sd n sa.measurement hsd hn0 hl, clsOf]

def tdxLine (s p q a : String) : RpCli.CmdLine :=
  ⟨"tdx validate", [("ram_gib", s), ("endorsement", p), ("root_cert", q)], [a]⟩

theorem tdx_call_written (w : World) (now : Nat) (s p q a : String) (hA : Agree K) (g : Int) (hq : q ≠ "") (hpne : p ≠ "")
    (hs : K.RW.L.parseInt s = some g) (hg1 : -(2 ^ 63 : Int) ≤ g) (hg2 : g < 2 ^ 63)
    (hp : w.read p = some (stored K.C c d)) (hr : w.read q = some (K.C.rootPem r))
    (content : Bytes) (ha : w.read a = some content) :
    RpCli.callOf K.RW.P K.RW.L (rpEnv w now) (tdxLine s p q a) =
      .ok (.tdxValidate content
        { endorsement := some (signed K.C c d), basePolicy := none, overwrite := false,
          roots := some (K.RW.P.poolOf [K.C.certOf r]), now := now, getter := none, expectedRAMGiB := g }) := by
  have hcmd : (tdxLine s p q a).cmd = "tdx validate" := rfl
  have hw : RpCli.wellFormed K.RW.L (tdxLine s p q a) = true := by
    simp [RpCli.wellFormed, tdxLine, RpCli.flagOk, line_tables.1 "tdx validate", line_tables.2 "tdx validate",
      RpCli.kind_ram "tdx validate", hs]
    omega
  have hps : (RpCli.parsed K.RW.L (tdxLine s p q a)).tdxRamGiB = g ∧
      (RpCli.parsed K.RW.L (tdxLine s p q a)).tdxValidateRoot = q ∧
      (RpCli.parsed K.RW.L (tdxLine s p q a)).tdxValidateEndorsementPath = p ∧
      (RpCli.parsed K.RW.L (tdxLine s p q a)).tdxBase = "" ∧
      (RpCli.parsed K.RW.L (tdxLine s p q a)).tdxOverwrite = false := by
    rw [RpCli.parsed_tdxRamGiB _ _ (Or.inl hcmd), RpCli.parsed_tdxValidateRoot _ _ hcmd,
      (RpCli.parsed_tdxValidate_rest _ _ hcmd).1, (RpCli.parsed_tdxValidate_rest _ _ hcmd).2,
      RpCli.parsed_tdxOverwrite _ _ (Or.inl hcmd)]
    simp [RpCli.namedRamGiB, RpCli.namedRoot, RpCli.namedEndorsementPath, RpCli.namedBase, RpCli.namedOverwrite, tdxLine,
      RpCli.lastOf, RpCli.optBool, hs]
  have hpne' : (p != "") = true := by simp [hpne]
  have hargs : (tdxLine s p q a).args = [a] := rfl
  have ha' : (rpEnv w now).readFile a = some content := ha
  rw [RpCli.callOf_tdxValidate _ _ _ _ hw hcmd rfl]
  simp only [RpCli.tdxValidateCall, RpCli.tdxBase, hps, hargs, ha', Verify.cliEndorsement, hpne', if_true,
    readEndorsement_stored hA (rpEnv w now).backend hp, rootOfTrust_kept hA (rpEnv w now).backend hq hr,
    bne_self_eq_false, Bool.false_eq_true, if_false]
  rfl

/-- `tdx validate --ram_gib s --endorsement p --root_cert q a` on ANY world that has at `p` what `endorse` stored, at `q`
    the issuing root and at `a` a TDX quote: exit status 0 inside both validity windows, the third-party checks granted. -/
theorem tdx_validate_written (hA : Agree K) (hd : Written K.C r c d) (p : String) :
    ∀ (w : World) (q a s : String) (g : Int) (now : Nat) (content : Bytes) (qt vopts : Nat),
      q ≠ "" → p ≠ "" → w.read p = some (stored K.C c d) → w.read q = some (K.C.rootPem r) →
      w.read a = some content → K.RW.P.parseAttestation content = some (.tdx qt) →
      K.RW.L.parseInt s = some g → -(2 ^ 63 : Int) ≤ g → g < 2 ^ 63 →
      K.RW.P.v.tdxPolicyOptions (signed K.C c d) (RpCli.ramTag g) false (K.RW.tagT none) = some vopts →
      K.RW.P.v.tdxQuoteChecks qt vopts = true → validAt r now → validAt c now →
      (step K w (.rp now (tdxLine s p q a))).2 = "ok" := by
  intro w q a s g now content qt vopts hq hpne hp hr ha hpa hs hg1 hg2 hpol hquote hvr hvc
  simp only [step, rpRun, RpCli.run]
  rw [tdx_call_written w now s p q a hA g hq hpne hs hg1 hg2 hp hr content ha]
  simp only [RpCli.exec, Verify.tdxValidate, hpa, RpCli.TdxValidateOptions.toVerify, Verify.tdxEndorsement]
  rw [endorsementProto_written hA hd hvr hvc _ rfl rfl]
  simp [Verify.afterSignature, Verify.tdxVerifyOpts, RpCli.Prims.vp, hpol, hquote, clsOf]

section
open GceTcb.Policy

/-- the measurement reading (Model/Policy.lean) of the same command line: a quote carrying the MRTD of a row the
    written document lists for the RAM size named is accepted -/
theorem tdx_measure_written (hA : Agree K) (r c : KeyHistory.Cert) (d : Endorse.Golden) (p : String) :
    ∀ (M : RpCli.MeasurePrims) (w : World) (q a s : String) (now : Nat) (content : Bytes) (rows : List Policy.TdxRow)
      (row : Policy.TdxRow), q ≠ "" → p ≠ "" → w.read p = some (stored K.C c d) → w.read q = some (K.C.rootPem r) →
      w.read a = some content → M.quoteMrtd content = some row.mrtd →
      K.RW.G.goldenTdx (signed K.C c d) = some (some rows) → (∀ x ∈ rows, x.mrtd.length = mrTdSize) → row ∈ rows →
      row.ramGib < 4294967296 → K.RW.L.parseInt s = some (row.ramGib : Int) →
      M.otherChecks content (signed K.C c d) = true → RpCli.measure K.RW M (rpEnv w now) (tdxLine s p q a) = true := by
  intro M w q a s now content rows row hq hpne hp hr ha hm hrows hwf hmem hram hs hother
  unfold RpCli.measure
  rw [tdx_call_written w now s p q a hA row.ramGib hq hpne hs (by omega) (by omega) hp hr content ha]
  simp only [RpCli.measureCall, RpCli.measureTdx, hm, hrows, hother]
  exact Pipeline.every_listed_mrtd_accepted _ _ rows hwf row hmem hram

end

end GceTcb.ToolChain
