import GceTcb.Model.GuidTable
/-
One-step unfolding of the well-founded `guidWalk` of Model/GuidTable.lean, so that the walk can be stepped
through a concrete table (the kernel does not unfold well-founded recursion under `decide`).  Used for the
example images of Proofs/SnpExample.lean and Proofs/TdxExample.lean.
-/
namespace GceTcb.GuidTable
open GceTcb

theorem guidWalk_zero (table : Bytes) (acc : BlockMap) : guidWalk table 0 acc = .ok acc := by
  rw [guidWalk]; simp

/-- one iteration of the walk (the loop condition holds) -/
theorem guidWalk_succ (table : Bytes) (n : Nat) (acc : BlockMap) (hn : n ≠ 0) :
    guidWalk table n acc = (walkStep table n acc).bind fun r => guidWalk table r.1 r.2 := by
  rw [guidWalk, if_neg hn]
  split <;> simp only [*, Outcome.bind]

theorem guidWalk_step (table : Bytes) (n : Nat) (acc : BlockMap) (n' : Nat) (acc' : BlockMap)
    (hn : n ≠ 0) (h : walkStep table n acc = .ok (n', acc')) : guidWalk table n acc = guidWalk table n' acc' := by
  rw [guidWalk_succ table n acc hn, h]; rfl

theorem guidWalk_err (table : Bytes) (n : Nat) (acc : BlockMap) (c : String)
    (hn : n ≠ 0) (h : walkStep table n acc = .err c) : guidWalk table n acc = .err c := by
  rw [guidWalk_succ table n acc hn, h]; rfl

end GceTcb.GuidTable
