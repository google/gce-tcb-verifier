import GceTcb.Proofs.ProtoWireRead
/-
What the decoders of `Model/ProtoWire.lean` make of what the encoders emit: varint and length-prefix round
trips, fields that read back as themselves whatever follows them, the loop over emitted fields, and the fold of
a step function over the proto3 emission forms (scalar, bytes, embedded message, repeated).  Core-only.
-/
namespace GceTcb.ProtoWire
open GceTcb

theorem u8_toNat_ofNat (k : Nat) (h : k < 256) : (UInt8.ofNat k).toNat = k := by
  simp [UInt8.toNat_ofNat']; omega

theorem decodeVarintF_encodeVarintF (f : Nat) : ∀ (n : Nat) (rest : Bytes), n < 2 * 128 ^ f →
    decodeVarintF (f + 1) (encodeVarintF (f + 1) n ++ rest) = some (n, rest) := by
  induction f with
  | zero =>
    intro n rest h
    have h2 : n < 2 := by simpa using h
    have hb : (UInt8.ofNat n).toNat = n := u8_toNat_ofNat n (by omega)
    have : n < 128 := by omega
    simp only [encodeVarintF, this, if_true, List.cons_append, List.nil_append, decodeVarintF, hb]
    simp; omega
  | succ f ih =>
    intro n rest h
    rw [Nat.pow_succ] at h
    by_cases hn : n < 128
    · have hb : (UInt8.ofNat n).toNat = n := u8_toNat_ofNat n (by omega)
      simp [encodeVarintF, hn, decodeVarintF, hb]
    · have hb : (UInt8.ofNat (n % 128 + 128)).toNat = n % 128 + 128 := u8_toNat_ofNat _ (by omega)
      have hlt : ¬ (n % 128 + 128 < 128) := by omega
      rw [encodeVarintF]
      simp only [hn, if_false, List.cons_append]
      rw [decodeVarintF]
      simp only [hb, hlt, if_false, Nat.succ_ne_zero]
      rw [ih (n / 128) rest (by omega)]
      simp; omega

/-- ConsumeVarint ∘ AppendVarint: the value as a uint64. -/
theorem decodeVarint_encodeVarint (n : Nat) (rest : Bytes) :
    decodeVarint (encodeVarint n ++ rest) = some (n % 2 ^ 64, rest) := by
  unfold decodeVarint encodeVarint
  exact decodeVarintF_encodeVarintF 9 _ rest (by have := Nat.mod_lt n (show 2^64 > 0 by decide); omega)

theorem encodeVarintF_length_le (f : Nat) : ∀ n, (encodeVarintF f n).length ≤ f := by
  induction f with
  | zero => intro n; simp [encodeVarintF]
  | succ f ih =>
    intro n
    rw [encodeVarintF]
    split
    · simp
    · have := ih (n / 128); simp; omega

theorem encodeVarint_length (n : Nat) : 1 ≤ (encodeVarint n).length ∧ (encodeVarint n).length ≤ 10 := by
  refine ⟨?_, encodeVarintF_length_le 10 _⟩
  unfold encodeVarint
  rw [encodeVarintF]
  split <;> simp

theorem decodeLen_encode (p rest : Bytes) (h : p.length < 2 ^ 64) :
    decodeLen (encodeVarint p.length ++ (p ++ rest)) = some (p, rest) := by
  unfold decodeLen
  rw [decodeVarint_encodeVarint, Nat.mod_eq_of_lt h]
  simp

def numOk (num : Nat) : Prop := 1 ≤ num ∧ num ≤ maxValidNumber

instance (num : Nat) : Decidable (numOk num) := inferInstanceAs (Decidable (_ ∧ _))

def Field.Good (f : Field) : Prop := ∀ rest, readField (encField f ++ rest) = some (f, rest)

theorem decodeVarint_tagBytes (num wt : Nat) (hn : numOk num) (hwt : wt < 8) (rest : Bytes) :
    decodeVarint (tagBytes num wt ++ rest) = some (num * 8 + wt, rest) ∧ (num * 8 + wt) / 8 = num ∧
    (num * 8 + wt) % 8 = wt ∧ ¬ (num < 1 ∨ maxValidNumber < num) := by
  obtain ⟨h1, h2⟩ := hn
  unfold maxValidNumber at *
  unfold tagBytes
  rw [decodeVarint_encodeVarint, Nat.mod_eq_of_lt (by omega)]
  refine ⟨rfl, ?_, ?_, ?_⟩ <;> omega

theorem good_fVarint (num v : Nat) (hn : numOk num) : (fVarint num v).Good := by
  intro rest
  obtain ⟨ht, e1, e2, hc⟩ := decodeVarint_tagBytes num 0 hn (by decide) (encodeVarint v ++ rest)
  simp only [encField, fVarint, Val.wt, List.append_assoc]
  unfold readField
  rw [ht]
  simp only [e1, e2, hc, if_false]
  rw [decodeVarint_encodeVarint]
  simp only [consumed_append]

theorem good_fLen (num : Nat) (p : Bytes) (hn : numOk num) (hp : p.length < 2 ^ 64) : (fLen num p).Good := by
  intro rest
  obtain ⟨ht, e1, e2, hc⟩ := decodeVarint_tagBytes num 2 hn (by decide) (encodeVarint p.length ++ (p ++ rest))
  simp only [encField, fLen, Val.wt, List.append_assoc]
  unfold readField
  rw [ht]
  simp only [e1, e2, hc, if_false]
  rw [decodeLen_encode p rest hp]
  have : consumed (encodeVarint p.length ++ (p ++ rest)) rest = encodeVarint p.length ++ p := by
    rw [← List.append_assoc, consumed_append]
  simp only [this]

theorem encFields_append (a b : List Field) : encFields (a ++ b) = encFields a ++ encFields b := by
  induction a with
  | nil => rfl
  | cons f fs ih => simp [encFields, ih]

theorem mem_encFields_length (fs : List Field) (f : Field) (h : f ∈ fs) :
    (encField f).length ≤ (encFields fs).length := by
  induction fs with
  | nil => cases h
  | cons g gs ih =>
    simp only [encFields, List.length_append]
    rcases List.mem_cons.mp h with rfl | h'
    · omega
    · have := ih h'; omega

theorem parseFields_encFields (fs : List Field) (hg : ∀ f ∈ fs, f.Good) : parseFields (encFields fs) = some fs := by
  induction fs with
  | nil => rfl
  | cons f fs ih =>
    rw [encFields, parseFields_step (hg f List.mem_cons_self _), ih fun g hgm => hg g (List.mem_cons_of_mem _ hgm)]
    rfl

theorem decodeInto_encFields {M : Type} (step : M → Field → Option M) (init : M) (fs : List Field)
    (hg : ∀ f ∈ fs, f.Good) : decodeInto step init (encFields fs) = foldFields step init fs := by
  unfold decodeInto
  rw [parseFields_encFields fs hg]

/-- shape of the fields our encoders emit -/
def Field.Shape (f : Field) : Prop :=
  (∃ num v, numOk num ∧ f = fVarint num v) ∨ (∃ num p, numOk num ∧ f = fLen num p)

theorem fLen_payload_le (num : Nat) (p : Bytes) : p.length ≤ (encField (fLen num p)).length := by
  simp [encField, fLen]; omega

theorem payload_lt (fs : List Field) (num : Nat) (p : Bytes) (hf : fLen num p ∈ fs) {B : Nat}
    (hsz : (encFields fs).length < B) : p.length < B := by
  have h1 := mem_encFields_length fs _ hf
  have h2 := fLen_payload_le num p
  omega

/-- A length prefix is a uint64: a length-delimited field reads back when its payload, which is part of the
    whole encoding, is shorter than 2^64 bytes. -/
theorem good_of_shape (fs : List Field) (hs : ∀ f ∈ fs, f.Shape) (hsz : (encFields fs).length < 2 ^ 64) :
    ∀ f ∈ fs, f.Good := by
  intro f hf
  rcases hs f hf with ⟨num, v, hn, rfl⟩ | ⟨num, p, hn, rfl⟩
  · exact good_fVarint num v hn
  · exact good_fLen num p hn (payload_lt fs num p hf hsz)

/- The fold over one emitted field, `set` being what the step function does with it: a proto3 scalar or
   bytes field is omitted exactly when setting it would change nothing (`hzero`). -/

theorem foldFields_optVarint {M : Type} (step : M → Field → Option M) (num v : Nat) (s : M) (set : M → Nat → M)
    (rest : List Field) (hstep : step s (fVarint num v) = some (set s (v % 2 ^ 64))) (hzero : set s 0 = s) :
    foldFields step s (optVarint num v ++ rest) = foldFields step (set s (v % 2 ^ 64)) rest := by
  unfold optVarint
  by_cases h : v % 2 ^ 64 = 0
  · simp only [h, if_true, List.nil_append, hzero]
  · simp only [h, if_false, List.cons_append, List.nil_append, foldFields, hstep]

theorem foldFields_optBytes {M : Type} (step : M → Field → Option M) (num : Nat) (p : Bytes) (s : M)
    (set : M → Bytes → M) (rest : List Field) (hstep : step s (fLen num p) = some (set s p)) (hzero : set s [] = s) :
    foldFields step s (optBytes num p ++ rest) = foldFields step (set s p) rest := by
  unfold optBytes
  by_cases h : p = []
  · simp only [h, if_true, List.nil_append, hzero]
  · simp only [h, if_false, List.cons_append, List.nil_append, foldFields, hstep]

/-- An embedded message `x`, emitted iff present; `dec` is the decoder the step function runs on the payload,
    `y` what the record holds afterwards. -/
theorem foldFields_optMsg {M T : Type} (step : M → Field → Option M) (num : Nat) (enc : T → Bytes)
    (dec : Bytes → Option T) (x y : Option T) (s : M) (set : M → Option T → M) (rest : List Field)
    (hstep : ∀ q t, dec q = some t → step s (fLen num q) = some (set s (some t)))
    (hdec : ∀ t, x = some t → ∃ t', dec (enc t) = some t' ∧ y = some t') (hnone : x = none → set s y = s) :
    foldFields step s (optMsg num (x.map enc) ++ rest) = foldFields step (set s y) rest := by
  cases x with
  | none => simp only [Option.map_none, optMsg, List.nil_append, hnone rfl]
  | some t =>
    obtain ⟨t', hd, rfl⟩ := hdec t rfl
    simp only [Option.map_some, optMsg, List.cons_append, List.nil_append, foldFields, hstep _ _ hd]

/-- a repeated message field or a map field -/
theorem foldFields_repeated {M α : Type} (step : M → Field → Option M) (num : Nat) (enc : α → Bytes)
    (dec : Bytes → Option α) (acc : M → α → M) (l : List α)
    (hstep : ∀ s q x, dec q = some x → step s (fLen num q) = some (acc s x))
    (hdec : ∀ x ∈ l, dec (enc x) = some x) :
    ∀ (s : M) (rest : List Field),
      foldFields step s (l.map (fun x => fLen num (enc x)) ++ rest) = foldFields step (l.foldl acc s) rest := by
  induction l with
  | nil => intro s rest; rfl
  | cons x xs ih =>
    intro s rest
    simp only [List.map_cons, List.cons_append, foldFields, hstep s _ x (hdec x List.mem_cons_self), List.foldl_cons]
    exact ih (fun y hy => hdec y (List.mem_cons_of_mem _ hy)) (acc s x) rest

theorem toInt64_i64bits (x : Int) (h1 : -9223372036854775808 ≤ x) (h2 : x < 9223372036854775808) :
    toInt64 (i64bits x % 2 ^ 64) = x := by
  unfold toInt64 i64bits; omega

theorem toInt32_i64bits (x : Int) (h1 : -2147483648 ≤ x) (h2 : x < 2147483648) :
    toInt32 (i64bits x % 2 ^ 64) = x := by
  unfold toInt32 i64bits; omega

end GceTcb.ProtoWire
