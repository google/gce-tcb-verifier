import GceTcb.Model.Commit
import GceTcb.Proofs.Manifest
/-
For C14 / C15: the protocol automaton `Step` that every adjacent pair of a RetrySubmit log satisfies, normal forms
of the log of one attempt and of the loop, what a log counts (attempts, results, successful commits) and that every
workspace obtained is released (`Released`).
-/
namespace GceTcb.Commit
open GceTcb.Manifest

def Consecutive {α : Type} (l : List α) (a b : α) : Prop := ∃ pre post, l = pre ++ a :: b :: post

def Adj {α : Type} (R : α → α → Prop) : List α → Prop
  | [] => True
  | [_] => True
  | a :: b :: t => R a b ∧ Adj R (b :: t)

theorem adj_cons {α : Type} (R : α → α → Prop) (a : α) (l : List α) :
    Adj R (a :: l) ↔ (∀ b, l.head? = some b → R a b) ∧ Adj R l := by
  cases l with
  | nil => simp [Adj]
  | cons b t => simp [Adj]

theorem Adj.cons {α : Type} {R : α → α → Prop} {a b : α} {t : List α} (h : R a b) (ht : Adj R (b :: t)) :
    Adj R (a :: b :: t) := ⟨h, ht⟩

theorem adj_append {α : Type} (R : α → α → Prop) (l₁ l₂ : List α) :
    Adj R (l₁ ++ l₂) ↔
      Adj R l₁ ∧ Adj R l₂ ∧ (∀ a b, l₁.getLast? = some a → l₂.head? = some b → R a b) := by
  induction l₁ with
  | nil => simp [Adj]
  | cons x t ih =>
    cases t with
    | nil =>
      rw [List.singleton_append, adj_cons]
      simp only [Adj, List.getLast?_singleton, Option.some.injEq, true_and]
      constructor
      · rintro ⟨h1, h2⟩; exact ⟨h2, fun a b ha hb => ha ▸ h1 b hb⟩
      · rintro ⟨h1, h2⟩; exact ⟨fun b hb => h2 x b rfl hb, h1⟩
    | cons y t' =>
      rw [List.cons_append, adj_cons, ih, adj_cons (l := y :: t')]
      simp only [List.cons_append, List.head?_cons, Option.some.injEq, forall_eq']
      rw [List.getLast?_cons_cons]
      constructor
      · rintro ⟨h1, h2, h3, h4⟩; exact ⟨⟨h1, h2⟩, h3, h4⟩
      · rintro ⟨⟨h1, h2⟩, h3, h4⟩; exact ⟨h1, h2, h3, h4⟩

theorem adj_glue {α : Type} (R : α → α → Prop) (x : α) (m l : List α) (h : Adj R (l ++ [x]))
    (h' : Adj R (x :: m)) : Adj R (l ++ x :: m) :=
  (adj_append R l (x :: m)).mpr ⟨((adj_append R l [x]).mp h).1, h', ((adj_append R l [x]).mp h).2.2⟩

theorem adj_of_consecutive {α : Type} (R : α → α → Prop) (l : List α) (h : Adj R l) (a b : α)
    (hc : Consecutive l a b) : R a b := by
  obtain ⟨pre, post, rfl⟩ := hc
  induction pre with
  | nil => exact h.1
  | cons x t ih =>
    rw [List.cons_append, adj_cons] at h
    exact ih h.2

theorem adj_imp {α : Type} {R S : α → α → Prop} (hRS : ∀ a b, R a b → S a b) (l : List α)
    (h : Adj R l) : Adj S l := by
  induction l with
  | nil => trivial
  | cons x t ih =>
    rw [adj_cons] at h ⊢
    exact ⟨fun b hb => hRS _ _ (h.1 b hb), ih h.2⟩

def Kind.isPlan : Kind → Bool
  | .readManifest | .readFile | .writeFiles | .chmod | .writeManifest => true
  | _ => false

theorem snapshotCalls_kinds (c : Cfg) : ∀ x ∈ snapshotCalls c, x.kind.isPlan = true ∧ x.kind ≠ .writeManifest := by
  intro x hx
  simp only [snapshotCalls, List.mem_append, List.mem_map, List.mem_singleton] at hx
  rcases hx with ((hx | ⟨_, _, hx⟩) | hx) | ⟨_, _, hx⟩ <;> subst hx <;> simp [Kind.isPlan]

theorem isPlan_ne {k : Kind} (h : k.isPlan = true) :
    k ≠ .getOps ∧ k ≠ .commit ∧ k ≠ .destroy ∧ k ≠ .retriable ∧ k ≠ .result := by
  cases k <;> simp [Kind.isPlan] at h ⊢

/-- ChangeOps calls: the change function's calls, TryCommit and Destroy. -/
def Kind.isOp (k : Kind) : Bool := k.isPlan || k == .commit || k == .destroy

/-- The plan on a real workspace: the snapshot files; or the manifest read alone (manifest unparseable, or name
    refused), the manifest read and the probe (the file exists, no --overwrite), or all five calls. -/
theorem plan_cases (c : Cfg) (e : Entry) (a : Attempt) (hd : c.dryRun = false) :
    (c.snapshot = true ∧ plan c e a = ⟨snapshotCalls c, false, ""⟩) ∨
    (c.snapshot = false ∧
      (((a.manifest = .garbage ∨ nameOk c.cand = false) ∧ plan c e a = ⟨[cReadManifest c], true, ""⟩) ∨
       (nameOk c.cand = true ∧ plan c e a = ⟨[cReadManifest c, cReadFile c], true, ""⟩) ∨
       (a.manifest ≠ .garbage ∧ nameOk c.cand = true ∧ plan c e a =
          ⟨[cReadManifest c, cReadFile c, cWriteFile c, cChmod c, cWriteManifest c (addEntry a.manifest.entries e)],
           false, basename c.cand⟩))) := by
  by_cases hs : c.snapshot = true
  · exact .inl ⟨hs, by rw [plan, if_pos hs]⟩
  refine .inr ⟨by simpa using hs, ?_⟩
  rw [plan, if_neg hs, hd, if_neg Bool.false_ne_true, planManifest]
  by_cases hg : a.manifest = .garbage
  · exact .inl ⟨.inl hg, by rw [if_pos hg]⟩
  cases hn : nameOk c.cand
  · exact .inl ⟨.inr rfl, by simp⟩
  by_cases hx : (a.fileExists && !c.overwrite) = true
  · exact .inr (.inl ⟨rfl, by simp [hg, hx]⟩)
  · exact .inr (.inr ⟨hg, rfl, by simp [hg, hx]⟩)

/-- The (kind, path argument) pairs an attempt's ChangeOps calls can carry: computed from the request
    configuration alone — not from the attempt's number, not from what its workspace holds. -/
def planArgs (c : Cfg) : List (Kind × String) :=
  if c.snapshot then (snapshotCalls c).map (fun cl => (cl.kind, cl.arg))
  else [(.readManifest, relOut c manifestFile), (.readFile, relOut c (basename c.cand)),
        (.writeFiles, relOut c (basename c.cand)), (.chmod, relOut c (basename c.cand)),
        (.writeManifest, relOut c manifestFile)]

theorem plan_calls (c : Cfg) (e : Entry) (a : Attempt) (hd : c.dryRun = false) :
    ∀ cl ∈ (plan c e a).calls, cl.kind.isPlan = true ∧ (cl.kind, cl.arg) ∈ planArgs c ∧
      (cl.kind = .writeManifest → a.manifest ≠ .garbage ∧ cl = cWriteManifest c (addEntry a.manifest.entries e) ∧
        ∃ cs, (plan c e a).calls = cReadManifest c :: cs) := by
  rcases plan_cases c e a hd with ⟨hs, h⟩ | ⟨hs, ⟨_, h⟩ | ⟨_, h⟩ | ⟨hg, _, h⟩⟩ <;> rw [h, planArgs]
  · intro cl hcl
    rw [if_pos hs]
    exact ⟨(snapshotCalls_kinds c cl hcl).1, List.mem_map.mpr ⟨cl, hcl, rfl⟩,
      fun h => absurd h (snapshotCalls_kinds c cl hcl).2⟩
  all_goals simp [*, cReadManifest, cReadFile, cWriteFile, cChmod, cWriteManifest, Kind.isPlan]

/-- What may immediately follow an event in a RetrySubmit log. -/
structure Step (a b : Ev) : Prop where
  afterOk : (a.kind = .getOps ∨ a.kind.isPlan = true) → a.ok = true → b.ws = a.ws ∧ b.kind.isOp = true
  afterFailedGet : a.kind = .getOps → a.ok = false → b.kind = .retriable ∧ b.ws = a.ws
  afterFailedOp : (a.kind.isPlan = true ∨ a.kind = .commit) → a.ok = false → b = evDestroy a.ws
  afterCommit : a.kind = .commit → a.ok = true → b = evResult a.ws true b.arg
  afterDestroy : a.kind = .destroy → b.kind = .retriable ∧ b.ws = a.ws
  afterRetriable : a.kind = .retriable → a.ok = true ∧ b.kind = .getOps ∧ b.ws = a.ws + 1
  afterResult : a.kind ≠ .result

theorem step_cases {x y : Ev} (h : Step x y) :
    (x.kind = .retriable ∧ x.ok = true ∧ y.kind = .getOps ∧ y.ws = x.ws + 1) ∨
    (x.kind = .destroy ∧ y.kind = .retriable ∧ y.ws = x.ws) ∨
    (x.kind = .getOps ∧ x.ok = false ∧ y.kind = .retriable ∧ y.ws = x.ws) ∨
    (x.kind = .commit ∧ x.ok = true ∧ y = evResult x.ws true y.arg) ∨
    ((x.kind.isPlan = true ∨ x.kind = .commit) ∧ x.ok = false ∧ y = evDestroy x.ws) ∨
    ((x.kind = .getOps ∨ x.kind.isPlan = true) ∧ x.ok = true ∧ y.ws = x.ws ∧ y.kind.isOp = true) := by
  cases hk : x.kind with
  | retriable => exact .inl ⟨rfl, h.afterRetriable hk⟩
  | result => exact absurd hk h.afterResult
  | destroy => exact .inr (.inl ⟨rfl, h.afterDestroy hk⟩)
  | getOps =>
    cases ho : x.ok with
    | true => exact .inr (.inr (.inr (.inr (.inr ⟨.inl rfl, rfl, h.afterOk (.inl hk) ho⟩))))
    | false => exact .inr (.inr (.inl ⟨rfl, rfl, h.afterFailedGet hk ho⟩))
  | commit =>
    cases ho : x.ok with
    | true => exact .inr (.inr (.inr (.inl ⟨rfl, rfl, h.afterCommit hk ho⟩)))
    | false => exact .inr (.inr (.inr (.inr (.inl ⟨.inr rfl, rfl, h.afterFailedOp (.inr hk) ho⟩))))
  | readManifest | readFile | writeFiles | chmod | writeManifest =>
    have hp : x.kind.isPlan = true := by rw [hk]; rfl
    cases ho : x.ok with
    | true => exact .inr (.inr (.inr (.inr (.inr ⟨.inr rfl, rfl, h.afterOk (.inr hp) ho⟩))))
    | false => exact .inr (.inr (.inr (.inr (.inl ⟨.inl rfl, rfl, h.afterFailedOp (.inl hp) ho⟩))))

def okEv (ws : Nat) (c : Call) : Ev := ⟨ws, c.kind, true, c.arg, c.manifest⟩
def failEv (ws : Nat) (c : Call) : Ev := ⟨ws, c.kind, false, c.arg, c.manifest⟩

theorem step_ok (a b : Ev) (hk : a.kind = .getOps ∨ a.kind.isPlan = true) (ho : a.ok = true) (hw : b.ws = a.ws)
    (hb : b.kind.isOp = true) : Step a b :=
  have hn : a.kind ≠ .commit ∧ a.kind ≠ .destroy ∧ a.kind ≠ .retriable ∧ a.kind ≠ .result :=
    hk.elim (fun h => by rw [h]; decide) (fun h => (isPlan_ne h).2)
  ⟨fun _ _ => ⟨hw, hb⟩, fun _ h => (nomatch ho.symm.trans h), fun _ h => (nomatch ho.symm.trans h),
    fun h => absurd h hn.1, fun h => absurd h hn.2.1, fun h => absurd h hn.2.2.1, hn.2.2.2⟩

theorem step_failEv (ws : Nat) (c : Call) (hc : c.kind.isPlan = true) :
    Step (failEv ws c) (evDestroy ws) :=
  have hn := isPlan_ne hc
  ⟨fun _ => nofun, fun h => absurd h hn.1, fun _ _ => rfl, fun h => absurd h hn.2.1,
    fun h => absurd h hn.2.2.1, fun h => absurd h hn.2.2.2.1, hn.2.2.2.2⟩

theorem step_commit_failed (i : Nat) : Step (evCommit i false) (evDestroy i) := by
  constructor <;> simp [evCommit, Kind.isPlan]

theorem step_commit_ok (i : Nat) (p : String) : Step (evCommit i true) (evResult i true p) := by
  constructor <;> simp [evCommit, evResult, Kind.isPlan]

theorem step_to_retriable (i : Nat) (b : Bool) (x : Ev)
    (hx : x = evDestroy i ∨ x = evGetOps i false) : Step x (evRetriable i b) := by
  rcases hx with rfl | rfl <;> constructor <;> simp [evDestroy, evGetOps, evRetriable, Kind.isPlan]

theorem step_retriable_getOps (i : Nat) (ok : Bool) : Step (evRetriable i true) (evGetOps (i + 1) ok) := by
  constructor <;> simp [evGetOps, evRetriable, Kind.isPlan]

theorem runCalls_mem (ws : Nat) (f : Option Nat) : ∀ (cs : List Call) (k : Nat), ∀ ev ∈ (runCalls ws f k cs).1,
    ev.ws = ws ∧ ∃ c ∈ cs, ev.kind = c.kind ∧ ev.arg = c.arg ∧ ev.manifest = c.manifest := by
  intro cs
  induction cs with
  | nil => intro k ev h; cases h
  | cons c cs ih =>
    intro k ev h
    rw [runCalls] at h
    split at h
    · cases List.mem_singleton.mp h
      exact ⟨rfl, c, List.mem_cons_self, rfl, rfl, rfl⟩
    · rcases List.mem_cons.mp h with rfl | h
      · exact ⟨rfl, c, List.mem_cons_self, rfl, rfl, rfl⟩
      · obtain ⟨hw, c', hc', hk⟩ := ih (k + 1) ev h
        exact ⟨hw, c', List.mem_cons_of_mem _ hc', hk⟩

theorem runCalls_head_ok (ws : Nat) (f : Option Nat) (k : Nat) (c : Call) (cs : List Call) (ev : Ev)
    (hev : ev ∈ (runCalls ws f k (c :: cs)).1) (hk : ev.kind ≠ c.kind) :
    okEv ws c ∈ (runCalls ws f k (c :: cs)).1 := by
  by_cases hf : f = some k
  · rw [runCalls, if_pos hf] at hev
    cases List.mem_singleton.mp hev
    exact absurd rfl hk
  · rw [runCalls, if_neg hf]
    exact List.mem_cons_self

/-- `g` is the event before the calls, `t0` the ChangeOps call after them — Destroy if one of the calls failed.
    The induction carries the event before. -/
theorem runCalls_adj (ws : Nat) (f : Option Nat) (t0 : Ev) (T : List Ev) (hT : Adj Step (t0 :: T))
    (hw : t0.ws = ws) (hop : t0.kind.isOp = true) :
    ∀ (cs : List Call) (k : Nat) (g : Ev), (∀ x ∈ cs, x.kind.isPlan = true) →
      (g.kind = .getOps ∨ g.kind.isPlan = true) → g.ok = true → g.ws = ws →
      ((runCalls ws f k cs).2 = false → t0 = evDestroy ws) →
      Adj Step (g :: ((runCalls ws f k cs).1 ++ t0 :: T)) := by
  intro cs
  induction cs with
  | nil => intro k g _ hg ho hgw _; exact .cons (step_ok g t0 hg ho (hw.trans hgw.symm) hop) hT
  | cons c cs ih =>
    intro k g hcs hg ho hgw hfail
    have hc : c.kind.isPlan = true := hcs c List.mem_cons_self
    have hco : c.kind.isOp = true := by rw [Kind.isOp, hc]; rfl
    by_cases hf : f = some k
    · rw [runCalls, if_pos hf] at hfail ⊢
      cases hfail rfl
      exact .cons (step_ok g _ hg ho hgw.symm hco) (.cons (step_failEv ws c hc) hT)
    · rw [runCalls, if_neg hf] at hfail ⊢
      exact .cons (step_ok g _ hg ho hgw.symm hco)
        (ih (k + 1) (okEv ws c) (fun x hx => hcs x (List.mem_cons_of_mem _ hx)) (.inr hc) rfl rfl hfail)

/-- `R`, the events of the plan's calls, comes with its equation so that a caller who only counts or searches can
    drop the equation and keep `R` opaque. -/
theorem attempt_nf (c : Cfg) (e : Entry) (i : Nat) (a : Attempt) (hd : c.dryRun = false) :
    ∃ R : List Ev, R = (runCalls i a.failAt 1 (plan c e a).calls).1 ∧
      (∀ ev ∈ R, ev.ws = i ∧ ev.kind.isPlan = true ∧
        ∃ cl ∈ (plan c e a).calls, ev.kind = cl.kind ∧ ev.arg = cl.arg ∧ ev.manifest = cl.manifest) ∧
      (attempt c e i a = ([evGetOps i false], false) ∨
       attempt c e i a = (evGetOps i true :: (R ++ [evDestroy i]), false) ∨
       ((runCalls i a.failAt 1 (plan c e a).calls).2 = true ∧
          attempt c e i a = (evGetOps i true :: (R ++ [evCommit i false, evDestroy i]), false)) ∨
       ((runCalls i a.failAt 1 (plan c e a).calls).2 = true ∧ (plan c e a).internalErr = false ∧
          attempt c e i a =
            (evGetOps i true :: (R ++ [evCommit i true, evResult i true (plan c e a).certPath]), true))) := by
  refine ⟨_, rfl, fun ev h => ?_, ?_⟩
  · obtain ⟨hw, cl, hcl, hk⟩ := runCalls_mem _ _ _ _ ev h
    exact ⟨hw, hk.1 ▸ (plan_calls c e a hd cl hcl).1, cl, hcl, hk⟩
  unfold attempt
  simp only [hd, Bool.false_eq_true, if_false]
  by_cases h0 : a.failAt = some 0
  · simp [h0]
  · simp only [h0, if_false]
    by_cases hr : (!(runCalls i a.failAt 1 (plan c e a).calls).2 || (plan c e a).internalErr) = true
    · simp [hr]
    · simp only [hr]
      have hok : (runCalls i a.failAt 1 (plan c e a).calls).2 = true ∧ (plan c e a).internalErr = false := by
        simpa using hr
      by_cases hc : a.failAt = some (1 + (plan c e a).calls.length)
      · simp only [if_pos hc]
        exact Or.inr (Or.inr (Or.inl ⟨hok.1, rfl⟩))
      · simp only [if_neg hc]
        exact Or.inr (Or.inr (Or.inr ⟨hok.1, hok.2, rfl⟩))

theorem attempt_adj (c : Cfg) (e : Entry) (i : Nat) (a : Attempt) (hd : c.dryRun = false) :
    (∃ ok tl, (attempt c e i a).1 = evGetOps i ok :: tl) ∧
    ((attempt c e i a).2 = true → Adj Step (attempt c e i a).1) ∧
    ((attempt c e i a).2 = false → ∀ b, Adj Step ((attempt c e i a).1 ++ [evRetriable i b])) := by
  obtain ⟨R, rfl, _, h⟩ := attempt_nf c e i a hd
  have run := fun t0 T hT hw hop => runCalls_adj i a.failAt t0 T hT hw hop (plan c e a).calls 1 (evGetOps i true)
    (fun x hx => (plan_calls c e a hd x hx).1) (.inl rfl) rfl rfl
  rcases h with h | h | ⟨hok, h⟩ | ⟨hok, _, h⟩ <;> rw [h]
  · exact ⟨⟨_, _, rfl⟩, nofun, fun _ b => .cons (step_to_retriable i b _ (.inr rfl)) trivial⟩
  · refine ⟨⟨_, _, rfl⟩, nofun, fun _ b => ?_⟩
    simp only [List.cons_append, List.append_assoc, List.nil_append]
    exact run _ _ (.cons (step_to_retriable i b _ (.inl rfl)) trivial) rfl rfl fun _ => rfl
  · refine ⟨⟨_, _, rfl⟩, nofun, fun _ b => ?_⟩
    simp only [List.cons_append, List.append_assoc, List.nil_append]
    exact run _ _ (.cons (step_commit_failed i) (.cons (step_to_retriable i b _ (.inl rfl)) trivial)) rfl rfl
      fun hf => nomatch hok.symm.trans hf
  · exact ⟨⟨_, _, rfl⟩, fun _ => run _ _ (.cons (step_commit_ok i _) trivial) rfl rfl (fun hf => nomatch hok.symm.trans hf),
      nofun⟩

structure AttemptEv (c : Cfg) (e : Entry) (i : Nat) (a : Attempt) (ev : Ev) : Prop where
  ws : ev.ws = i
  call : ev.kind.isPlan = true → ev ∈ (runCalls i a.failAt 1 (plan c e a).calls).1 ∧
    (∀ x ∈ (runCalls i a.failAt 1 (plan c e a).calls).1, x ∈ (attempt c e i a).1) ∧
    ∃ cl ∈ (plan c e a).calls, ev.kind = cl.kind ∧ ev.arg = cl.arg ∧ ev.manifest = cl.manifest
  result : ev.kind = .result → (plan c e a).internalErr = false ∧ ev.arg = (plan c e a).certPath

theorem attempt_mem (c : Cfg) (e : Entry) (i : Nat) (a : Attempt) (hd : c.dryRun = false) (ev : Ev)
    (hev : ev ∈ (attempt c e i a).1) : AttemptEv c e i a ev := by
  obtain ⟨R, rfl, hR, h⟩ := attempt_nf c e i a hd
  have run : (∀ x ∈ (runCalls i a.failAt 1 (plan c e a).calls).1, x ∈ (attempt c e i a).1) →
      ev ∈ (runCalls i a.failAt 1 (plan c e a).calls).1 → AttemptEv c e i a ev := fun hsub h =>
    ⟨(hR ev h).1, fun _ => ⟨h, hsub, (hR ev h).2.2⟩,
      fun hk => absurd hk (isPlan_ne (hR ev h).2.1).2.2.2.2⟩
  rcases h with h | h | ⟨_, h⟩ | ⟨_, hie, h⟩ <;> rw [h] at hev run <;>
    simp only [List.mem_cons, List.mem_append, List.not_mem_nil, or_false] at hev run
  · subst hev; exact ⟨rfl, nofun, nofun⟩
  · rcases hev with rfl | hev | rfl
    · exact ⟨rfl, nofun, nofun⟩
    · exact run (fun x hx => .inr (.inl hx)) hev
    · exact ⟨rfl, nofun, nofun⟩
  · rcases hev with rfl | hev | rfl | rfl
    · exact ⟨rfl, nofun, nofun⟩
    · exact run (fun x hx => .inr (.inl hx)) hev
    · exact ⟨rfl, nofun, nofun⟩
    · exact ⟨rfl, nofun, nofun⟩
  · rcases hev with rfl | hev | rfl | rfl
    · exact ⟨rfl, nofun, nofun⟩
    · exact run (fun x hx => .inr (.inl hx)) hev
    · exact ⟨rfl, nofun, nofun⟩
    · exact ⟨rfl, nofun, fun _ => ⟨hie, rfl⟩⟩

theorem retryLoop_cases (c : Cfg) (e : Entry) (budget : Int) (tries : Nat) (a : Attempt)
    (rest : List Attempt) :
    ((attempt c e tries a).2 = true ∧
      retryLoop c e budget tries (a :: rest) = ((attempt c e tries a).1, .ok)) ∨
    ((attempt c e tries a).2 = false ∧ ∃ b r, r ≠ .ok ∧ r ≠ .exhausted ∧
      retryLoop c e budget tries (a :: rest) = ((attempt c e tries a).1 ++ [evRetriable tries b], r)) ∨
    ((attempt c e tries a).2 = false ∧ ¬ budget - ((tries : Int) + 1) < 0 ∧
      retryLoop c e budget tries (a :: rest) =
        ((attempt c e tries a).1 ++ evRetriable tries true :: (retryLoop c e budget (tries + 1) rest).1,
         (retryLoop c e budget (tries + 1) rest).2)) := by
  cases hok : (attempt c e tries a).2
  · refine .inr ?_
    cases hr : a.retriable
    · exact .inl ⟨rfl, false, .err, nofun, nofun, by simp [retryLoop, hok, hr]⟩
    · by_cases hb : budget - ((tries : Int) + 1) < 0
      · exact .inl ⟨rfl, true, .noRetries, nofun, nofun, by simp [retryLoop, hok, hr, hb]⟩
      · exact .inr ⟨rfl, hb, by simp [retryLoop, hok, hr, hb]⟩
  · exact .inl ⟨rfl, by simp [retryLoop, hok]⟩

theorem mem_retryLoop_cons (c : Cfg) (e : Entry) (budget : Int) (tries : Nat) (a : Attempt)
    (rest : List Attempt) (ev : Ev) (hev : ev ∈ (retryLoop c e budget tries (a :: rest)).1) :
    ev ∈ (attempt c e tries a).1 ∨ (∃ b, ev = evRetriable tries b) ∨
    ((attempt c e tries a).2 = false ∧ ev ∈ (retryLoop c e budget (tries + 1) rest).1 ∧
      (retryLoop c e budget tries (a :: rest)).1 =
        (attempt c e tries a).1 ++ evRetriable tries true :: (retryLoop c e budget (tries + 1) rest).1) := by
  rcases retryLoop_cases c e budget tries a rest with ⟨_, h'⟩ | ⟨_, b, r, _, _, h'⟩ | ⟨hf, _, h'⟩ <;>
    rw [h'] at hev ⊢ <;>
    simp only [List.mem_cons, List.mem_append, List.not_mem_nil, or_false] at hev
  · exact .inl hev
  · exact hev.imp id fun h => .inl ⟨b, h⟩
  · rcases hev with h | h | h
    · exact .inl h
    · exact .inr (.inl ⟨_, h⟩)
    · exact .inr (.inr ⟨hf, h, rfl⟩)

theorem attempt_sub_retryLoop (c : Cfg) (e : Entry) (budget : Int) (tries : Nat) (a : Attempt)
    (rest : List Attempt) : ∀ ev ∈ (attempt c e tries a).1, ev ∈ (retryLoop c e budget tries (a :: rest)).1 := by
  intro ev hev
  rcases retryLoop_cases c e budget tries a rest with ⟨_, h'⟩ | ⟨_, _, _, _, _, h'⟩ | ⟨_, _, h'⟩ <;>
    rw [h'] <;> simp [hev]

theorem mem_retryLoop (c : Cfg) (e : Entry) (budget : Int) :
    ∀ (script : List Attempt) (tries : Nat), ∀ ev ∈ (retryLoop c e budget tries script).1,
      ∃ j, (∃ b, ev = evRetriable (tries + j) b) ∨
        ∃ a, script[j]? = some a ∧ ev ∈ (attempt c e (tries + j) a).1 ∧
          ∀ x ∈ (attempt c e (tries + j) a).1, x ∈ (retryLoop c e budget tries script).1 := by
  intro script
  induction script with
  | nil => intro tries ev hev; cases hev
  | cons a rest ih =>
    intro tries ev hev
    rcases mem_retryLoop_cons c e budget tries a rest ev hev with h | ⟨b, h⟩ | ⟨_, h, heq⟩
    · exact ⟨0, .inr ⟨a, rfl, h, attempt_sub_retryLoop c e budget tries a rest⟩⟩
    · exact ⟨0, .inl ⟨b, h⟩⟩
    · obtain ⟨j, hj⟩ := ih (tries + 1) ev h
      refine ⟨j + 1, ?_⟩
      rw [show tries + (j + 1) = tries + 1 + j by omega, heq]
      exact hj.imp id fun ⟨a', h1, h2, h3⟩ => ⟨a', by simpa using h1, h2, fun x hx => by simp [h3 x hx]⟩

theorem retryLoop_ws_ge (c : Cfg) (e : Entry) (budget : Int) (hd : c.dryRun = false) (script : List Attempt)
    (tries : Nat) : ∀ ev ∈ (retryLoop c e budget tries script).1, tries ≤ ev.ws := by
  intro ev hev
  obtain ⟨j, ⟨b, rfl⟩ | ⟨a, _, h, _⟩⟩ := mem_retryLoop c e budget script tries ev hev
  · exact Nat.le_add_right tries j
  · rw [(attempt_mem c e _ a hd ev h).ws]; exact Nat.le_add_right tries j

theorem retryLoop_adj (c : Cfg) (e : Entry) (budget : Int) (hd : c.dryRun = false) :
    ∀ (script : List Attempt) (tries : Nat), Adj Step (retryLoop c e budget tries script).1 ∧
      ∀ y, (retryLoop c e budget tries script).1.head? = some y → ∃ ok, y = evGetOps tries ok := by
  intro script
  induction script with
  | nil => intro tries; exact ⟨trivial, fun _ h => nomatch h⟩
  | cons a rest ih =>
    intro tries
    obtain ⟨⟨ok, tl, hh⟩, hA, hAr⟩ := attempt_adj c e tries a hd
    have head : ∀ X y, ((attempt c e tries a).1 ++ X).head? = some y → ∃ ok, y = evGetOps tries ok := by
      intro X y hy
      rw [hh] at hy
      exact ⟨ok, (Option.some.inj hy).symm⟩
    rcases retryLoop_cases c e budget tries a rest with ⟨hs, h'⟩ | ⟨hs, b, _, _, _, h'⟩ | ⟨hs, _, h'⟩ <;> rw [h']
    · exact ⟨hA hs, fun y hy => head [] y (by rw [List.append_nil]; exact hy)⟩
    · exact ⟨hAr hs b, head _⟩
    · refine ⟨adj_glue Step _ _ _ (hAr hs true) ((adj_cons ..).mpr ⟨fun y hy => ?_, (ih (tries + 1)).1⟩), head _⟩
      obtain ⟨ok', rfl⟩ := (ih (tries + 1)).2 y hy
      exact step_retriable_getOps tries ok'

def isGetOps (ev : Ev) : Bool := ev.kind == .getOps
def isResult (ev : Ev) : Bool := ev.kind == .result
def isCommitOk (ev : Ev) : Bool := ev.kind == .commit && ev.ok

/-- number of attempts visible in a log = number of GetChangeOps calls -/
def attempts (log : List Ev) : Nat := log.countP isGetOps

theorem countP_plan_zero (p : Ev → Bool) (R : List Ev)
    (hp : ∀ ev, p ev = true → ev.kind.isPlan = false)
    (hR : ∀ ev ∈ R, ev.kind.isPlan = true) : R.countP p = 0 := by
  rw [List.countP_eq_zero]
  intro ev hev hpe
  have := hp ev hpe
  rw [hR ev hev] at this
  cases this

theorem exists_iff_of_countP {α : Type} {l : List α} {p : α → Bool} {b : Prop} [Decidable b]
    (h : l.countP p = if b then 1 else 0) : b ↔ ∃ x ∈ l, p x = true := by
  rw [← List.countP_pos_iff, h]
  split <;> simp [*]

theorem attempt_counts (c : Cfg) (e : Entry) (i : Nat) (a : Attempt) (hd : c.dryRun = false) :
    attempts (attempt c e i a).1 = 1 ∧
    (attempt c e i a).1.countP isResult = (if (attempt c e i a).2 then 1 else 0) ∧
    (attempt c e i a).1.countP isCommitOk = (if (attempt c e i a).2 then 1 else 0) := by
  obtain ⟨R, _, hR, h⟩ := attempt_nf c e i a hd
  have hP : ∀ ev ∈ R, ev.kind.isPlan = true := fun ev h => (hR ev h).2.1
  have z1 : R.countP isGetOps = 0 := countP_plan_zero _ R
    (by intro ev h; simp [isGetOps] at h; simp [h, Kind.isPlan]) hP
  have z2 : R.countP isResult = 0 := countP_plan_zero _ R
    (by intro ev h; simp [isResult] at h; simp [h, Kind.isPlan]) hP
  have z3 : R.countP isCommitOk = 0 := countP_plan_zero _ R
    (by intro ev h; simp [isCommitOk] at h; simp [h.1, Kind.isPlan]) hP
  rcases h with h | h | ⟨_, h⟩ | ⟨_, _, h⟩ <;> rw [h] <;>
    simp [attempts, List.countP_append, z1, z2, z3, isGetOps, isResult, isCommitOk,
      evGetOps, evDestroy, evCommit, evResult]

theorem attempt_commitOk_iff (c : Cfg) (e : Entry) (i : Nat) (a : Attempt) (hd : c.dryRun = false) :
    (attempt c e i a).2 = true ↔ ∃ ev ∈ (attempt c e i a).1, isCommitOk ev = true :=
  exists_iff_of_countP (attempt_counts c e i a hd).2.2

theorem retryLoop_counts (c : Cfg) (e : Entry) (budget : Int) (hd : c.dryRun = false) :
    ∀ (script : List Attempt) (tries : Nat),
      (retryLoop c e budget tries script).1.countP isResult =
        (if (retryLoop c e budget tries script).2 = .ok then 1 else 0) ∧
      (retryLoop c e budget tries script).1.countP isCommitOk =
        (if (retryLoop c e budget tries script).2 = .ok then 1 else 0) := by
  intro script
  induction script with
  | nil => intro tries; simp [retryLoop]
  | cons a rest ih =>
    intro tries
    obtain ⟨_, c2, c3⟩ := attempt_counts c e tries a hd
    have q1 : ∀ b, isResult (evRetriable tries b) = false := fun _ => rfl
    have q2 : ∀ b, isCommitOk (evRetriable tries b) = false := fun _ => rfl
    rcases retryLoop_cases c e budget tries a rest with ⟨hs, h'⟩ | ⟨hs, _, _, hr, _, h'⟩ | ⟨hs, _, h'⟩ <;>
      rw [h'] <;> rw [hs] at c2 c3
    · simpa using ⟨c2, c3⟩
    · simp [List.countP_append, c2, c3, q1, q2, hr]
    · have := ih (tries + 1)
      simp only [List.countP_append, List.countP_cons, c2, c3, q1, q2]
      simpa using this

/-- Every workspace obtained in the log is committed and not destroyed, or not committed and destroyed once. -/
def Released (l : List Ev) : Prop :=
  ∀ k, evGetOps k true ∈ l →
    (evCommit k true ∈ l ∧ l.count (evDestroy k) = 0) ∨ (evCommit k true ∉ l ∧ l.count (evDestroy k) = 1)

theorem released_append (A N : List Ev) (r : Ev) (hr : r.kind = .retriable)
    (hdisj : ∀ x ∈ A, ∀ y ∈ N, x.ws ≠ y.ws) (hA : Released A) (hN : Released N) : Released (A ++ r :: N) := by
  intro k hg
  have absent : ∀ l : List Ev, (∀ y ∈ l, y.ws ≠ k) → evCommit k true ∉ l ∧ l.count (evDestroy k) = 0 :=
    fun l h => ⟨fun hm => h _ hm rfl, List.count_eq_zero.mpr fun hm => h _ hm rfl⟩
  have qd : (r == evDestroy k) = false := beq_false_of_ne fun h => by rw [h] at hr; cases hr
  have qc : evCommit k true ≠ r := fun h => by rw [← h] at hr; cases hr
  have qg : evGetOps k true ≠ r := fun h => by rw [← h] at hr; cases hr
  simp only [List.mem_append, List.mem_cons, qg, false_or] at hg
  simp only [List.mem_append, List.mem_cons, qc, false_or, List.count_append, List.count_cons, qd,
    Bool.false_eq_true, if_false, Nat.add_zero]
  rcases hg with hg | hg
  · obtain ⟨n1, n2⟩ := absent N fun y hy h => hdisj _ hg y hy h.symm
    simpa only [n1, n2, or_false, Nat.add_zero] using hA k hg
  · obtain ⟨n1, n2⟩ := absent A fun x hx h => hdisj x hx _ hg h
    simpa only [n1, n2, false_or, Nat.zero_add] using hN k hg

theorem attempt_released (c : Cfg) (e : Entry) (i : Nat) (a : Attempt) (hd : c.dryRun = false) :
    Released (attempt c e i a).1 := by
  intro k hg
  obtain rfl : k = i := (attempt_mem c e i a hd _ hg).ws
  obtain ⟨R, _, hR, h⟩ := attempt_nf c e k a hd
  have nd : R.count (evDestroy k) = 0 := List.count_eq_zero.mpr fun hm => nomatch (hR _ hm).2.1
  have nc : evCommit k true ∉ R := fun hm => nomatch (hR _ hm).2.1
  simp only [evDestroy] at nd
  simp only [evCommit] at nc
  rcases h with h | h | ⟨_, h⟩ | ⟨_, _, h⟩ <;> rw [h] at hg ⊢
  · simp [evGetOps] at hg
  · right; simp [List.count_append, nc, nd, evGetOps, evDestroy, evCommit]
  · right; simp [List.count_append, nc, nd, evGetOps, evDestroy, evCommit]
  · left; simp [List.count_append, nd, evGetOps, evDestroy, evCommit, evResult]

theorem retryLoop_released (c : Cfg) (e : Entry) (budget : Int) (hd : c.dryRun = false) :
    ∀ (script : List Attempt) (tries : Nat), Released (retryLoop c e budget tries script).1 := by
  intro script
  induction script with
  | nil => intro tries k h; cases h
  | cons a rest ih =>
    intro tries
    have hA := attempt_released c e tries a hd
    rcases retryLoop_cases c e budget tries a rest with ⟨_, h'⟩ | ⟨_, _, _, _, _, h'⟩ | ⟨_, _, h'⟩ <;> rw [h']
    · exact hA
    · exact released_append _ [] _ rfl (fun _ _ _ h => nomatch h) hA (fun _ h => nomatch h)
    · refine released_append _ _ _ rfl (fun x hx y hy h => ?_) hA (ih (tries + 1))
      have := retryLoop_ws_ge c e budget hd rest (tries + 1) y hy
      rw [← h, (attempt_mem c e tries a hd x hx).ws] at this
      exact Nat.not_succ_le_self _ this

/-! ### concrete inputs used by the non-vacuity examples of the property file -/

def exCfg : Cfg := ⟨false, false, false, false, false, "rc0", "R", "out", "snap", "fw.fd"⟩
def exEntry : Entry := ⟨"rc0.binarypb", "aa", "9"⟩
def exOther : Entry := ⟨"rc7.binarypb", "bb", "1"⟩
def exOther2 : Entry := ⟨"rc8.binarypb", "cc", "2"⟩
/-- uncanonical names everywhere: candidate "x/../sub//rc0", out dir "./out//", snapshot dir "snap/", image "d/./fw.fd" -/
def exCfgNames : Cfg := ⟨false, false, false, false, false, "x/../sub//rc0", "R", "./out//", "snap/", "d/./fw.fd"⟩
def exEntryNames : Entry := ⟨"sub/rc0.binarypb", "aa", "9"⟩
/-- a climbing candidate name -/
def exCfgClimb : Cfg := ⟨false, false, true, false, false, "../out/rc0", "R", "out", "snap", "fw.fd"⟩

end GceTcb.Commit
