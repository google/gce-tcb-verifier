import GceTcb.Model.KeyCli
import GceTcb.Proofs.KeyHistory
/-
Lemmas about the command-line model of bootstrap / rotate / wipeout (Model/KeyCli.lean):
* the library step with explicit x509 refusals is `KeyHistory.step` on every representable context;
* the invariants of Proofs/KeyHistory.lean are preserved by EVERY command line — also by the contexts crypto/x509
  refuses after the keys were made (negative serial numbers, validities ASN.1 cannot encode);
* an accepted command line passed every phase (`cmdOf_ok_iff`), and every phase refuses with one of the listed
  classes, never a panic (`cmdOf_refuses`).
-/
namespace GceTcb.KeyCli
open GceTcb GceTcb.KeyHistory GceTcb.CliFlagTypes GceTcb.Gen

theorem google_notAfter_le (root : Bool) (cn : String) (serial now key : Nat) :
    (Tmpl.google root cn serial now key).notAfter ≤ now + CertConsts.rootValidDays * daySeconds := by
  cases root <;> exact Nat.add_le_add_left (Nat.mul_le_mul_right _ (by decide)) _

theorem fromCert_notAfter_le (old : Cert) (cn : String) (serial now key : Nat) :
    (Tmpl.fromCert old cn serial now key).notAfter ≤ now + CertConsts.rootValidDays * daySeconds := by
  unfold Tmpl.fromCert
  cases old.isCA <;> exact Nat.add_le_add_left (Nat.mul_le_mul_right _ (by decide)) _

theorem templateFromCert_le {ctx : CertCtx} {old : Cert} {key : Nat} {t : Tmpl}
    (h : templateFromCert ctx old key = some t) :
    t.notAfter ≤ ctx.signInfo.2.2 + CertConsts.rootValidDays * daySeconds := by
  unfold templateFromCert at h
  by_cases hca : old.isCA = true
  · rw [if_pos hca] at h
    cases ctx <;> cases h
    exact fromCert_notAfter_le _ _ _ _ _
  · rw [if_neg hca] at h
    cases h; exact fromCert_notAfter_le _ _ _ _ _

theorem rootTemplate_le {cfg : Cfg} {view : CA} {ctx : CertCtx} {key : Nat} {t : Tmpl}
    (h : rootTemplate cfg view ctx key = some t) :
    t.notAfter ≤ ctx.signInfo.2.2 + CertConsts.rootValidDays * daySeconds := by
  unfold rootTemplate at h
  cases hb : bundle cfg view with
  | some r => rw [hb] at h; exact templateFromCert_le h
  | none =>
    rw [hb] at h
    cases ctx <;> cases h
    exact google_notAfter_le _ _ _ _ _

theorem signingTemplate_le {view : CA} {ctx : CertCtx} {key : Nat} {t : Tmpl}
    (h : signingTemplate view ctx key = some t) :
    t.notAfter ≤ ctx.signInfo.2.2 + CertConsts.rootValidDays * daySeconds := by
  unfold signingTemplate at h
  cases hb : certificate view view.primarySigning with
  | some p => rw [hb] at h; exact templateFromCert_le h
  | none => rw [hb] at h; cases h; exact google_notAfter_le _ _ _ _ _

theorem refused_false {serial : Int} {now : Int × Nat} {t : Tmpl} (h1 : 0 ≤ serial) (h2 : 0 ≤ now.1 + epochShift)
    (h3 : modelTime now + CertConsts.rootValidDays * daySeconds < y10k)
    (ht : t.notAfter ≤ modelTime now + CertConsts.rootValidDays * daySeconds) : refused serial now t = false := by
  unfold refused
  simp only [Bool.or_eq_false_iff, decide_eq_false_iff_not]
  omega

/-- `bootCertsX` is `KeyHistory.bootCerts`, unless crypto/x509 refused the root certificate — then only what memca's
    mutation applied at once is left (the primaries) — or the signing certificate — then that and the root
    certificate (memca). -/
theorem bootCertsX_shape (cfg : Cfg) (f : Flags) (c : BootCtx) (km : KM) (rk fk : Nat) (stored : CA) :
    bootCertsX cfg f c km rk fk stored = bootCerts cfg f (bootArgs c) km rk fk stored ∨
    (∃ rt, rootTemplate cfg (bootView cfg stored) (.boot (bootArgs c)) rk = some rt ∧
      refused c.rootSerial c.now rt = true ∧ bootCertsX cfg f c km rk fk stored = (bootView cfg stored, false)) ∨
    ∃ rt rc st, rootTemplate cfg (bootView cfg stored) (.boot (bootArgs c)) rk = some rt ∧
      signCert km none rootName rt = some rc ∧
      signingTemplate (bootPutRoot cfg (bootView cfg stored) rc) (.boot (bootArgs c)) fk = some st ∧
      refused c.signSerial c.now st = true ∧
      bootCertsX cfg f c km rk fk stored = (bootPutRoot cfg (bootView cfg stored) rc, false) := by
  unfold bootCertsX bootCerts
  cases rootTemplate cfg (bootView cfg stored) (.boot (bootArgs c)) rk with
  | none => exact Or.inl rfl
  | some rt =>
    simp only []
    by_cases hr1 : refused c.rootSerial c.now rt = true
    · rw [if_pos hr1]; exact Or.inr (Or.inl ⟨rt, rfl, hr1, rfl⟩)
    · rw [if_neg hr1]
      cases hrc : signCert km none rootName rt with
      | none => exact Or.inl rfl
      | some rc =>
        simp only []
        cases hst : signingTemplate (bootPutRoot cfg (bootView cfg stored) rc) (.boot (bootArgs c)) fk with
        | none => exact Or.inl rfl
        | some st =>
          simp only []
          by_cases hr2 : refused c.signSerial c.now st = true
          · rw [if_pos hr2]; exact Or.inr (Or.inr ⟨rt, rc, st, rfl, hrc, hst, hr2, rfl⟩)
          · rw [if_neg hr2]; exact Or.inl rfl

theorem bootCertsX_eq (cfg : Cfg) (f : Flags) (c : BootCtx) (km : KM) (rk fk : Nat) (stored : CA)
    (h1 : 0 ≤ c.rootSerial) (h2 : 0 ≤ c.signSerial) (h3 : 0 ≤ c.now.1 + epochShift)
    (h4 : modelTime c.now + CertConsts.rootValidDays * daySeconds < y10k) :
    bootCertsX cfg f c km rk fk stored = bootCerts cfg f (bootArgs c) km rk fk stored := by
  rcases bootCertsX_shape cfg f c km rk fk stored with e | ⟨rt, hrt, hr, _⟩ | ⟨_, _, st, _, _, hst, hr, _⟩
  · exact e
  · rw [refused_false h1 h3 h4 (rootTemplate_le hrt)] at hr; cases hr
  · rw [refused_false h2 h3 h4 (signingTemplate_le hst)] at hr; cases hr

theorem rotCertX_some_iff {cfg : Cfg} {s : State} {c : RotCtx} {x : Cert} :
    rotCertX cfg s c = some x ↔
      rotCert cfg s c.cn c.serial.toNat (modelTime c.now) = some x ∧
      ∀ t, signingTemplate s.ca (.rot c.cn c.serial.toNat (modelTime c.now)) s.km.next = some t →
        refused c.serial c.now t = false := by
  unfold rotCertX rotCert
  by_cases hg : rotGuard cfg s.ca = true
  · rw [if_pos hg, if_pos hg]
    cases signingTemplate s.ca (.rot c.cn c.serial.toNat (modelTime c.now)) s.km.next with
    | none => simp
    | some t => cases hr : refused c.serial c.now t <;> simp [hr]
  · rw [if_neg hg, if_neg hg]; simp

theorem rotCertX_some {cfg : Cfg} {s : State} {c : RotCtx} {x : Cert} (h : rotCertX cfg s c = some x) :
    rotCert cfg s c.cn c.serial.toNat (modelTime c.now) = some x :=
  (rotCertX_some_iff.mp h).1

theorem rotCertX_eq (cfg : Cfg) (s : State) (c : RotCtx)
    (h1 : 0 ≤ c.serial) (h3 : 0 ≤ c.now.1 + epochShift)
    (h4 : modelTime c.now + CertConsts.rootValidDays * daySeconds < y10k) :
    rotCertX cfg s c = rotCert cfg s c.cn c.serial.toNat (modelTime c.now) :=
  Option.ext fun x => rotCertX_some_iff.trans
    ⟨And.left, fun h => ⟨h, fun _ ht => refused_false h1 h3 h4 (signingTemplate_le ht)⟩⟩

theorem rotateKeyX_eq_of_cert {cfg : Cfg} {f : Flags} {s : State} {c : RotCtx}
    (h : rotCertX cfg s c = rotCert cfg s c.cn c.serial.toNat (modelTime c.now)) :
    rotateKeyX cfg f s c = rotateKey cfg f s c.cn c.serial.toNat (modelTime c.now) := by
  have hseq : rotateSeqWith cfg f s (rotCert cfg s c.cn c.serial.toNat (modelTime c.now)) =
      rotateSeq cfg f s c.cn c.serial.toNat (modelTime c.now) := by
    unfold rotateSeqWith rotateSeq
    cases rotCert cfg s c.cn c.serial.toNat (modelTime c.now) <;> rfl
  unfold rotateKeyX rotateKey
  rw [h, hseq]; rfl

/-- localca's pre-check does not stand in the way of the command (bootstrap is exempt from it) -/
def unblocked (cfg : Cfg) (s : State) : LibCmd → Bool
  | .bootstrap _ _ => true
  | _ => !cliBlocked cfg s.ca

/-- `hb`: for rotate / wipeout localca's pre-check has passed, which `initCtx` has established. -/
theorem libStep_eq_step (cfg : Cfg) (s : State) (lc : LibCmd) (hr : representable lc = true)
    (hb : unblocked cfg s lc = true) :
    libStep cfg s lc = step cfg s (toCmd lc) := by
  cases lc with
  | bootstrap f c =>
    simp only [representable, Bool.and_eq_true, decide_eq_true_eq] at hr
    obtain ⟨⟨⟨r1, r2⟩, r3⟩, r4⟩ := hr
    simp only [libStep, toCmd, step, bootstrapX, bootstrap]
    rw [bootCertsX_eq cfg f c _ _ _ _ r1 r2 r3 r4]
  | rotate f c =>
    simp only [representable, Bool.and_eq_true, decide_eq_true_eq] at hr
    obtain ⟨⟨r1, r3⟩, r4⟩ := hr
    have hb' : cliBlocked cfg s.ca = false := by simpa [unblocked] using hb
    simp only [libStep, toCmd, step, hb', Bool.false_eq_true, if_false, resolveSerial]
    exact rotateKeyX_eq_of_cert (rotCertX_eq cfg s c r1 r3 r4)
  | wipeout f c =>
    have hb' : cliBlocked cfg s.ca = false := by simpa [unblocked] using hb
    simp only [libStep, toCmd, step, hb', Bool.false_eq_true, if_false]

/-- When crypto/x509 refused the certificate, rotate.Key stops with the new key made, or — eager sequencing, guard
    passed — still applies the mutation without a certificate and destroys the previous version; it fails. -/
theorem rotateKeyX_none_fails {cfg : Cfg} (f : Flags) {s : State} {c : RotCtx} (h : rotCertX cfg s c = none) :
    rotateKeyX cfg f s c = (⟨s.km.gen (bump s.ca.primarySigning), s.ca⟩, false) ∨
    (rotGuard cfg s.ca = true ∧
      rotateKeyX cfg f s c = (⟨destroyOld (s.km.gen (bump s.ca.primarySigning)) s.ca.primarySigning,
        (caAfterRotate cfg f s.ca (bump s.ca.primarySigning) none).1⟩, false)) := by
  unfold rotateKeyX
  rw [h]
  by_cases hs : cfg.seq = true
  · rw [if_pos hs]; exact Or.inl rfl
  · rw [if_neg hs]
    unfold rotateEagerWith
    by_cases hg : rotGuard cfg s.ca = true
    · rw [if_pos hg]; exact Or.inr ⟨hg, rfl⟩
    · rw [if_neg hg]; exact Or.inl rfl

theorem rotateKeyX_none {cfg : Cfg} {f : Flags} {s : State} {c : RotCtx} (h : rotCertX cfg s c = none) :
    (rotateKeyX cfg f s c).1 = ⟨s.km.gen (bump s.ca.primarySigning), s.ca⟩ ∨
    (rotGuard cfg s.ca = true ∧
      (rotateKeyX cfg f s c).1 = ⟨destroyOld (s.km.gen (bump s.ca.primarySigning)) s.ca.primarySigning,
        (caAfterRotate cfg f s.ca (bump s.ca.primarySigning) none).1⟩) :=
  (rotateKeyX_none_fails f h).imp (congrArg Prod.fst) (And.imp_right (congrArg Prod.fst))

theorem rotateKeyX_shape (cfg : Cfg) (f : Flags) (s : State) (c : RotCtx) :
    RotShape cfg f s c.cn c.serial.toNat (modelTime c.now) (rotateKeyX cfg f s c).1 := by
  cases hx : rotCertX cfg s c with
  | some x =>
    rw [rotateKeyX_eq_of_cert (by rw [hx, rotCertX_some hx])]
    exact rotateKey_rotShape cfg f s _ _ _
  | none => exact (rotateKeyX_none hx).imp_right fun ⟨hg, e⟩ => ⟨none, fun _ h => (nomatch h), hg, e⟩

theorem rotateKeyX_ca (cfg : Cfg) (f : Flags) (s : State) (c : RotCtx) :
    (rotateKeyX cfg f s c).1.ca = s.ca ∨
    ∃ oc, (rotateKeyX cfg f s c).1.ca = (caAfterRotate cfg f s.ca (bump s.ca.primarySigning) oc).1 :=
  (rotateKeyX_shape cfg f s c).ca

theorem rotateKeyX_ok {cfg : Cfg} {f : Flags} {s : State} {c : RotCtx} (h : (rotateKeyX cfg f s c).2 = true) :
    rotateKeyX cfg f s c = rotateKey cfg f s c.cn c.serial.toNat (modelTime c.now) ∧ 0 ≤ c.serial := by
  cases hx : rotCertX cfg s c with
  | some x =>
    obtain ⟨hc, hr⟩ := rotCertX_some_iff.mp hx
    obtain ⟨_, t, ht, _⟩ := rotCert_some hc
    have := hr t ht
    simp only [refused, Bool.or_eq_false_iff, decide_eq_false_iff_not] at this
    exact ⟨rotateKeyX_eq_of_cert (by rw [hx, hc]), by omega⟩
  | none => rcases rotateKeyX_none_fails f hx with e | ⟨_, e⟩ <;> rw [e] at h <;> cases h

theorem rotateKeyX_ok_fields {cfg : Cfg} {f : Flags} {s : State} {c : RotCtx} (hk : f.keepGoing = false)
    (h : (rotateKeyX cfg f s c).2 = true) :
    ∃ x, (rotateKeyX cfg f s c).1.ca.primarySigning = bump s.ca.primarySigning ∧
      certificate (rotateKeyX cfg f s c).1.ca (bump s.ca.primarySigning) = some x ∧
      Int.ofNat x.subjSerial = c.serial ∧ x.certSerial = x.subjSerial ∧ x.cn = c.cn ∧ x.notBefore = modelTime c.now := by
  obtain ⟨e, hn⟩ := rotateKeyX_ok h
  rw [e] at h ⊢
  obtain ⟨x, hc, hfin, hst⟩ := rotateKey_ok h
  obtain ⟨c1, c2, c3, c4, _⟩ := rotCert_fields hc
  obtain ⟨k1, k2⟩ := caAfterRotate_ok_nokg hfin hk
  refine ⟨x, by rw [hst]; exact k1, by rw [hst]; exact k2, ?_, by rw [c2, c1], c3, c4⟩
  rw [c1]; exact Int.toNat_of_nonneg hn

theorem bootCertsX_bootShape (cfg : Cfg) (f : Flags) (c : BootCtx) (km : KM) (rk fk : Nat) (stored : CA) :
    BootShape cfg f (bootArgs c) km rk stored (bootCertsX cfg f c km rk fk stored) := by
  rcases bootCertsX_shape cfg f c km rk fk stored with e | ⟨_, _, _, e⟩ | ⟨rt, rc, _, hrt, hrc, _, _, e⟩ <;> rw [e]
  · exact bootCerts_cases cfg f _ km rk fk stored
  · exact Or.inl rfl
  · exact Or.inr ⟨rt, rc, hrt, hrc, Or.inl rfl⟩

def LibCmd.flags : LibCmd → Flags
  | .bootstrap f _ => f
  | .rotate f _ => f
  | .wipeout f _ => f

def LibCmd.isWipeout : LibCmd → Bool
  | .wipeout _ _ => true
  | _ => false

def LibCmd.isBootstrap : LibCmd → Bool
  | .bootstrap _ _ => true
  | _ => false

theorem libStep_ca (cfg : Cfg) (s : State) (lc : LibCmd) : CAStep cfg s.ca (toCmd lc) (libStep cfg s lc).1.ca := by
  cases lc with
  | bootstrap f c =>
    simp only [CAStep, toCmd, libStep, bootstrapX]
    by_cases h1 : keyExists f s.km rootName = true
    · rw [if_pos h1]; exact Or.inl rfl
    · rw [if_neg h1]
      by_cases h2 : keyExists f (s.km.gen rootName) firstName = true
      · rw [if_pos h2]; exact Or.inl rfl
      · rw [if_neg h2]; exact Or.inr ⟨_, _, _, bootCertsX_bootShape cfg f c _ _ _ s.ca, rfl⟩
  | rotate f c => exact rotateKeyX_ca cfg f s c
  | wipeout f c =>
    simp only [CAStep, toCmd, libStep, wipeout]
    cases c.ca
    · exact Or.inl rfl
    · exact Or.inr rfl

theorem RootInv_cliRun (W : Wiring) (pt : String → Option (Int × Nat)) (h : List (Env × CliFlags)) :
    ∀ s : State, RootInv W.cfg s.ca → RootInv W.cfg (cliRun W pt s h).ca := by
  induction h with
  | nil => intro s hs; exact hs
  | cons l t ih =>
    intro s hs
    refine ih _ (?_ : RootInv W.cfg (cliStep W pt l.1 s l.2).1.ca)
    unfold cliStep
    cases cmdOf W pt l.1 s l.2 with
    | ok hd => exact RootInv_caStep hs (libStep_ca W.cfg s hd.cmd)
    | _ => exact hs

theorem libStep_keeps {cfg : Cfg} (hg : cfg.ca = .gcsca) (s : State) (lc : LibCmd)
    (hw : lc.isWipeout = false) (hf : lc.flags.overwrite = false) : Keeps s.ca (libStep cfg s lc).1.ca :=
  keeps_of_caStep hg (by cases lc <;> exact hw) (by cases lc <;> exact hf) (libStep_ca cfg s lc)

/-- the two keys a bootstrap of an empty key store creates -/
def km2 (k : Nat) : KM := ⟨[(rootName, k), (firstName, k + 1)], [], k + 2⟩

theorem Inv_bootView_empty (cfg : Cfg) (k : Nat) : Inv cfg ⟨km2 k, bootView cfg CA.empty⟩ := by
  unfold bootView
  cases hc : cfg.ca with
  | gcsca => exact ⟨InvCA_empty cfg, InvKM_two k (Or.inr rfl)⟩
  | memca =>
    exact ⟨InvCA_boot (p1 := .byName rootName) (p2 := .byName firstName) rfl rfl (fun _ _ h => nomatch h)
      (fun _ => ⟨rfl, rfl⟩) (fun _ h => nomatch h) (fun _ _ h => nomatch h), InvKM_two k (Or.inr rfl)⟩

theorem Inv_bootPutRoot_empty (cfg : Cfg) (k : Nat) (rc : Cert) :
    Inv cfg ⟨km2 k, bootPutRoot cfg (bootView cfg CA.empty) rc⟩ := by
  cases hc : cfg.ca with
  | gcsca => rw [bootPutRoot_gcs hc]; exact Inv_bootView_empty cfg k
  | memca =>
    have e : bootPutRoot cfg (bootView cfg CA.empty) rc =
        ⟨rootName, firstName, [(rootName, .byName rootName)], [(.byName rootName, rc)], none⟩ := by
      simp [bootPutRoot, bootView, hc, memPut, CA.empty, KeyHistory.put]
    rw [e]
    refine ⟨InvCA_boot (p2 := .byName firstName) rfl rfl (fun n p h => Or.inl ?_) (fun _ => ⟨rfl, rfl⟩)
      (fun x h => ?_) (fun _ n h => ?_), InvKM_two k (Or.inl rfl)⟩
    · simpa using get_mem h
    · have := get_mem h
      simp [firstName_ne_root] at this
    · cases hg : KeyHistory.get [(ObjKey.byName rootName, rc)] (.byName n) with
      | none => rw [show (_ : CA).objects = _ from rfl, hg] at h; cases h
      | some x =>
        have : n = rootName ∧ x = rc := by simpa using get_mem hg
        rw [this.1]; rfl

theorem bootstrapX_clean_shape (cfg : Cfg) (f : Flags) (c : BootCtx) {s : State} (hclean : Clean s) :
    bootstrapX cfg f c s = bootstrap cfg f (bootArgs c) s ∨
    (bootstrapX cfg f c s).1 = ⟨km2 s.km.next, bootView cfg CA.empty⟩ ∨
    ∃ rc, (bootstrapX cfg f c s).1 = ⟨km2 s.km.next, bootPutRoot cfg (bootView cfg CA.empty) rc⟩ := by
  have hs := hclean.eq
  have e1 : firstName ≠ rootName := firstName_ne_root
  have hk1 : keyExists f (⟨[], [], s.km.next⟩ : KM) rootName = false := by simp [keyExists, KeyHistory.get]
  have hk2 : keyExists f ((⟨[], [], s.km.next⟩ : KM).gen rootName) firstName = false := by
    simp [keyExists, KM.gen, KeyHistory.put, KeyHistory.get, e1]
  have hkm : ((⟨[], [], s.km.next⟩ : KM).gen rootName).gen firstName = km2 s.km.next := by
    simp [KM.gen, KeyHistory.put, km2, e1]
  rw [hs]
  simp only [bootstrapX, bootstrap, hk1, hk2, hkm, Bool.false_eq_true, if_false]
  rcases bootCertsX_shape cfg f c (km2 s.km.next) s.km.next (s.km.next + 1) CA.empty with
    e | ⟨_, _, _, e⟩ | ⟨_, rc, _, _, _, _, _, e⟩ <;> rw [e]
  · exact Or.inl rfl
  · exact Or.inr (Or.inl rfl)
  · exact Or.inr (Or.inr ⟨rc, rfl⟩)

theorem Inv_bootstrapX_clean {cfg : Cfg} (hg : cfg.guard = true) (f : Flags) (c : BootCtx) {s : State}
    (hi : Inv cfg s) (hclean : Clean s) : Inv cfg (bootstrapX cfg f c s).1 := by
  rcases bootstrapX_clean_shape cfg f c hclean with e | e | ⟨rc, e⟩
  · rw [e]; exact Inv_step hg hi (.bootstrap f (bootArgs c)) (fun _ => hclean)
  · rw [e]; exact Inv_bootView_empty cfg _
  · rw [e]; exact Inv_bootPutRoot_empty cfg _ rc

theorem Inv_libStep {cfg : Cfg} (hg : cfg.guard = true) {s : State} (h : Inv cfg s) (lc : LibCmd)
    (hclean : lc.isBootstrap = true → Clean s) : Inv cfg (libStep cfg s lc).1 := by
  cases lc with
  | bootstrap f c => exact Inv_bootstrapX_clean hg f c h (hclean rfl)
  | rotate f c => exact Inv_of_rotShape hg h (rotateKeyX_shape cfg f s c)
  | wipeout f c => exact Inv_wipeout h c.ca c.keys

theorem cmdOf_ok_iff {W : Wiring} {pt : String → Option (Int × Nat)} {E : Env} {s : State} {f : CliFlags} {h : Handed} :
    cmdOf W pt E s f = .ok h ↔
      ∃ p, parseFlags pt f = .ok p ∧ keyDirCheck W E f = .ok () ∧ siteCheck W f = .ok h.site ∧
        initCtx W s f p (nowOf E p.ts) = .ok h.cmd ∧ h.keyDir = f.keyDir := by
  unfold cmdOf preRun
  constructor
  · intro hc
    cases hp : parseFlags pt f with
    | ok p =>
      cases hk : keyDirCheck W E f with
      | ok u =>
        cases hs : siteCheck W f with
        | ok site =>
          cases hi : initCtx W s f p (nowOf E p.ts) with
          | ok c =>
            simp only [hp, hk, hs, hi, Outcome.ok.injEq] at hc
            subst hc
            exact ⟨p, rfl, rfl, rfl, hi, rfl⟩
          | _ => simp only [hp, hk, hs, hi] at hc; cases hc
        | _ => simp only [hp, hk, hs] at hc; cases hc
      | _ => simp only [hp, hk] at hc; cases hc
    | _ => simp only [hp] at hc; cases hc
  · rintro ⟨p, h1, h2, h3, h4, h5⟩
    simp only [h1, h2, h3, h4, ← h5]

theorem keyDirCheck_ok_iff {W : Wiring} {E : Env} {f : CliFlags} :
    keyDirCheck W E f = .ok () ↔ (W.km = .localkm → E.statDir f.keyDir = some true) := by
  unfold keyDirCheck
  cases W.km with
  | memkm => simp
  | localkm =>
    cases E.statDir f.keyDir with
    | none => simp
    | some b => cases b <;> simp

theorem siteCheck_ok_iff {W : Wiring} {f : CliFlags} {site : Option Site} :
    siteCheck W f = .ok site ↔
      match W.ca with
      | .memca => site = none
      | .gcsca => (f.bucket ≠ "" ∧ resolvedRootPath f ≠ "" ∧ f.certDir ≠ "") ∧
          site = some ⟨f.bucketRoot, f.bucket, f.certDir, resolvedRootPath f⟩ := by
  unfold siteCheck
  cases W.ca with
  | memca => exact ⟨fun h => (Outcome.ok.inj h).symm, fun h => h ▸ rfl⟩
  | gcsca =>
    simp only []
    by_cases hbad : f.bucket = "" ∨ resolvedRootPath f = "" ∨ f.certDir = ""
    · rw [if_pos hbad]; exact ⟨fun h => (nomatch h), fun h => absurd hbad (by simp only [not_or]; exact h.1)⟩
    · rw [if_neg hbad]
      simp only [not_or] at hbad
      exact ⟨fun h => ⟨hbad, (Outcome.ok.inj h).symm⟩, fun h => h.2 ▸ rfl⟩

theorem initCtx_ok_iff {W : Wiring} {s : State} {f : CliFlags} {p : Parsed} {now : Int × Nat} {c : LibCmd} :
    initCtx W s f p now = .ok c ↔
      match f.sub with
      | .bootstrap =>
        c = .bootstrap ⟨f.overwrite, f.keepGoing⟩ ⟨f.rootKeyCn, f.signingKeyCn, p.rootSerial, p.signSerial, now⟩
      | .rotate => cliBlocked W.cfg s.ca = false ∧
        ∃ n, rotateSerial s.ca p.override = some n ∧ c = .rotate ⟨f.overwrite, f.keepGoing⟩ ⟨f.signingKeyCn, n, now⟩
      | .wipeout => cliBlocked W.cfg s.ca = false ∧
        c = .wipeout ⟨f.overwrite, f.keepGoing⟩ ⟨f.forceProdWipeout, wipeSel f.args "ca", wipeSel f.args "keys"⟩ := by
  unfold initCtx
  cases f.sub with
  | bootstrap => simp only [Outcome.ok.injEq, eq_comm]
  | rotate =>
    cases cliBlocked W.cfg s.ca with
    | true => simp
    | false =>
      cases rotateSerial s.ca p.override with
      | none => simp
      | some n => simp [eq_comm]
  | wipeout =>
    cases cliBlocked W.cfg s.ca with
    | true => simp
    | false => simp [eq_comm]

theorem cmdOf_cmd {W : Wiring} {pt : String → Option (Int × Nat)} {E : Env} {s : State} {f : CliFlags} {h : Handed}
    (hc : cmdOf W pt E s f = .ok h) :
    h.cmd.flags = ⟨f.overwrite, f.keepGoing⟩ ∧ (h.cmd.isWipeout = true ↔ f.sub = .wipeout) ∧
    unblocked W.cfg s h.cmd = true ∧ (h.cmd.isBootstrap = true → f.sub = .bootstrap) := by
  obtain ⟨p, _, _, _, h4, _⟩ := cmdOf_ok_iff.mp hc
  have := initCtx_ok_iff.mp h4
  cases hs : f.sub with
  | bootstrap => rw [hs] at this; rw [this]; exact ⟨rfl, by simp [LibCmd.isWipeout], rfl, fun _ => rfl⟩
  | rotate =>
    rw [hs] at this
    obtain ⟨hb, n, _, hcmd⟩ := this
    rw [hcmd]; exact ⟨rfl, by simp [LibCmd.isWipeout], by simp [unblocked, hb], by simp [LibCmd.isBootstrap]⟩
  | wipeout =>
    rw [hs] at this
    obtain ⟨hb, hcmd⟩ := this
    rw [hcmd]; exact ⟨rfl, by simp [LibCmd.isWipeout], by simp [unblocked, hb], by simp [LibCmd.isBootstrap]⟩

theorem cmdOf_isBootstrap {W : Wiring} {pt : String → Option (Int × Nat)} {E : Env} {s : State} {f : CliFlags} {h : Handed}
    (hc : cmdOf W pt E s f = .ok h) : h.cmd.isBootstrap = true → f.sub = .bootstrap :=
  (cmdOf_cmd hc).2.2.2

theorem cliStep_ok {W : Wiring} {pt : String → Option (Int × Nat)} {E : Env} {s : State} {f : CliFlags}
    (h : (cliStep W pt E s f).2 = true) :
    ∃ hd, cmdOf W pt E s f = .ok hd ∧ cliStep W pt E s f = libStep W.cfg s hd.cmd := by
  unfold cliStep at h ⊢
  cases hc : cmdOf W pt E s f with
  | ok hd => exact ⟨hd, rfl, rfl⟩
  | _ => rw [hc] at h; cases h

/-- Every ACCEPTED bootstrap line of the history runs on a clean store (the class the partial theorems of C12
    exclude — bootstrap over a populated store — stated for command lines). -/
def CliCleanRun (W : Wiring) (pt : String → Option (Int × Nat)) : State → List (Env × CliFlags) → Prop
  | _, [] => True
  | s, l :: h =>
    (l.2.sub = .bootstrap → (cmdOf W pt l.1 s l.2).isOk = true → Clean s) ∧ CliCleanRun W pt (cliStep W pt l.1 s l.2).1 h

theorem Inv_cliStep {W : Wiring} (hg : W.guard = true) (pt : String → Option (Int × Nat)) (E : Env) {s : State}
    (h : Inv W.cfg s) (f : CliFlags)
    (hclean : f.sub = .bootstrap → (cmdOf W pt E s f).isOk = true → Clean s) : Inv W.cfg (cliStep W pt E s f).1 := by
  unfold cliStep
  cases hc : cmdOf W pt E s f with
  | ok hd =>
    exact Inv_libStep (cfg := W.cfg) hg h hd.cmd (fun hb => hclean (cmdOf_isBootstrap hc hb) (by rw [hc]; rfl))
  | _ => exact h

theorem Inv_cliRun {W : Wiring} (hg : W.guard = true) (pt : String → Option (Int × Nat)) (h : List (Env × CliFlags)) :
    ∀ s : State, Inv W.cfg s → CliCleanRun W pt s h → Inv W.cfg (cliRun W pt s h) := by
  induction h with
  | nil => intro s hs _; exact hs
  | cons l t ih =>
    intro s hs hc
    exact ih _ (Inv_cliStep hg pt l.1 hs l.2 hc.1) hc.2

def rejectionClasses : List String :=
  ["parse:bigint", "parse:timestamp", "parse:time-already-set",
   "prerun:key_dir-stat", "prerun:key_dir-not-a-directory",
   "prerun:nonempty-100", "prerun:nonempty-010", "prerun:nonempty-001", "prerun:nonempty-110", "prerun:nonempty-101",
   "prerun:nonempty-011", "prerun:nonempty-111",
   "init:check-certs", "init:next-serial"]

def Refuses {α : Type} : Outcome α → Prop
  | .ok _ => True
  | .err e => e ∈ rejectionClasses
  | .panic _ => False

/-- One link of a chain `match o with | .ok a => … | .err e => .err e | .panic s => .panic s`: a refusal of `o` is
    passed on, so only the continuation is left to look at. -/
@[elab_as_elim]
theorem Refuses.step {α : Type} {motive : Outcome α → Prop} {o : Outcome α} (ho : Refuses o)
    (ok : ∀ a, motive (.ok a)) (err : ∀ e, e ∈ rejectionClasses → motive (.err e)) : motive o := by
  cases o with
  | ok a => exact ok a
  | err e => exact err e ho
  | panic x => exact ho.elim

theorem bigintSetAll_append (cur : Int) (vs : List String) (v : String) :
    bigintSetAll cur (vs ++ [v]) =
      match bigintSetAll cur vs with
      | .ok n => bigintSet n v
      | .err e => .err e
      | .panic x => .panic x := by
  induction vs generalizing cur with
  | nil =>
    simp only [List.nil_append, bigintSetAll]
    cases bigintSet cur v <;> rfl
  | cons a t ih =>
    simp only [List.cons_append, bigintSetAll]
    cases bigintSet cur a with
    | ok n => exact ih n
    | _ => rfl

theorem bigintSetAll_refuses (cur : Int) (vs : List String) : Refuses (bigintSetAll cur vs) := by
  induction vs generalizing cur with
  | nil => trivial
  | cons v t ih =>
    unfold bigintSetAll bigintSet
    by_cases hv : v = ""
    · simp only [hv, if_true]; exact ih cur
    · simp only [hv, if_false]
      cases parseBigDec v with
      | none => exact List.mem_cons_self
      | some n => exact ih n

theorem timeSetAll_refuses (pt : String → Option (Int × Nat)) (cur : Int × Nat) (vs : List String) :
    Refuses (timeSetAll pt cur vs) := by
  induction vs generalizing cur with
  | nil => trivial
  | cons v t ih =>
    unfold timeSetAll timeSet
    by_cases hz : cur = zeroTime
    · simp only [hz, if_true]
      by_cases hv : v = ""
      · simp only [hv, if_true]; exact ih _
      · simp only [hv, if_false]
        cases pt v with
        | none => exact List.mem_cons_of_mem _ List.mem_cons_self
        | some t => exact ih t
    · simp only [hz, if_false]; exact List.mem_cons_of_mem _ (List.mem_cons_of_mem _ List.mem_cons_self)

theorem parseFlags_refuses (pt : String → Option (Int × Nat)) (f : CliFlags) :
    Refuses (parseFlags pt f) := by
  unfold parseFlags
  cases f.sub with
  | bootstrap =>
    refine (bigintSetAll_refuses rootSerialDefault f.rootKeySerial).step (fun rs => ?_) fun _ h => h
    refine (bigintSetAll_refuses signSerialDefault f.initialSigningKeySerial).step (fun ss => ?_) fun _ h => h
    exact (timeSetAll_refuses pt zeroTime f.timestamp).step (fun ts => trivial) fun _ h => h
  | rotate =>
    refine (bigintSetAll_refuses overrideDefault f.rotatedKeySerialOverride).step (fun ov => ?_) fun _ h => h
    exact (timeSetAll_refuses pt zeroTime f.timestamp).step (fun ts => trivial) fun _ h => h
  | wipeout => trivial

theorem keyDirCheck_refuses (W : Wiring) (E : Env) (f : CliFlags) : Refuses (keyDirCheck W E f) := by
  unfold keyDirCheck
  cases W.km with
  | memkm => trivial
  | localkm =>
    cases E.statDir f.keyDir with
    | none => simp [Refuses, rejectionClasses]
    | some b => cases b <;> simp [Refuses, rejectionClasses]

/-- the seven classes of gcsca's three MustBeNonempty checks are listed -/
theorem nonempty_class (a b c : Bool) (h : (a || b || c) = true) :
    "prerun:nonempty-" ++ b01 a ++ b01 b ++ b01 c ∈ rejectionClasses := by
  revert a b c; decide +kernel

theorem siteCheck_refuses (W : Wiring) (f : CliFlags) : Refuses (siteCheck W f) := by
  unfold siteCheck
  cases W.ca with
  | memca => trivial
  | gcsca =>
    simp only []
    split
    · next h => exact nonempty_class _ _ _ (by simpa [or_assoc] using h)
    · trivial

theorem initCtx_refuses (W : Wiring) (s : State) (f : CliFlags) (p : Parsed) (now : Int × Nat) :
    Refuses (initCtx W s f p now) := by
  unfold initCtx
  cases f.sub with
  | bootstrap => trivial
  | rotate =>
    simp only []
    split
    · simp [Refuses, rejectionClasses]
    · cases rotateSerial s.ca p.override with
      | none => simp [Refuses, rejectionClasses]
      | some n => trivial
  | wipeout =>
    simp only []
    split
    · simp [Refuses, rejectionClasses]
    · trivial

theorem cmdOf_refuses (W : Wiring) (pt : String → Option (Int × Nat)) (E : Env) (s : State) (f : CliFlags) :
    Refuses (cmdOf W pt E s f) := by
  unfold cmdOf
  refine (parseFlags_refuses pt f).step (fun p => ?_) fun _ h => h
  have hpre : Refuses (preRun W E f p) := by
    unfold preRun
    refine (keyDirCheck_refuses W E f).step (fun _ => ?_) fun _ h => h
    exact (siteCheck_refuses W f).step (fun site => trivial) fun _ h => h
  simp only []
  refine hpre.step (fun sn => ?_) fun _ h => h
  obtain ⟨site, now⟩ := sn
  simp only []
  exact (initCtx_refuses W s f p now).step (fun c => trivial) fun _ h => h

end GceTcb.KeyCli
