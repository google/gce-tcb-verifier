import GceTcb.Model.EventLogRecv
import GceTcb.Proofs.EventLog
import GceTcb.Proofs.Codecs
import GceTcb.Spec.AbiLayouts
/-
C18 — helper lemmas for Props/C18Recv.lean.  Decoders: for the code of the tree (`Variant.tree`) a decode into ANY
receiver reports exactly what the functional decoder of Model/EventLog.lean reports (`toRes … = read…`).  Encoders
(namespace `Codecs`, second half): a `Put` performed store by store over a layout without holes writes the field images
in order and nothing else (`putStores_layout`).
-/
namespace GceTcb.EventLog
open GceTcb GceTcb.Codec GceTcb.Codecs

namespace RRes
variable {α β : Type}

@[simp] theorem toRes_ok (a : α) (r : Bytes) : (RRes.ok a r).toRes = .ok a r := rfl
@[simp] theorem toRes_eof (a : α) : (RRes.eof a).toRes = .eof := rfl
@[simp] theorem toRes_fail (a : α) : (RRes.fail a).toRes = .fail := rfl

@[simp] theorem toRes_ofRes (recv : α) (r : Res α) : (ofRes recv r).toRes = r := by cases r <;> rfl

theorem toRes_thenStore (r : RRes β) (recv : α) (set : α → β → α) (k : α → Bytes → RRes α) :
    (r.thenStore recv set k).toRes = r.toRes.andThen fun x rest => (k (set recv x) rest).toRes := by
  cases r <;> rfl

theorem eq_ok_iff {r : RRes α} {s : Res α} {v : α} {rest : Bytes} (h : r.toRes = s) :
    r = .ok v rest ↔ s = .ok v rest := by
  subst h; cases r <;> simp [toRes]

theorem isOk_toRes (r : RRes α) : r.toRes.isOk = r.isOk := by cases r <;> rfl

theorem ofRes_recv_of_not_ok (recv : α) (r : Res α) (h : (ofRes recv r).isOk = false) : (ofRes recv r).recv = recv := by
  cases r <;> simp_all [ofRes, RRes.recv, isOk]

end RRes

@[simp] theorem toRes_readLEInto (n recv : Nat) (b : Bytes) : (readLEInto n recv b).toRes = readLE n b :=
  RRes.toRes_ofRes _ _

@[simp] theorem toRes_readGuidInto (recv b : Bytes) : (readGuidInto recv b).toRes = readGuid b :=
  RRes.toRes_ofRes _ _

/-- the code of the tree: every success path of readSizedArray stores -/
@[simp] theorem toRes_readSizedArrayInto (k : RKind) (w : Nat) (recv b : Bytes) :
    (readSizedArrayInto .tree k w recv b).toRes = readSizedArray ⟨true, k⟩ w b := by
  simp only [readSizedArrayInto, readSizedArray, Variant.tree, treeCfg, Bool.false_and, Bool.false_eq_true, if_false]
  cases readLE w b with
  | eof => rfl
  | fail => rfl
  | ok size rest =>
    simp only [Res.andThen]
    cases readBody ⟨true, k⟩ true size rest <;> rfl

@[simp] theorem toRes_readU32ArrayInto (k : RKind) (recv b : Bytes) :
    (readU32ArrayInto .tree k recv b).toRes = readU32Array ⟨true, k⟩ b := toRes_readSizedArrayInto k 4 recv b

@[simp] theorem toRes_readCStrInto (k : RKind) (recv b : Bytes) :
    (readCStrInto .tree k recv b).toRes = readCStr ⟨true, k⟩ b := by
  rw [readCStr, ← toRes_readSizedArrayInto k 1 [] b, readCStrInto]
  cases readSizedArrayInto .tree k 1 [] b with
  | eof _ => rfl
  | fail _ => rfl
  | ok data rest =>
    simp only [RRes.toRes_ok, andThen_ok]
    split <;> rfl

@[simp] theorem toRes_readDigestInto (recv : Digest) (b : Bytes) : (readDigestInto recv b).toRes = readDigest b := by
  simp only [readDigestInto, readDigest]
  cases readLE 2 b with
  | eof => rfl
  | fail => rfl
  | ok alg rest =>
    simp only [Res.andThen]
    cases tpmAlgoSize alg with
    | none => rfl
    | some sz =>
      simp only [readFull]
      split
      · rfl
      · split <;> rfl

theorem toRes_readDigestsInto (n : Nat) (acc : List Digest) (b : Bytes) :
    (readDigestsInto n acc b).toRes = (readDigests n b).map (acc ++ ·) := by
  induction n generalizing acc b with
  | zero => simp [readDigestsInto, readDigests, RRes.toRes, Res.map]
  | succ n ih =>
    rw [readDigests, ← toRes_readDigestInto Digest.zero b, readDigestsInto]
    cases readDigestInto Digest.zero b with
    | eof _ => rfl
    | fail _ => rfl
    | ok d rest =>
      simp only [RRes.toRes_ok, Res.noEof, andThen_ok]
      rw [ih, Res.map_map]
      congr 1
      funext x
      simp

/-- a failed element loop leaves the elements that decoded before the failing one -/
theorem readDigestsInto_failed (n : Nat) (acc : List Digest) (b : Bytes) (h : (readDigestsInto n acc b).isOk = false) :
    ∃ m ds rest, m < n ∧ readDigests m b = .ok ds rest ∧ (readDigestsInto n acc b).recv = acc ++ ds := by
  induction n generalizing acc b with
  | zero => simp [readDigestsInto, RRes.isOk] at h
  | succ n ih =>
    have hd := toRes_readDigestInto Digest.zero b
    simp only [readDigestsInto] at h ⊢
    cases hq : readDigestInto Digest.zero b with
    | eof _ => exact ⟨0, [], b, by omega, rfl, by simp [RRes.recv]⟩
    | fail _ => exact ⟨0, [], b, by omega, rfl, by simp [RRes.recv]⟩
    | ok d rest =>
      rw [hq] at h hd
      simp only at h
      obtain ⟨m, ds, rest', hm, hr, he⟩ := ih (acc ++ [d]) rest h
      refine ⟨m + 1, d :: ds, rest', by omega, ?_, ?_⟩
      · simp only [readDigests, ← hd, RRes.toRes_ok, Res.noEof, Res.andThen, hr, Res.map]
      · simp only [he, List.append_assoc, List.singleton_append]

@[simp] theorem toRes_readDigestArrayInto (recv : List Digest) (b : Bytes) :
    (readDigestArrayInto .tree recv b).toRes = readDigestArray b := by
  rw [readDigestArray_eq, readDigestArrayInto]
  cases readLE 4 b with
  | eof => rfl
  | fail => rfl
  | ok n rest => exact (toRes_readDigestsInto n [] rest).trans (Res.map_nil_append _)

@[simp] theorem toRes_readEvent3FieldsInto (k : RKind) (e : Event3) (b : Bytes) :
    (readEvent3FieldsInto .tree k e b).toRes = readEvent3Fields ⟨true, k⟩ b := by
  simp only [readEvent3FieldsInto, readEvent3Fields, RRes.toRes_thenStore, toRes_readLEInto, toRes_readGuidInto,
    toRes_readCStrInto, toRes_readU32ArrayInto, RRes.toRes_ok]

@[simp] theorem toRes_unmarshalEvent3Into (e : Event3) (data : Bytes) :
    (unmarshalEvent3Into .tree e data).toRes = unmarshalEvent3 true data := by
  rw [unmarshalEvent3, ← toRes_readEvent3FieldsInto .buffer e data, unmarshalEvent3Into]
  cases readEvent3FieldsInto .tree .buffer e data with
  | eof _ => rfl
  | fail _ => rfl
  | ok e' rest =>
    simp only [RRes.toRes_ok, andThen_ok]
    split <;> rfl

@[simp] theorem toRes_readEventDataInto (k : RKind) (recv : EventData) (b : Bytes) :
    (readEventDataInto .tree k recv b).toRes = readEventData ⟨true, k⟩ b := by
  simp only [readEventDataInto, readEventData, treeCfg]
  cases readLE 4 b with
  | eof => rfl
  | fail => rfl
  | ok size rest =>
    simp only [Res.andThen]
    cases readBody ⟨true, k⟩ false size rest with
    | eof => rfl
    | fail => rfl
    | ok chunk rest' =>
      simp only
      split
      · rw [← toRes_unmarshalEvent3Into (event3Target .tree recv) (chunk.drop 16)]
        cases unmarshalEvent3Into .tree (event3Target .tree recv) (chunk.drop 16) <;> rfl
      · rfl

theorem toRes_readSha1Into (recv b : Bytes) : (readSha1Into recv b).toRes = readFull 20 b := by
  unfold readSha1Into readFull
  split
  · rfl
  · split <;> rfl

@[simp] theorem toRes_readPcrEventInto (k : RKind) (e : PcrEvent) (b : Bytes) :
    (readPcrEventInto .tree k e b).toRes = readPcrEvent ⟨true, k⟩ b := by
  simp only [readPcrEventInto, readPcrEvent, RRes.toRes_thenStore, toRes_readLEInto, toRes_readSha1Into,
    toRes_readEventDataInto, RRes.toRes_ok]

@[simp] theorem toRes_readEvent2Into (k : RKind) (e : Event2) (b : Bytes) :
    (readEvent2Into .tree k e b).toRes = readEvent2 ⟨true, k⟩ b := by
  simp only [readEvent2Into, readEvent2, RRes.toRes_thenStore, toRes_readLEInto, toRes_readDigestArrayInto,
    toRes_readEventDataInto, RRes.toRes_ok]

theorem toRes_readEventsInto (k : RKind) (fuel : Nat) (acc : List Event2) (b : Bytes) :
    (readEventsInto .tree k fuel acc b).toRes = (readEvents ⟨true, k⟩ fuel b).map (acc ++ ·) := by
  induction fuel generalizing acc b with
  | zero => rfl
  | succ fuel ih =>
    rw [readEvents, ← toRes_readEvent2Into k Event2.zero b, readEventsInto]
    cases readEvent2Into .tree k Event2.zero b with
    | eof _ =>
      simp only [RRes.toRes_eof, if_true]
      split <;> simp [Res.map]
    | fail _ => rfl
    | ok e rest =>
      simp only [RRes.toRes_ok]
      rw [ih, Res.map_map]
      congr 1
      funext x
      simp

@[simp] theorem toRes_readLogInto (k : RKind) (l : Log) (b : Bytes) :
    (readLogInto .tree k l b).toRes = readLog ⟨true, k⟩ b := by
  rw [readLog, ← toRes_readPcrEventInto k l.header b, readLogInto]
  cases readPcrEventInto .tree k l.header b with
  | eof _ => rfl
  | fail _ => rfl
  | ok hd rest =>
    have h2 := toRes_readEventsInto k (rest.length + 1) [] rest
    rw [Res.map_nil_append] at h2
    -- the events are decoded onto `[]` (`cel.Events = nil`), then paired with the header on every path
    simp only [show (if Variant.tree.logAppends = true then l.events else []) = [] from rfl, RRes.toRes_ok, andThen_ok,
      ← h2]
    cases readEventsInto .tree k (rest.length + 1) [] rest <;> rfl

end GceTcb.EventLog

namespace GceTcb.Codecs
open GceTcb GceTcb.Codec

theorem storeAt_eq (buf : Bytes) (off : Nat) (bs : Bytes) (h : off + bs.length ≤ buf.length) :
    (storeAt buf off bs).length = buf.length ∧ (storeAt buf off bs).take (off + bs.length) = buf.take off ++ bs ∧
    ∀ n, off + bs.length ≤ n → (storeAt buf off bs).drop n = buf.drop n := by
  have hl : (buf.take off ++ bs).length = off + bs.length := by
    rw [List.length_append, List.length_take, Nat.min_eq_left (Nat.le_trans (Nat.le_add_right _ _) h)]
  unfold storeAt
  refine ⟨?_, ?_, ?_⟩
  · rw [List.length_append, hl, List.length_drop, Nat.add_sub_of_le h]
  · rw [← hl, List.take_left']; rfl
  · intro n hn
    rw [List.drop_append, List.drop_eq_nil_of_le (hl ▸ hn), List.nil_append, List.drop_drop, hl, Nat.add_sub_of_le hn]

theorem putStores_contiguous (sts : List (Nat × Bytes)) (s : Nat) (buf : Bytes)
    (hc : storesContiguousFrom s sts = true) (hl : s + (storesImage sts).length ≤ buf.length) :
    putStores sts buf = buf.take s ++ storesImage sts ++ buf.drop (s + (storesImage sts).length) := by
  induction sts generalizing s buf with
  | nil => simp [putStores, storesImage]
  | cons st rest ih =>
    obtain ⟨off, bs⟩ := st
    simp only [storesContiguousFrom, Bool.and_eq_true, beq_iff_eq] at hc
    obtain ⟨rfl, hc⟩ := hc
    simp only [storesImage, List.length_append, ← Nat.add_assoc] at hl ⊢
    obtain ⟨h1, h2, h3⟩ := storeAt_eq buf off bs (Nat.le_trans (Nat.le_add_right _ _) hl)
    rw [putStores, ih (off + bs.length) _ hc (h1 ▸ hl), h2, h3 _ (Nat.le_add_right _ _)]
    simp only [List.append_assoc]

open GceTcb.Spec in
theorem layoutStores_contiguous (l : List (Nat × Nat × String)) (imgs : List Bytes) (s : Nat)
    (hc : AbiLayouts.contiguousFrom s l = true) (hf : ImagesFit l imgs) :
    storesContiguousFrom s (layoutStores l imgs) = true ∧
    (storesImage (layoutStores l imgs)).length = AbiLayouts.total l ∧
    storesImage (layoutStores l imgs) = imgs.flatten := by
  induction l generalizing imgs s with
  | nil =>
    cases imgs with
    | nil => exact ⟨rfl, rfl, rfl⟩
    | cons _ _ => cases hf
  | cons e l ih =>
    obtain ⟨off, w, nm⟩ := e
    cases imgs with
    | nil => cases hf
    | cons img imgs =>
      obtain ⟨hw, hf⟩ := hf
      simp only [AbiLayouts.contiguousFrom, Bool.and_eq_true, beq_iff_eq] at hc
      obtain ⟨rfl, hc⟩ := hc
      obtain ⟨h1, h2, h3⟩ := ih imgs (off + w) hc hf
      refine ⟨?_, ?_, ?_⟩
      · simp only [layoutStores, storesContiguousFrom, beq_self_eq_true, Bool.true_and, hw, h1]
      · simp only [layoutStores, storesImage, List.length_append, h2, hw, AbiLayouts.total, AbiLayouts.widths,
          List.map_cons, List.sum_cons]
      · simp only [layoutStores, storesImage, h3, List.flatten_cons]

open GceTcb.Spec in
theorem putStores_layout (l : List (Nat × Nat × String)) (imgs : List Bytes) (buf : Bytes)
    (hc : AbiLayouts.contiguous l = true) (hf : ImagesFit l imgs) (hl : AbiLayouts.total l ≤ buf.length) :
    putStores (layoutStores l imgs) buf = imgs.flatten ++ buf.drop (AbiLayouts.total l) := by
  obtain ⟨h1, h2, h3⟩ := layoutStores_contiguous l imgs 0 hc hf
  have := putStores_contiguous (layoutStores l imgs) 0 buf h1 (by omega)
  rw [this, h2, h3]; simp

theorem fieldImages_flatten (ws vs : List Nat) : (fieldImages ws vs).flatten = encF ws vs := by
  induction ws generalizing vs with
  | nil => simp [fieldImages, encF]
  | cons w ws ih =>
    cases vs with
    | nil => simp [fieldImages, encF, ih]
    | cons v vs => simp [fieldImages, encF, ih]

open GceTcb.Spec in
theorem fieldImages_fit (l : List (Nat × Nat × String)) (vs : List Nat) :
    ImagesFit l (fieldImages (AbiLayouts.widths l) vs) := by
  induction l generalizing vs with
  | nil => simp [AbiLayouts.widths, fieldImages, ImagesFit]
  | cons e l ih =>
    obtain ⟨off, w, nm⟩ := e
    cases vs with
    | nil => exact ⟨leBytes_length _ _, ih []⟩
    | cons v vs => exact ⟨leBytes_length _ _, ih vs⟩

end GceTcb.Codecs
