import GceTcb.Model.Mrtd
import GceTcb.Spec.Mrtd
import GceTcb.Proofs.TdxIntervals
/-
C05 — the byte stream written by InitMemoryRegion (one loop in 256-byte steps) equals the
specification's record stream (page by page: PAGE.ADD, then sixteen MR.EXTEND when measured).  Core-only.
-/
namespace GceTcb.Mrtd
open GceTcb GceTcb.Codec GceTcb.Intervals GceTcb.TdxMeta GceTcb.Spec.Mrtd

/- `asciiBytes` (model) and `ascii` (specification) have the same body; the tag is evaluated once, so that
   `simp` can place the eight address bytes behind it. -/
theorem pageAdd_eq (gpa : Nat) : Mrtd.pageAdd gpa = pageAddRec gpa := by
  have h : ascii "MEM.PAGE.ADD" = [77, 69, 77, 46, 80, 65, 71, 69, 46, 65, 68, 68] := by decide
  unfold Mrtd.pageAdd pageAddRec writeAt zeros
  rw [show asciiBytes "MEM.PAGE.ADD" = ascii "MEM.PAGE.ADD" from rfl, h]
  simp [List.replicate]

theorem mrExtend_eq (gpa : Nat) (chunk : Bytes) : Mrtd.mrExtend gpa chunk = mrExtendRec gpa chunk := by
  have h : ascii "MR.EXTEND" = [77, 82, 46, 69, 88, 84, 69, 78, 68] := by decide
  unfold Mrtd.mrExtend mrExtendRec writeAt zeros
  rw [show asciiBytes "MR.EXTEND" = ascii "MR.EXTEND" from rfl, h]
  simp [List.replicate]

/-- the records of the `t`-th 256-byte step of a section -/
def chunkRecs (extend : Bool) (base : Nat) (content : Bytes) (t : Nat) : Bytes :=
  (if t % 16 = 0 then pageAddRec (base + 256 * t) else []) ++
  (if extend then mrExtendRec (base + 256 * t) (sub content (256 * t) 256) else [])

theorem sub_sub (content : Bytes) (a b n m : Nat) (h : b + m ≤ n) :
    sub (sub content a n) b m = sub content (a + b) m := by
  unfold sub
  rw [List.drop_take, List.take_take, List.drop_drop]
  congr 1
  omega

theorem chunkRecs_page (ext : Bool) (base : Nat) (content : Bytes) (p j : Nat) (hj : j < 16) :
    chunkRecs ext base content (16 * p + j) =
      (if j = 0 then pageAddRec (base + 4096 * p) else []) ++
      (if ext then mrExtendRec (base + 4096 * p + 256 * j) (sub (sub content (4096 * p) 4096) (256 * j) 256) else []) := by
  have e : 256 * (16 * p + j) = 4096 * p + 256 * j := by omega
  rw [chunkRecs, sub_sub _ _ _ _ _ (by omega), e, ← Nat.add_assoc]
  congr 1
  by_cases h : j = 0
  · simp [h]
  · rw [if_neg h, if_neg (by omega)]

theorem pageRecs_chunks (ext : Bool) (base : Nat) (content : Bytes) (p : Nat) :
    pageRecs ext (base + 4096 * p) (sub content (4096 * p) 4096) =
      ((List.range 16).map (16 * p + ·)).flatMap (chunkRecs ext base content) := by
  rw [List.flatMap_map, flatMap_congr_mem _ fun j hj => chunkRecs_page ext base content p j (List.mem_range.mp hj), pageRecs]
  -- the sixteen steps written out: only the first carries the PAGE.ADD record
  cases ext <;> simp [List.range_succ_eq_map]

theorem sectionRecs_chunks (s : Section) :
    sectionRecs s = (List.range (16 * s.pages)).flatMap (chunkRecs s.extend s.base s.content) := by
  unfold sectionRecs
  generalize s.pages = n
  induction n with
  | zero => rfl
  | succ n ih =>
    rw [List.range_succ, List.flatMap_append, ih, Nat.mul_succ, List.range_add, List.flatMap_append,
      ← pageRecs_chunks, List.flatMap_singleton]

theorem initLoop_chunks (gpa : Nat) (m : Bool) (data : Bytes) : ∀ (n t0 : Nat), gpa + 256 * (t0 + n) ≤ 2 ^ 64 →
    initLoop gpa m n (256 * t0) (data.drop (256 * t0)) =
      ((List.range n).map (t0 + ·)).flatMap (chunkRecs m gpa data) := by
  intro n
  induction n with
  | zero => intro t0 _; rfl
  | succ n ih =>
    intro t0 h
    have h16 : (256 * t0 % 4096 = 0) ↔ (t0 % 16 = 0) := by omega
    rw [List.range_succ_eq_map, List.map_cons, List.flatMap_cons, List.map_map, initLoop,
      Nat.mod_eq_of_lt (by omega : gpa + 256 * t0 < 2 ^ 64), pageAdd_eq, mrExtend_eq, List.drop_drop,
      ← Nat.mul_succ, ih (t0 + 1) (by omega)]
    simp only [chunkRecs, sub, h16, Nat.add_zero, List.append_assoc, Function.comp_def, Nat.add_assoc, Nat.add_comm 1]

theorem ite_eq_ok {α : Type} {c : Prop} [Decidable c] {e : String} {t : Outcome α} {x : α} :
    ((if c then .err e else t) = .ok x ↔ ¬ c ∧ t = .ok x) ∧ ((if c then .panic e else t) = .ok x ↔ ¬ c ∧ t = .ok x) := by
  by_cases h : c <;> simp [h]

/-- The measured-or-not flag InitMemoryRegion derives. -/
def measureOf (measureAll : Bool) (r : Region) : Bool := (r.attrs &&& 1 ≠ 0) || measureAll

/-- InitMemoryRegion on a region whose range does not wrap: the bytes it writes to the digest are the
    specification's records of the section (base, pages, measured?, host buffer). -/
theorem initMemoryRegion_eq_spec (measureAll : Bool) (r : Region) (s : Bytes)
    (hr : r.gpr.start + r.gpr.len ≤ 2 ^ 64) (hs : r.gpr.start < 2 ^ 64) (hl : r.gpr.len < 2 ^ 64)
    (h : initMemoryRegion measureAll r = .ok s) :
    s = sectionRecs ⟨r.gpr.start, r.gpr.len / 4096, measureOf measureAll r, r.buf.toBytes⟩ := by
  unfold initMemoryRegion at h
  cases hc : initChecks measureAll r with
  | err c => rw [hc] at h; simp at h
  | panic p => rw [hc] at h; simp at h
  | ok measure =>
    rw [hc, Nat.mod_eq_of_lt hs, Nat.mod_eq_of_lt hl] at h
    simp only [initChecks, ite_eq_ok, Outcome.ok.injEq, Nat.mod_eq_of_lt hl] at hc h
    obtain ⟨_, _, hl4, _, _, hm⟩ := hc
    have h256 : r.gpr.len / 256 = 16 * (r.gpr.len / 4096) := by omega
    have key := initLoop_chunks r.gpr.start measure (if measure = true then r.buf.toBytes else [])
      (16 * (r.gpr.len / 4096)) 0 (by omega)
    simp only [Nat.mul_zero, List.drop_zero, Nat.zero_add, List.map_id'] at key
    rw [sectionRecs_chunks, show measureOf measureAll r = measure from hm, ← h, h256, key]
    -- when nothing is measured the records do not depend on the contents
    refine flatMap_congr_mem _ fun t _ => ?_
    cases measure with
    | true => rfl
    | false => rfl

theorem or_one_and_one (a : Nat) : (a ||| 1) &&& 1 = 1 := by
  rw [Nat.and_one_is_mod]
  have := @Nat.or_mod_two_eq_one a 1
  omega

theorem sum_div_le (l : List Nat) : (l.map (· / 256)).sum ≤ l.sum / 256 := by
  induction l with
  | nil => simp
  | cons a t ih => simp only [List.map_cons, List.sum_cons]; omega

/-- C05 "sections not flagged for extension contribute page-add records only": the records of an
    unmeasured section are one PAGE.ADD buffer per page, whatever the contents. -/
theorem sectionRecs_not_extended (base pages : Nat) (content : Bytes) :
    sectionRecs ⟨base, pages, false, content⟩ = (List.range pages).flatMap (fun k => pageAddRec (base + 4096 * k)) := by
  unfold sectionRecs pageRecs
  simp

end GceTcb.Mrtd
