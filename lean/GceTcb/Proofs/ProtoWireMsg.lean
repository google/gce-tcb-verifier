import GceTcb.Proofs.ProtoWire
/-
Round trips of the five endorsement messages through the wire codec.  Each message is folded field by
field in the order of its encoder (`foldFields_opt…` with the step function's own update as `set`); the
empty suffix appended first gives every field a `rest`.  Core-only.
-/
namespace GceTcb.ProtoWire
open GceTcb

theorem shape_nil : ∀ f ∈ ([] : List Field), f.Shape := by intro f h; cases h

theorem shape_append {a b : List Field} (ha : ∀ f ∈ a, f.Shape) (hb : ∀ f ∈ b, f.Shape) :
    ∀ f ∈ a ++ b, f.Shape := by
  intro f hf
  rcases List.mem_append.mp hf with h | h
  · exact ha f h
  · exact hb f h

theorem shape_optVarint (num v : Nat) (hn : numOk num := by decide) : ∀ f ∈ optVarint num v, f.Shape := by
  intro f hf
  unfold optVarint at hf
  split at hf
  · cases hf
  · exact Or.inl ⟨num, v, hn, List.mem_singleton.mp hf⟩

theorem shape_map_fLen {α : Type} (num : Nat) (enc : α → Bytes) (l : List α) (hn : numOk num := by decide) :
    ∀ f ∈ l.map (fun x => fLen num (enc x)), f.Shape := by
  intro f hf
  obtain ⟨x, _, rfl⟩ := List.mem_map.mp hf
  exact Or.inr ⟨num, enc x, hn, rfl⟩

theorem shape_optMsg (num : Nat) (o : Option Bytes) (hn : numOk num := by decide) : ∀ f ∈ optMsg num o, f.Shape := by
  cases o with
  | none => exact shape_nil
  | some p => exact shape_map_fLen num id [p] hn

theorem shape_optBytes (num : Nat) (p : Bytes) (hn : numOk num := by decide) : ∀ f ∈ optBytes num p, f.Shape := by
  unfold optBytes
  split
  · exact shape_nil
  · exact shape_map_fLen num id [p] hn

/-- `hfold` may use the size bound: the round trips of the embedded messages need theirs, which `payload_lt`
    derives from it. -/
theorem decodeInto_encode {M : Type} (step : M → Field → Option M) (init m : M) (fs : List Field) (unk : Bytes)
    (hunk : unk = []) (hs : ∀ f ∈ fs, f.Shape) (hsz : (encFields fs ++ unk).length < 2 ^ 64)
    (hfold : (encFields fs).length < 2 ^ 64 → foldFields step init fs = some m) :
    decodeInto step init (encFields fs ++ unk) = some m := by
  subst hunk
  rw [List.append_nil] at hsz ⊢
  rw [decodeInto_encFields _ _ _ (good_of_shape _ hs hsz)]
  exact hfold hsz

structure WfTimestamp (t : WTimestamp) : Prop where
  seconds_lo : -9223372036854775808 ≤ t.seconds
  seconds_hi : t.seconds < 9223372036854775808
  nanos_lo : -2147483648 ≤ t.nanos
  nanos_hi : t.nanos < 2147483648
  no_unknown : t.unknown = []

/-- varint fields are self-delimiting whatever their size -/
theorem timestampFields_good (t : WTimestamp) : ∀ f ∈ timestampFields t, f.Good := by
  intro f hf
  unfold timestampFields optVarint at hf
  rcases List.mem_append.mp hf with h | h <;> split at h
  · cases h
  · exact List.mem_singleton.mp h ▸ good_fVarint 1 _ (by decide)
  · cases h
  · exact List.mem_singleton.mp h ▸ good_fVarint 2 _ (by decide)

theorem decodeTimestamp_encode (t : WTimestamp) (hw : WfTimestamp t) :
    decodeTimestamp (encodeTimestamp t) = some t := by
  unfold decodeTimestamp decodeTimestampInto encodeTimestamp
  rw [hw.no_unknown, List.append_nil, decodeInto_encFields _ _ _ (timestampFields_good t)]
  rw [← List.append_nil (timestampFields t), timestampFields, List.append_assoc]
  refine (foldFields_optVarint stepTimestamp 1 _ _ (fun m x => { m with seconds := toInt64 x }) _ rfl rfl).trans ?_
  refine (foldFields_optVarint stepTimestamp 2 _ _ (fun m x => { m with nanos := toInt32 x }) _ rfl rfl).trans ?_
  dsimp only [WTimestamp.zero, foldFields]
  rw [toInt64_i64bits _ hw.seconds_lo hw.seconds_hi, toInt32_i64bits _ hw.nanos_lo hw.nanos_hi, ← hw.no_unknown]

structure WfRow (r : WRow) : Prop where
  ram : r.ramGib < 4294967296
  no_unknown : r.unknown = []

theorem decodeRow_encode (r : WRow) (hw : WfRow r) (hsz : (encodeRow r).length < 2 ^ 64) :
    decodeRow (encodeRow r) = some r := by
  refine decodeInto_encode stepRow .zero r _ _ hw.no_unknown
    (shape_append (shape_optVarint 1 _) (shape_append (shape_optVarint 2 _) (shape_optBytes 3 _))) hsz fun _ => ?_
  rw [← List.append_nil (rowFields r), rowFields]
  simp only [List.append_assoc]
  refine (foldFields_optVarint stepRow 1 _ _ (fun m x => { m with ramGib := x % 4294967296 }) _ rfl rfl).trans ?_
  refine (foldFields_optVarint stepRow 2 _ _ (fun m x => { m with earlyAccept := decide (x ≠ 0) }) _ rfl rfl).trans ?_
  refine (foldFields_optBytes stepRow 3 _ _ (fun m p => { m with mrtd := p }) _ rfl rfl).trans ?_
  have h1 : r.ramGib % 2 ^ 64 % 4294967296 = r.ramGib := by have := hw.ram; omega
  have h2 : decide (b2n r.earlyAccept % 2 ^ 64 ≠ 0) = r.earlyAccept := by cases r.earlyAccept <;> decide
  dsimp only [WRow.zero, foldFields]
  rw [h1, h2, ← hw.no_unknown]

structure WfTdx (d : WTdx) : Prop where
  svn : d.svn < 4294967296
  rows : ∀ r ∈ d.measurements, WfRow r
  no_unknown : d.unknown = []

theorem foldl_snoc_rows (l : List WRow) : ∀ (s : WTdx),
    l.foldl (fun s r => { s with measurements := s.measurements ++ [r] }) s =
      { s with measurements := s.measurements ++ l } := by
  induction l with
  | nil => intro s; simp
  | cons x xs ih => intro s; simp [ih]

theorem decodeTdx_encode (d : WTdx) (hw : WfTdx d) (hsz : (encodeTdx d).length < 2 ^ 64) :
    decodeTdx (encodeTdx d) = some d := by
  refine decodeInto_encode stepTdx .zero d _ _ hw.no_unknown
    (shape_append (shape_optVarint 1 _) (shape_map_fLen 2 encodeRow _)) hsz fun hsz => ?_
  have hrow : ∀ r ∈ d.measurements, decodeRow (encodeRow r) = some r := fun r hr =>
    decodeRow_encode r (hw.rows r hr)
      (payload_lt (tdxFields d) 2 _ (List.mem_append_right _ (List.mem_map_of_mem hr)) hsz)
  rw [← List.append_nil (tdxFields d), tdxFields, List.append_assoc]
  refine (foldFields_optVarint stepTdx 1 _ _ (fun m x => { m with svn := x % 4294967296 }) _ rfl rfl).trans ?_
  refine (foldFields_repeated stepTdx 2 encodeRow decodeRow
    (fun m r => { m with measurements := m.measurements ++ [r] }) d.measurements
    (fun m q r hd => by simp only [stepTdx, fLen, hd]) hrow _ _).trans ?_
  rw [foldl_snoc_rows]
  have h1 : d.svn % 2 ^ 64 % 4294967296 = d.svn := by have := hw.svn; omega
  dsimp only [WTdx.zero, foldFields]
  rw [h1, List.nil_append, ← hw.no_unknown]

theorem entryFields_shape (k : Nat) (v : Bytes) : ∀ f ∈ entryFields k v, f.Shape := by
  intro f hf
  simp only [entryFields, List.mem_cons, List.not_mem_nil, or_false] at hf
  rcases hf with rfl | rfl
  · exact Or.inl ⟨1, k, by decide, rfl⟩
  · exact Or.inr ⟨2, v, by decide, rfl⟩

theorem decodeEntry_encode (k : Nat) (v : Bytes) (hk : k < 4294967296) (hsz : (encodeEntry k v).length < 2 ^ 64) :
    decodeEntry (encodeEntry k v) = some (k, v) := by
  unfold decodeEntry encodeEntry at *
  rw [decodeInto_encFields _ _ _ (good_of_shape _ (entryFields_shape k v) hsz)]
  have h1 : k % 2 ^ 64 % 4294967296 = k := by omega
  simp only [entryFields, foldFields, stepEntry, fVarint, fLen, h1]

structure WfSevSnp (s : WSevSnp) : Prop where
  svn : s.svn < 4294967296
  policy : s.policy < 18446744073709551616
  keys : ∀ p ∈ s.measurements, p.1 < 4294967296
  no_unknown : s.unknown = []

theorem foldl_mapSet (l : List (Nat × Bytes)) : ∀ (s : WSevSnp),
    l.foldl (fun s p => { s with measurements := mapSet s.measurements p.1 p.2 }) s =
      { s with measurements := l.foldl (fun a p => mapSet a p.1 p.2) s.measurements } := by
  induction l with
  | nil => intro s; simp
  | cons x xs ih => intro s; simp [ih]

/-- Unmarshal ∘ Marshal on VMSevSnp, the map entries emitted in ANY order: the result is the message
    with its map in canonical (sorted) form. -/
theorem decodeSevSnp_encodeRaw (s : WSevSnp) (hw : WfSevSnp s) (hsz : (encodeSevSnpRaw s).length < 2 ^ 64) :
    decodeSevSnp (encodeSevSnpRaw s) = some (canonSevSnp s) := by
  refine decodeInto_encode stepSevSnp .zero _ _ _ hw.no_unknown
    (shape_append (shape_optVarint 1 _)
    (shape_append (shape_map_fLen 2 (fun (p : Nat × Bytes) => encodeEntry p.1 p.2) _)
    (shape_append (shape_optBytes 3 _) (shape_append (shape_optBytes 4 _) (shape_append (shape_optVarint 5 _)
    (shape_append (shape_optBytes 6 _) (shape_optBytes 7 _))))))) hsz fun hsz => ?_
  have hentry : ∀ p ∈ s.measurements, decodeEntry (encodeEntry p.1 p.2) = some p := fun p hp =>
    decodeEntry_encode p.1 p.2 (hw.keys p hp)
      (payload_lt (sevSnpFields s) 2 _ (List.mem_append_right _ (List.mem_append_left _
        (List.mem_map_of_mem (f := fun p : Nat × Bytes => fLen 2 (encodeEntry p.1 p.2)) hp))) hsz)
  rw [← List.append_nil (sevSnpFields s), sevSnpFields]
  simp only [List.append_assoc]
  refine (foldFields_optVarint stepSevSnp 1 _ _ (fun m x => { m with svn := x % 4294967296 }) _ rfl rfl).trans ?_
  refine (foldFields_repeated stepSevSnp 2 (fun p : Nat × Bytes => encodeEntry p.1 p.2) decodeEntry
    (fun m p => { m with measurements := mapSet m.measurements p.1 p.2 }) s.measurements
    (fun m q p hd => by simp only [stepSevSnp, fLen, hd]) hentry _ _).trans ?_
  rw [foldl_mapSet]
  refine (foldFields_optBytes stepSevSnp 3 _ _ (fun m p => { m with familyId := p }) _ rfl rfl).trans ?_
  refine (foldFields_optBytes stepSevSnp 4 _ _ (fun m p => { m with imageId := p }) _ rfl rfl).trans ?_
  refine (foldFields_optVarint stepSevSnp 5 _ _ (fun m x => { m with policy := x % 18446744073709551616 }) _
    rfl rfl).trans ?_
  refine (foldFields_optBytes stepSevSnp 6 _ _ (fun m p => { m with caBundle := p }) _ rfl rfl).trans ?_
  refine (foldFields_optBytes stepSevSnp 7 _ _ (fun m p => { m with svsmMeasurement := p }) _ rfl rfl).trans ?_
  have h1 : s.svn % 2 ^ 64 % 4294967296 = s.svn := by have := hw.svn; omega
  have h5 : s.policy % 2 ^ 64 % 18446744073709551616 = s.policy := by have := hw.policy; omega
  dsimp only [WSevSnp.zero, foldFields]
  rw [h1, h5, ← hw.no_unknown]
  rfl

structure WfGolden (g : WGolden) : Prop where
  clSpec : g.clSpec < 18446744073709551616
  timestamp : ∀ t, g.timestamp = some t → WfTimestamp t
  sevSnp : ∀ s, g.sevSnp = some s → WfSevSnp s
  tdx : ∀ d, g.tdx = some d → WfTdx d
  no_unknown : g.unknown = []

/-- Unmarshal ∘ Marshal on VMGoldenMeasurement (proto.Marshal: the SEV-SNP measurement map emitted in
    whatever order the list has): the message, its map in canonical form. -/
theorem decodeGolden_encodeRaw (g : WGolden) (hw : WfGolden g) (hsz : (encodeGoldenRaw g).length < 2 ^ 64) :
    decodeGolden (encodeGoldenRaw g) = some (canonGolden g) := by
  refine decodeInto_encode stepGolden .zero _ _ _ hw.no_unknown
    (shape_append (shape_optMsg 1 _) (shape_append (shape_optVarint 2 _) (shape_append (shape_optBytes 3 _)
    (shape_append (shape_optBytes 4 _) (shape_append (shape_optBytes 5 _) (shape_append (shape_optBytes 6 _)
    (shape_append (shape_optMsg 7 _) (shape_optMsg 8 _)))))))) hsz fun hsz => ?_
  rw [← List.append_nil (goldenFields g), goldenFields]
  simp only [List.append_assoc]
  refine (foldFields_optMsg stepGolden 1 encodeTimestamp decodeTimestamp g.timestamp g.timestamp _
    (fun m y => { m with timestamp := y }) _
    (fun q t hd => by
      simp only [stepGolden, fLen, WGolden.zero, Option.getD_none, show decodeTimestampInto .zero q = some t from hd])
    (fun t ht => ⟨t, decodeTimestamp_encode t (hw.timestamp t ht), ht⟩) (fun hn => by rw [hn]; rfl)).trans ?_
  refine (foldFields_optVarint stepGolden 2 _ _ (fun m x => { m with clSpec := x % 18446744073709551616 }) _
    rfl rfl).trans ?_
  refine (foldFields_optBytes stepGolden 3 _ _ (fun m p => { m with commit := p }) _ rfl rfl).trans ?_
  refine (foldFields_optBytes stepGolden 4 _ _ (fun m p => { m with cert := p }) _ rfl rfl).trans ?_
  refine (foldFields_optBytes stepGolden 5 _ _ (fun m p => { m with digest := p }) _ rfl rfl).trans ?_
  refine (foldFields_optBytes stepGolden 6 _ _ (fun m p => { m with caBundle := p }) _ rfl rfl).trans ?_
  -- the state as one record literal: through six nested `{ … with … }` the `rfl`s of the next two steps do not finish
  dsimp only [WGolden.zero]
  refine (foldFields_optMsg stepGolden 7 encodeSevSnpRaw decodeSevSnp g.sevSnp (g.sevSnp.map canonSevSnp) _
    (fun m y => { m with sevSnp := y }) _
    (fun q t hd => by
      simp only [stepGolden, fLen, WGolden.zero, Option.getD_none, show decodeSevSnpInto .zero q = some t from hd])
    (fun s hs => ⟨_, decodeSevSnp_encodeRaw s (hw.sevSnp s hs)
      (payload_lt (goldenFields g) 7 _ (by simp [goldenFields, hs, optMsg]) hsz), by rw [hs]; rfl⟩)
    (fun hn => by rw [hn]; rfl)).trans ?_
  refine (foldFields_optMsg stepGolden 8 encodeTdx decodeTdx g.tdx g.tdx _ (fun m y => { m with tdx := y }) _
    (fun q t hd => by
      simp only [stepGolden, fLen, WGolden.zero, Option.getD_none, show decodeTdxInto .zero q = some t from hd])
    (fun d hd => ⟨d, decodeTdx_encode d (hw.tdx d hd)
      (payload_lt (goldenFields g) 8 _ (by simp [goldenFields, hd, optMsg]) hsz), hd⟩) (fun hn => by rw [hn])).trans ?_
  have h2 : g.clSpec % 2 ^ 64 % 18446744073709551616 = g.clSpec := by have := hw.clSpec; omega
  dsimp only [foldFields]
  rw [h2, ← hw.no_unknown]
  rfl

structure WfEndorsement (e : WEndorsement) : Prop where
  no_unknown : e.unknown = []

theorem endorsementFields_shape (e : WEndorsement) : ∀ f ∈ endorsementFields e, f.Shape :=
  shape_append (shape_optBytes 1 _) (shape_optBytes 2 _)

theorem decodeEndorsement_encode (e : WEndorsement) (hw : WfEndorsement e)
    (hsz : (encodeEndorsement e).length < 2 ^ 64) : decodeEndorsement (encodeEndorsement e) = some e := by
  refine decodeInto_encode stepEndorsement .zero e _ _ hw.no_unknown (endorsementFields_shape e) hsz
    fun _ => ?_
  rw [← List.append_nil (endorsementFields e), endorsementFields, List.append_assoc]
  refine (foldFields_optBytes stepEndorsement 1 _ _ (fun m p => { m with serializedUefiGolden := p }) _
    rfl rfl).trans ?_
  refine (foldFields_optBytes stepEndorsement 2 _ _ (fun m p => { m with signature := p }) _ rfl rfl).trans ?_
  dsimp only [WEndorsement.zero, foldFields]
  rw [← hw.no_unknown]

end GceTcb.ProtoWire
