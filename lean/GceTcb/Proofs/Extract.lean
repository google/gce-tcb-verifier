import GceTcb.Model.Extract
/-
Helper lemmas for C16 (names, URLs, extraction decision logic, path confinement). Core-only.
-/
namespace GceTcb.Extract
open GceTcb

theorem hexDigit_inj : ∀ m < 16, ∀ n < 16, hexDigit m = hexDigit n → m = n := by decide +kernel

theorem hexEncode_toList (bs : Bytes) :
    (hexEncode bs).toList = bs.flatMap (fun b => [hexDigit (b.toNat / 16), hexDigit (b.toNat % 16)]) := by
  simp [hexEncode, hexByte, String.toList_join, List.flatMap_map]

theorem byte_of_nibbles (a b : UInt8) (h1 : hexDigit (a.toNat / 16) = hexDigit (b.toNat / 16))
    (h2 : hexDigit (a.toNat % 16) = hexDigit (b.toNat % 16)) : a = b := by
  have lt (x : UInt8) : x.toNat / 16 < 16 := Nat.div_lt_of_lt_mul x.toNat_lt
  have e1 := hexDigit_inj _ (lt a) _ (lt b) h1
  have e2 := hexDigit_inj _ (Nat.mod_lt _ (by decide)) _ (Nat.mod_lt _ (by decide)) h2
  apply UInt8.toNat_inj.mp
  rw [← Nat.div_add_mod a.toNat 16, ← Nat.div_add_mod b.toNat 16, e1, e2]

theorem hex_injective (a b : Bytes) (h : hexEncode a = hexEncode b) : a = b := by
  have h' : (hexEncode a).toList = (hexEncode b).toList := by rw [h]
  rw [hexEncode_toList, hexEncode_toList] at h'
  clear h
  induction a generalizing b with
  | nil =>
    cases b with
    | nil => rfl
    | cons y ys => simp at h'
  | cons x xs ih =>
    cases b with
    | nil => simp at h'
    | cons y ys =>
      simp only [List.flatMap_cons, List.cons_append, List.nil_append, List.cons.injEq] at h'
      obtain ⟨h1, h2, h3⟩ := h'
      rw [byte_of_nibbles x y h1 h2, ih ys h3]

theorem hexEncode_length (bs : Bytes) : (hexEncode bs).toList.length = 2 * bs.length := by
  simp [hexEncode_toList, List.length_flatMap, List.map_const', Nat.mul_comm]

theorem split_at_sep {α : Type} (c : α) :
    ∀ (l1 l2 r1 r2 : List α), c ∉ l1 → c ∉ l2 → l1 ++ c :: r1 = l2 ++ c :: r2 → l1 = l2 ∧ r1 = r2 := by
  intro l1
  induction l1 with
  | nil =>
    intro l2 r1 r2 _ h2 h
    cases l2 with
    | nil => simpa using h
    | cons y ys =>
      simp only [List.nil_append, List.cons_append, List.cons.injEq] at h
      exact absurd (h.1 ▸ List.mem_cons_self) h2
  | cons x xs ih =>
    intro l2 r1 r2 h1 h2 h
    cases l2 with
    | nil =>
      simp only [List.nil_append, List.cons_append, List.cons.injEq] at h
      exact absurd (h.1 ▸ List.mem_cons_self) h1
    | cons y ys =>
      simp only [List.cons_append, List.cons.injEq] at h
      have := ih ys r1 r2 (fun hm => h1 (List.mem_cons_of_mem _ hm)) (fun hm => h2 (List.mem_cons_of_mem _ hm)) h.2
      exact ⟨by rw [h.1, this.1], this.2⟩

theorem objectName_toList (p t e : String) (m : Bytes) :
    (objectName p t e m).toList = p.toList ++ '/' :: (t.toList ++ '/' :: ((hexEncode m).toList ++ e.toList)) := by
  simp [objectName, String.toList_append]

theorem objectName_injective (p t e : String) (a b : Bytes) (h : objectName p t e a = objectName p t e b) : a = b := by
  unfold objectName at h
  exact hex_injective a b ((String.append_right_inj _).mp ((String.append_left_inj e).mp h))

theorem objectName_prefix_separated (p1 p2 t1 t2 e1 e2 : String) (a b : Bytes)
    (hp1 : '/' ∉ p1.toList) (hp2 : '/' ∉ p2.toList) (hne : p1 ≠ p2) :
    objectName p1 t1 e1 a ≠ objectName p2 t2 e2 b := by
  intro h
  have h' := congrArg String.toList h
  rw [objectName_toList, objectName_toList] at h'
  exact hne (String.toList_inj.mp (split_at_sep '/' _ _ _ _ hp1 hp2 h').1)

theorem objectName_tech_separated (p t1 t2 e1 e2 : String) (a b : Bytes)
    (hp : '/' ∉ p.toList) (ht1 : '/' ∉ t1.toList) (ht2 : '/' ∉ t2.toList) (hne : t1 ≠ t2) :
    objectName p t1 e1 a ≠ objectName p t2 e2 b := by
  intro h
  have h' := congrArg String.toList h
  rw [objectName_toList, objectName_toList] at h'
  have h2 := (split_at_sep '/' _ _ _ _ hp hp h').2
  exact hne (String.toList_inj.mp (split_at_sep '/' _ _ _ _ ht1 ht2 h2).1)

theorem gceTcbURL_injective (a b : String) (h : gceTcbURL a = gceTcbURL b) : a = b :=
  (String.append_right_inj _).mp h

theorem objectName_ne_empty (p t e : String) (m : Bytes) : objectName p t e m ≠ "" := by
  intro h
  have h' := congrArg String.toList h
  rw [objectName_toList] at h'
  simp at h'

theorem selectEventBy_sound (prec : List Nat) (mfr : Bytes) (evs : List LogEvent) (e : RimEvent)
    (h : selectEventBy prec mfr evs = some e) :
    e ∈ rimEvents evs ∧ manufacturerMatches mfr e = true ∧ e.locType ∈ prec := by
  unfold selectEventBy at h
  obtain ⟨t, ht, hf⟩ := List.exists_of_findSome?_eq_some h
  have hm := List.mem_of_find?_eq_some hf
  have hp := List.find?_some hf
  rw [List.mem_filter] at hm
  refine ⟨hm.1, hp, ?_⟩
  have : e.locType = t := by simpa using hm.2
  rw [this]; exact ht

theorem selectEventBy_head (t : Nat) (rest : List Nat) (mfr : Bytes) (evs : List LogEvent) (e : RimEvent)
    (h : ((rimEvents evs).filter (fun x => x.locType == t)).find? (manufacturerMatches mfr) = some e) :
    selectEventBy (t :: rest) mfr evs = some e := by
  simp only [selectEventBy, List.findSome?_cons, h]

theorem selectEventBy_skip (t : Nat) (rest : List Nat) (mfr : Bytes) (evs : List LogEvent)
    (h : ((rimEvents evs).filter (fun x => x.locType == t)).find? (manufacturerMatches mfr) = none) :
    selectEventBy (t :: rest) mfr evs = selectEventBy rest mfr evs := by
  simp only [selectEventBy, List.findSome?_cons, h]

theorem selectEventBy_append (p q : List Nat) (mfr : Bytes) (evs : List LogEvent) :
    selectEventBy (p ++ q) mfr evs = (selectEventBy p mfr evs).or (selectEventBy q mfr evs) :=
  List.findSome?_append

theorem varBasename_ok (env : Env) (root : String) (g n : Bytes) (p : String) (h : varBasename env root g n = .ok p) :
    ∃ u, env.secureJoin root u = some p := by
  unfold varBasename at h
  split at h
  · split at h
    · next q hj => cases h; exact ⟨_, hj⟩
    · cases h
  · cases h
  · cases h

theorem readVariable_effects (env : Env) (root : String) (g n : Bytes) :
    (readVariable env root g n).urls = [] ∧ (readVariable env root g n).provCalls = 0 ∧
      ∀ p ∈ (readVariable env root g n).paths, ∃ u, env.secureJoin root u = some p := by
  unfold readVariable
  split
  · next q hq =>
    have hp : ∀ p ∈ [q], ∃ u, env.secureJoin root u = some p := fun p hp => by
      rw [List.mem_singleton.mp hp]; exact varBasename_ok env root g n q hq
    split
    · exact ⟨rfl, rfl, hp⟩
    · split <;> exact ⟨rfl, rfl, hp⟩
  · exact ⟨rfl, rfl, nofun⟩
  · exact ⟨rfl, rfl, nofun⟩

theorem readVariable_urls (env : Env) (root : String) (g n : Bytes) : (readVariable env root g n).urls = [] :=
  (readVariable_effects env root g n).1

theorem readVariable_paths (env : Env) (root : String) (g n : Bytes) (p : String)
    (hp : p ∈ (readVariable env root g n).paths) :
    ∃ u, env.secureJoin root u = some p :=
  (readVariable_effects env root g n).2.2 p hp

theorem fromQuote_name (t : Option Tee) (b : Bytes) (n : String) (h : fromQuote t = some (b, some n)) :
    ∃ tee, t = some tee ∧ (teeMeasurement tee).length = 48 ∧ n = teeObjectName tee := by
  rcases t with _ | ⟨m, x⟩ | m
  · nomatch h
  all_goals
    simp only [fromQuote, Option.some.injEq, Prod.mk.injEq, Option.ite_none_right_eq_some] at h
    exact ⟨_, rfl, h.2.1, h.2.2.symm⟩

/-- `rootWhenNoName := false` is the code as the repository has it. -/
theorem fetchPhase_shape (env : Env) (o : Options) (name : Option String) (urls : List Url) (paths : List String) (pv : Nat) :
    (fetchPhase false env o name urls paths pv).urls = urls ∨
    (∃ n, name = some n ∧ o.hasGetter = true ∧
      (fetchPhase false env o name urls paths pv).urls = urls ++ [.derived (gceTcbURL n)]) := by
  unfold fetchPhase
  by_cases hg : o.hasGetter = true
  · rw [if_pos hg]
    cases name with
    | none => exact Or.inl rfl
    | some n =>
      right
      refine ⟨n, rfl, hg, ?_⟩
      simp only [Bool.false_eq_true, if_false]
      cases env.get (.derived (gceTcbURL n)) <;> rfl
  · rw [if_neg hg]; exact Or.inl rfl

theorem fetchPhase_paths (b : Bool) (env : Env) (o : Options) (name : Option String) (urls : List Url) (paths : List String) (pv : Nat) :
    (fetchPhase b env o name urls paths pv).paths = paths := by
  unfold fetchPhase
  split
  · split
    · rfl
    · split <;> rfl
  · rfl

theorem providerPhase_paths (fq : Option Tee → Option (Bytes × Option String)) (b : Bool) (env : Env) (o : Options)
    (p : Option (Option Tee)) (urls : List Url) (paths : List String) :
    (providerPhase fq b env o p urls paths).paths = paths := by
  unfold providerPhase
  split
  · rfl
  · split
    · rfl
    · split
      · rfl
      · exact fetchPhase_paths ..

theorem quotePhase_paths (fq : Option Tee → Option (Bytes × Option String)) (b : Bool) (env : Env) (o : Options)
    (urls : List Url) (paths : List String) :
    (quotePhase fq b env o urls paths).paths = paths := by
  unfold quotePhase
  split
  · split
    · rfl
    · exact fetchPhase_paths ..
  · split
    · rfl
    · split
      · exact providerPhase_paths ..
      · exact fetchPhase_paths ..
  · split
    · exact providerPhase_paths ..
    · exact fetchPhase_paths ..

/-- `r` requested nothing beyond `urls`, or in addition the ONE URL derived from the object name of the supplied or
    the provided quote, whose measurement is then 48 bytes long. -/
def AtMostDerived (o : Options) (urls : List Url) (r : Res) : Prop :=
  r.urls = urls ∨
  ∃ tee, (o.quote = some tee ∨ o.provider = some (some (some tee))) ∧ (teeMeasurement tee).length = 48 ∧
    o.hasGetter = true ∧ r.urls = urls ++ [.derived (gceTcbURL (teeObjectName tee))]

theorem fetchPhase_urls (env : Env) (o : Options) (urls : List Url) (paths : List String) (t : Option Tee) (b : Bytes)
    (name : Option String) (pv : Nat) (hq : fromQuote t = some (b, name)) (hsrc : o.quote = t ∨ o.provider = some (some t)) :
    AtMostDerived o urls (fetchPhase false env o name urls paths pv) := by
  rcases fetchPhase_shape env o name urls paths pv with h | ⟨n, rfl, hg, hu⟩
  · exact Or.inl h
  · obtain ⟨tee, rfl, hl, rfl⟩ := fromQuote_name t b n hq
    exact Or.inr ⟨tee, hsrc, hl, hg, hu⟩

theorem providerPhase_urls (env : Env) (o : Options) (urls : List Url) (paths : List String) (p : Option (Option Tee))
    (hp : o.provider = some p) : AtMostDerived o urls (providerPhase fromQuote false env o p urls paths) := by
  unfold providerPhase
  cases p with
  | none => exact Or.inl rfl
  | some t =>
    simp only
    cases hq : fromQuote t with
    | none => exact Or.inl rfl
    | some bn =>
      obtain ⟨b, name⟩ := bn
      simp only
      split
      · exact Or.inl rfl
      · exact fetchPhase_urls env o urls paths t b name 1 hq (Or.inr hp)

/-- `AtMostDerived o urls _`, spelled out. -/
theorem quotePhase_urls (env : Env) (o : Options) (urls : List Url) (paths : List String) :
    (quotePhase fromQuote false env o urls paths).urls = urls ∨
    ∃ tee, (o.quote = some tee ∨ o.provider = some (some (some tee))) ∧ (teeMeasurement tee).length = 48 ∧
      o.hasGetter = true ∧
      (quotePhase fromQuote false env o urls paths).urls = urls ++ [.derived (gceTcbURL (teeObjectName tee))] := by
  have noQuote : AtMostDerived o urls (match o.provider with
      | some p => providerPhase fromQuote false env o p urls paths
      | none => fetchPhase false env o none urls paths 0) := by
    split
    · next p hp => exact providerPhase_urls env o urls paths p hp
    · rcases fetchPhase_shape env o none urls paths 0 with h | ⟨n, hn, _⟩
      · exact Or.inl h
      · cases hn
  show AtMostDerived o urls _
  unfold quotePhase
  cases hq : fromQuote o.quote with
  | none => exact noQuote
  | some bn =>
    obtain ⟨b, _ | n⟩ := bn
    · simp only
      split
      · exact Or.inl rfl
      · exact noQuote
    · simp only
      split
      · exact Or.inl rfl
      · exact fetchPhase_urls env o urls paths o.quote b (some n) 0 hq (Or.inl rfl)

theorem mem_quotePhase_urls (env : Env) (o : Options) (urls : List Url) (paths : List String) (u : Url)
    (hu : u ∈ (quotePhase fromQuote false env o urls paths).urls) :
    u ∈ urls ∨ ∃ tee, (o.quote = some tee ∨ o.provider = some (some (some tee))) ∧ (teeMeasurement tee).length = 48 ∧
      u = .derived (gceTcbURL (teeObjectName tee)) := by
  rcases quotePhase_urls env o urls paths with he | ⟨tee, hsrc, hl, _, he⟩ <;> rw [he] at hu
  · exact Or.inl hu
  · exact (List.mem_append.mp hu).imp_right fun h => ⟨tee, hsrc, hl, List.mem_singleton.mp h⟩

theorem fromEventLog_cases (env : Env) (o : Options) :
    (∃ c, fromEventLog env o = { out := .err c }) ∨
    (∃ evs e, o.eventLog = some (.parsed evs) ∧ selectEvent o.manufacturer evs = some e ∧
      fromEventLog env o = locate env o e) := by
  unfold fromEventLog
  split
  · left; exact ⟨_, rfl⟩
  · left; exact ⟨_, rfl⟩
  · next evs hel =>
    split
    · next e he => right; exact ⟨evs, e, hel, he, rfl⟩
    · left; exact ⟨_, rfl⟩

theorem locate_effects (env : Env) (o : Options) (e : RimEvent) :
    (locate env o e).provCalls = 0 ∧
    ((locate env o e).urls = [] ∨
      (e.locType = Gen.Names.rimLocationURI ∧ o.hasGetter = true ∧ (locate env o e).urls = [.verbatim e.locator])) ∧
    ∀ p ∈ (locate env o e).paths, ∃ root u, o.reader = some root ∧ env.secureJoin root u = some p := by
  unfold locate
  by_cases h0 : e.locType = Gen.Names.rimLocationRaw
  · rw [if_pos h0]; exact ⟨rfl, Or.inl rfl, nofun⟩
  rw [if_neg h0]
  by_cases h1 : e.locType = Gen.Names.rimLocationURI
  · rw [if_pos h1]
    by_cases hg : o.hasGetter = true
    · rw [if_pos hg]
      cases env.get (.verbatim e.locator) <;> exact ⟨rfl, Or.inr ⟨h1, hg, rfl⟩, nofun⟩
    · rw [if_neg hg]; exact ⟨rfl, Or.inl rfl, nofun⟩
  rw [if_neg h1]
  by_cases h3 : e.locType = Gen.Names.rimLocationVariable
  · rw [if_pos h3]
    cases variableLocatorDecode e.locator with
    | none => exact ⟨rfl, Or.inl rfl, nofun⟩
    | some gn =>
      cases hr : o.reader with
      | none => exact ⟨rfl, Or.inl rfl, nofun⟩
      | some root =>
        obtain ⟨hu, hv, hp⟩ := readVariable_effects env root gn.1 gn.2
        exact ⟨hv, Or.inl hu, fun p hm => (hp p hm).elim fun u hu => ⟨root, u, rfl, hu⟩⟩
  · rw [if_neg h3]; exact ⟨rfl, Or.inl rfl, nofun⟩

theorem locate_urls (env : Env) (o : Options) (e : RimEvent) :
    (locate env o e).urls = [] ∨
    (e.locType = Gen.Names.rimLocationURI ∧ o.hasGetter = true ∧ (locate env o e).urls = [.verbatim e.locator]) :=
  (locate_effects env o e).2.1

theorem fromEventLog_provCalls (env : Env) (o : Options) : (fromEventLog env o).provCalls = 0 := by
  rcases fromEventLog_cases env o with ⟨c, h⟩ | ⟨evs, e, _, _, h⟩ <;> rw [h]
  exact (locate_effects env o e).1

theorem fromEventLog_paths (env : Env) (o : Options) (p : String) (hp : p ∈ (fromEventLog env o).paths) :
    ∃ root u, o.reader = some root ∧ env.secureJoin root u = some p := by
  rcases fromEventLog_cases env o with ⟨c, h⟩ | ⟨evs, e, _, _, h⟩ <;> rw [h] at hp
  · cases hp
  · exact (locate_effects env o e).2.2 p hp

theorem endorsementWith_paths (fq : Option Tee → Option (Bytes × Option String)) (b : Bool) (env : Env) (o : Options)
    (p : String) (hp : p ∈ (endorsementWith fq b env o).paths) : p ∈ (fromEventLog env o).paths := by
  unfold endorsementWith at hp
  split at hp
  · split at hp
    · exact hp
    · exact hp
    · rw [quotePhase_paths] at hp; exact hp
  · rw [quotePhase_paths] at hp; simp at hp

end GceTcb.Extract
