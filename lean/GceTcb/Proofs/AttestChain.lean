import GceTcb.Model.AttestChain
import GceTcb.Proofs.HexB64
/- Lemmas for Props/C16Wire: the certificate-table parser on a well-formed table (`TableOk`; what abi.CertTable.Marshal
   lays out is one), the chain of extract.Attestation past the protobuf attempts, and that no raw decoder panics. -/
namespace GceTcb.AttestChain
open GceTcb GceTcb.Codec GceTcb.DecTotal

/-- A well-formed certificate table: `hs` header entries, the all-zero terminator, then `body`; every entry
    names a range behind the header and inside the table, the ranges together are not longer than the
    table (they need not be adjacent, ordered or disjoint from padding), the table is shorter than 4 GiB. -/
structure TableOk (table : Bytes) (hs : List Hdr) (body : Bytes) : Prop where
  shape : table = hdrBytes hs ++ (zeros entrySize ++ body)
  guid16 : ∀ h ∈ hs, h.guid.length = 16
  offLo : ∀ h ∈ hs, (hs.length + 1) * entrySize ≤ h.off
  inRange : ∀ h ∈ hs, h.off + h.len ≤ table.length
  total : (hs.map (·.len)).sum ≤ table.length
  small : table.length < u32

/-- the entries go-sev-guest reads from it -/
def entriesOf (table : Bytes) (hs : List Hdr) : List (Bytes × Bytes) :=
  hs.map (fun h => (h.guid, (table.drop h.off).take h.len))

theorem le32_length (n : Nat) : (le32 n).length = 4 := leBytes_length 4 n

theorem zeros_length (n : Nat) : (zeros n).length = n := List.length_replicate

theorem readHdr_entry (g : Bytes) (off len : Nat) (rest : Bytes) (hg : g.length = 16) (ho : off < u32) (hl : len < u32) :
    readHdr (g ++ (le32 off ++ (le32 len ++ rest))) = ⟨g, off, len⟩ := by
  have v (n : Nat) (h : n < u32) : leVal (le32 n) = n := leVal_leBytes_of_lt 4 n h
  simp [readHdr, leU32, List.drop_append, hg, le32_length, v _ ho, v _ hl,
    List.drop_eq_nil_of_le (show g.length ≤ 20 by omega)]

theorem entry_drop (g : Bytes) (off len : Nat) (rest : Bytes) (hg : g.length = 16) :
    (g ++ (le32 off ++ (le32 len ++ rest))).drop entrySize = rest := by
  rw [← List.append_assoc, ← List.append_assoc]
  exact List.drop_left' (by simp only [List.length_append, hg, le32_length, entrySize])

theorem hdrBytes_length (hs : List Hdr) (hg : ∀ h ∈ hs, h.guid.length = 16) :
    (hdrBytes hs).length = hs.length * entrySize := by
  induction hs with
  | nil => rfl
  | cons h rest ih =>
    obtain ⟨h16, hr⟩ := List.forall_mem_cons.mp hg
    simp only [hdrBytes, List.length_append, le32_length, h16, ih hr, List.length_cons, entrySize]; omega

theorem readHdr_take (s : Bytes) : readHdr (s.take entrySize) = readHdr s := by
  simp [readHdr, leU32, List.take_take, List.drop_take, entrySize]

theorem readHdr_append (s z : Bytes) (h : entrySize ≤ s.length) : readHdr (s ++ z) = readHdr s := by
  rw [← readHdr_take, List.take_append_of_le_length h, readHdr_take]

theorem readHdr_zeros (body : Bytes) : (readHdr (zeros entrySize ++ body)).isZero = true := by
  rw [readHdr_append _ _ (Nat.le_of_eq (zeros_length _).symm)]; decide +kernel

theorem headerLoop_succ (f : Nat) (s : Bytes) (hl : entrySize ≤ s.length) :
    headerLoop (f + 1) s =
      if (readHdr s).isZero then some [] else (headerLoop f (s.drop entrySize)).map (readHdr s :: ·) := by
  rw [headerLoop, if_neg (Nat.not_lt.mpr hl)]
  split
  · rfl
  · cases headerLoop f (s.drop entrySize) <;> rfl

theorem headerLoop_some {f : Nat} {s : Bytes} {es : List Hdr} (h : headerLoop (f + 1) s = some es) :
    entrySize ≤ s.length ∧
      (((readHdr s).isZero = true ∧ es = []) ∨
       ((readHdr s).isZero = false ∧ ∃ r, headerLoop f (s.drop entrySize) = some r ∧ es = readHdr s :: r)) := by
  have hl : entrySize ≤ s.length := Nat.le_of_not_lt fun hl => by rw [headerLoop, if_pos hl] at h; cases h
  rw [headerLoop_succ f s hl] at h
  refine ⟨hl, ?_⟩
  cases hz : (readHdr s).isZero <;> rw [hz] at h
  · obtain ⟨r, hr, rfl⟩ := Option.map_eq_some_iff.mp h
    exact .inr ⟨rfl, r, hr, rfl⟩
  · exact .inl ⟨rfl, (Option.some.inj h).symm⟩

theorem headerLoop_wellformed (body : Bytes) : ∀ (hs : List Hdr) (fuel : Nat), hs.length < fuel →
    (∀ h ∈ hs, h.guid.length = 16 ∧ 0 < h.off ∧ h.off + h.len < u32) →
    headerLoop fuel (hdrBytes hs ++ (zeros entrySize ++ body)) = some hs
  | _, 0, hf, _ => absurd hf (Nat.not_lt_zero _)
  | [], f + 1, _, _ => by
    rw [hdrBytes, List.nil_append, headerLoop_succ _ _ (by rw [List.length_append, zeros_length]; omega), readHdr_zeros]
    rfl
  | h :: rest, f + 1, hf, hh => by
    obtain ⟨⟨hg, hp, hlt⟩, hr⟩ := List.forall_mem_cons.mp hh
    have hnz : (Hdr.isZero ⟨h.guid, h.off, h.len⟩) = false := by
      simp only [Hdr.isZero, beq_eq_false_iff_ne.mpr (Nat.ne_of_gt hp), Bool.false_and]
    simp only [hdrBytes, List.append_assoc]
    rw [headerLoop_succ _ _ (by simp only [List.length_append, hg, le32_length, entrySize]; omega),
      readHdr_entry _ _ _ _ hg (Nat.lt_of_le_of_lt (Nat.le_add_right _ _) hlt)
        (Nat.lt_of_le_of_lt (Nat.le_add_left _ _) hlt),
      hnz, entry_drop _ _ _ _ hg, headerLoop_wellformed body rest f (Nat.lt_of_succ_lt_succ hf) hr]
    rfl

theorem headerLoop_mono (z : Bytes) (k : Nat) : ∀ (f : Nat) (s : Bytes) (es : List Hdr),
    headerLoop f s = some es → headerLoop (f + k) (s ++ z) = some es
  | 0, _, _, h => by cases h
  | f + 1, s, es, h => by
    obtain ⟨hl, ⟨hz, rfl⟩ | ⟨hz, r, hr, rfl⟩⟩ := headerLoop_some h
    all_goals
      rw [Nat.add_right_comm, headerLoop_succ _ _ (by rw [List.length_append]; omega),
        readHdr_append s z hl, hz]
    · rfl
    · rw [List.drop_append_of_le_length hl, headerLoop_mono z k f _ r hr]; rfl

/-- extractsev.CheckCertTable's loop at one entry -/
theorem checkRanges_cons (n total : Nat) (e : Hdr) (rest : List Hdr) :
    checkRanges n total (e :: rest) = true ↔
      e.off + e.len ≤ n ∧ e.off + e.len < u32 ∧ total + e.len ≤ n ∧ checkRanges n (total + e.len) rest = true := by
  simp only [checkRanges, Bool.if_false_left, Bool.and_eq_true, Bool.not_eq_true', decide_eq_false_iff_not, u32,
    Nat.not_lt, Nat.lt_succ_iff]

theorem checkRanges_ok (n : Nat) (hn : n < u32) : ∀ (hs : List Hdr) (total : Nat), (∀ h ∈ hs, h.off + h.len ≤ n) →
    total + (hs.map (·.len)).sum ≤ n → checkRanges n total hs = true
  | [], _, _, _ => rfl
  | h :: rest, total, hr, ht => by
    obtain ⟨h1, hr⟩ := List.forall_mem_cons.mp hr
    simp only [List.map_cons, List.sum_cons] at ht
    exact (checkRanges_cons ..).mpr ⟨h1, by omega, by omega, checkRanges_ok n hn rest _ hr (by omega)⟩

theorem checkRanges_sound (n : Nat) : ∀ (hs : List Hdr) (total : Nat), checkRanges n total hs = true →
    ∀ h ∈ hs, h.off + h.len ≤ n ∧ h.off + h.len < u32
  | e :: rest, total, hc, h, hh => by
    obtain ⟨h1, h2, _, hc⟩ := (checkRanges_cons ..).mp hc
    rcases List.mem_cons.mp hh with rfl | hh
    · exact ⟨h1, h2⟩
    · exact checkRanges_sound n rest _ hc h hh

/-- ranges that the check lets through: abi.CertTable.Unmarshal slices them out as they are (no bound is wrapped), unless
    the table is 4 GiB or longer, where its 32-bit length may refuse one -/
theorem unmarshalEntries_of_ranges (t : Bytes) : ∀ (hs : List Hdr),
    (∀ h ∈ hs, h.off + h.len ≤ t.length ∧ h.off + h.len < u32) →
    unmarshalEntries t hs = .ok (entriesOf t hs) ∨ (u32 ≤ t.length ∧ unmarshalEntries t hs = .err "range")
  | [], _ => .inl rfl
  | e :: rest, hr => by
    obtain ⟨⟨h1, h2⟩, hr⟩ := List.forall_mem_cons.mp hr
    rw [unmarshalEntries, entryBlob, Nat.mod_eq_of_lt h2, if_neg (show ¬ e.off > e.off + e.len by omega)]
    by_cases hc : e.off + e.len > t.length % u32
    · rw [if_pos hc]
      exact .inr ⟨Nat.le_of_not_lt fun hlt => by rw [Nat.mod_eq_of_lt hlt] at hc; omega, rfl⟩
    · rw [if_neg hc]
      rcases unmarshalEntries_of_ranges t rest hr with ih | ⟨hb, ih⟩ <;> rw [ih]
      · exact .inl rfl
      · exact .inr ⟨hb, rfl⟩

/-- with the repaired check in front of it abi.CertTable.Unmarshal does not slice out of range, whatever the length of
    the table (from 4 GiB on, `uint32(len(certs))` may refuse an entry) -/
theorem unmarshal_of_check (t : Bytes) (hc : checkCertTable t = true) :
    ∃ es, parseHeader t = some es ∧
      (unmarshal t = .ok (entriesOf t es) ∨ (u32 ≤ t.length ∧ unmarshal t = .err "range")) := by
  simp only [checkCertTable, unmarshal] at hc ⊢
  cases hp : parseHeader t with
  | none => rw [hp] at hc; cases hc
  | some es => rw [hp] at hc; exact ⟨es, rfl, unmarshalEntries_of_ranges t es (checkRanges_sound _ es 0 hc)⟩

theorem unmarshal_ok_of_check (t : Bytes) (hc : checkCertTable t = true) (hs : t.length < u32) :
    ∃ es, unmarshal t = .ok es := by
  obtain ⟨es, _, h | ⟨hb, _⟩⟩ := unmarshal_of_check t hc
  · exact ⟨_, h⟩
  · omega

theorem lookupLast_none (k : Bytes) : ∀ (l : List (Bytes × Bytes)), (∀ e ∈ l, e.1 ≠ k) → lookupLast l k = none
  | [], _ => rfl
  | (g, b) :: rest, h => by
    obtain ⟨hg, hr⟩ := List.forall_mem_cons.mp h
    rw [lookupLast, lookupLast_none k rest hr, beq_false_of_ne hg]
    rfl

theorem lookupLast_last (k b : Bytes) (l2 : List (Bytes × Bytes)) (h2 : ∀ e ∈ l2, e.1 ≠ k) :
    ∀ (l1 : List (Bytes × Bytes)), lookupLast (l1 ++ (k, b) :: l2) k = some b
  | [] => by rw [List.nil_append, lookupLast, lookupLast_none k l2 h2, beq_self_eq_true]; rfl
  | (g, c) :: rest => by rw [List.cons_append, lookupLast, lookupLast_last k b l2 h2 rest]

theorem lookupFirst_first (k b : Bytes) (l2 : List (Bytes × Bytes)) :
    ∀ (l1 : List (Bytes × Bytes)), (∀ e ∈ l1, e.1 ≠ k) → lookupFirst (l1 ++ (k, b) :: l2) k = some b
  | [], _ => by rw [List.nil_append, lookupFirst, beq_self_eq_true]; rfl
  | (g, c) :: rest, h => by
    obtain ⟨hg, hr⟩ := List.forall_mem_cons.mp h
    rw [List.cons_append, lookupFirst, beq_false_of_ne hg]
    exact lookupFirst_first k b l2 rest hr

theorem gce_not_amd : isAmd gceGuid = false := by decide

/-- abi.CertTable.Proto fills a map: the last entry under a GUID wins -/
theorem extrasGet_last (l1 l2 : List (Bytes × Bytes)) (b : Bytes) (h2 : ∀ e ∈ l2, e.1 ≠ gceGuid) :
    extrasGet (l1 ++ (gceGuid, b) :: l2) gceGuid = some b := by
  rw [extrasGet, gce_not_amd]
  exact lookupLast_last gceGuid b l2 h2 l1

theorem extrasGet_gce (table : Bytes) (pre post : List Hdr) (hg : Hdr) (hk : hg.guid = gceGuid)
    (hpost : ∀ h ∈ post, h.guid ≠ gceGuid) :
    extrasGet (entriesOf table (pre ++ hg :: post)) gceGuid = some ((table.drop hg.off).take hg.len) := by
  rw [entriesOf, List.map_append, List.map_cons, hk]
  exact extrasGet_last _ _ _ (List.forall_mem_map.mpr hpost)

theorem textDecode_of_zero (q : Bytes) (h : (0 : UInt8) ∈ q) : textDecode goVariant q = q := by
  simp only [textDecode, goVariant, id, HexB64.hexDecode_none_of_mem q 0 h (by decide),
    HexB64.b64Decode_none_of_mem q 0 h (by decide)]

theorem textDecode_length (q : Bytes) : (textDecode goVariant q).length ≤ q.length := by
  simp only [textDecode, goVariant, id]
  cases hh : HexB64.hexDecode q with
  | some d => have := (HexB64.hexDecode_some hh).1; simp only; omega
  | none =>
    cases hb : HexB64.b64Decode q with
    | some d => exact Nat.le_trans (HexB64.b64DecodeQ_some hb).1 (List.length_filter_le _ _)
    | none => exact Nat.le_refl _

theorem attestation_of_rejects (v : Variant) (X : Protos) (q : Bytes) (hne : q.length ≠ 0) (hp : protoRejects X q) :
    attestationWith v X q = afterProtos v X q := by
  obtain ⟨h1, h2, h3, h4⟩ := hp
  simp only [attestationWith, hne, if_false, h1, h2, afterSevAtt, h3, h4]

theorem attestation_text (X : Protos) (q : Bytes) (hne : q.length ≠ 0) (hp : protoRejects X q) :
    attestation X q = rawFormats X (textDecode goVariant q) := by
  rw [attestation, attestation_of_rejects _ X _ hne hp]
  simp only [afterProtos, goVariant, Bool.false_eq_true, if_false]

theorem attestation_raw (X : Protos) (q : Bytes) (hne : q.length ≠ 0) (hp : protoRejects X q) (hz : (0 : UInt8) ∈ q) :
    attestation X q = rawFormats X q := by
  rw [attestation_text X q hne hp, textDecode_of_zero q hz]

theorem reportMeasurement_append (report table : Bytes) (h : report.length = reportSize) :
    reportMeasurement (report ++ table) = reportMeasurement report := by
  rw [reportMeasurement, List.drop_append_of_le_length (by rw [h]; decide),
    List.take_append_of_le_length (by rw [List.length_drop, h]; decide)]
  rfl

section wellformed
variable {table : Bytes} {hs : List Hdr} {body : Bytes} (w : TableOk table hs body)
include w

theorem table_length : table.length = (hs.length + 1) * entrySize + body.length := by
  rw [w.shape]
  simp only [List.length_append, hdrBytes_length hs w.guid16, zeros_length, entrySize]; omega

theorem table_reads :
    parseHeader table = some hs ∧ checkCertTable table = true ∧ unmarshal table = .ok (entriesOf table hs) := by
  have hlen := table_length w
  have s := w.small
  simp only [entrySize, u32] at hlen s
  have hp : parseHeader table = some hs := by
    have hloop := headerLoop_wellformed body hs (table.length + 1) (by omega) fun h hh =>
      ⟨w.guid16 h hh, Nat.lt_of_lt_of_le (Nat.mul_pos (Nat.succ_pos _) (by decide)) (w.offLo h hh),
        Nat.lt_of_le_of_lt (w.inRange h hh) w.small⟩
    rw [← w.shape] at hloop
    rw [parseHeader, if_neg (by omega), hloop]
    exact if_pos (List.all_eq_true.mpr fun e he => decide_eq_true (by
      rw [Nat.mod_eq_of_lt (by simp only [entrySize, u32]; omega)]; exact w.offLo e he))
  have hc : checkCertTable table = true := by
    rw [checkCertTable, hp]
    exact checkRanges_ok _ w.small hs 0 w.inRange (by rw [Nat.zero_add]; exact w.total)
  refine ⟨hp, hc, ?_⟩
  obtain ⟨es, he, h | ⟨hb, _⟩⟩ := unmarshal_of_check table hc
  · rw [hp] at he; cases he; exact h
  · exact absurd w.small (Nat.not_lt.mpr hb)

theorem zero_mem_table : (0 : UInt8) ∈ table :=
  w.shape ▸ List.mem_append_right _ (List.mem_append_left _ (List.mem_replicate.mpr ⟨by decide, rfl⟩))

theorem rawFormats_report_table (X : Protos) {report : Bytes} (hl : report.length = reportSize)
    (ha : reportAccepted report = true) :
    rawFormats X (report ++ table) = .ok (.sevRaw (reportMeasurement report) (entriesOf table hs)) := by
  rw [← reportMeasurement_append report table hl]
  simp only [rawFormats, reportCertsToProto, ← hl, List.length_append, Nat.le_add_right, if_true, List.drop_left,
    List.take_left, (table_reads w).2.1, ha, (table_reads w).2.2]

theorem rawFormats_table (X : Protos) (hnr : reportAccepted (table.take reportSize) = false) :
    rawFormats X table = .ok (.sevRaw [0] (entriesOf table hs)) := by
  have hrep : (if reportSize ≤ table.length then table.take reportSize else table) = table.take reportSize := by
    split
    · rfl
    · exact (List.take_of_length_le (by omega)).symm
  simp only [rawFormats, reportCertsToProto, hrep, hnr, Bool.false_eq_true, if_false, tableOrTdx,
    (table_reads w).2.1, if_true, (table_reads w).2.2, ite_self]

theorem attestation_table (X : Protos) (hp : protoRejects X table) (hnr : reportAccepted (table.take reportSize) = false) :
    attestation X table = .ok (.sevRaw [0] (entriesOf table hs)) := by
  have hlen := table_length w
  rw [attestation_raw X _ (by simp only [hlen, entrySize]; omega) hp (zero_mem_table w)]
  exact rawFormats_table w X hnr

end wellformed

theorem layoutHdrs_spec : ∀ (es : List (Bytes × Bytes)) (c : Nat),
    (layoutHdrs c es).length = es.length ∧ ((layoutHdrs c es).map (·.len)).sum = (blobsOf es).length ∧
    (∀ h ∈ layoutHdrs c es, c ≤ h.off ∧ h.off + h.len ≤ c + (blobsOf es).length) ∧
    ∀ P : Bytes, P.length = c → entriesOf (P ++ blobsOf es) (layoutHdrs c es) = es
  | [], _ => ⟨rfl, rfl, nofun, fun _ _ => rfl⟩
  | (g, b) :: rest, c => by
    obtain ⟨h1, h2, h3, h4⟩ := layoutHdrs_spec rest (c + b.length)
    refine ⟨by rw [layoutHdrs, List.length_cons, h1, List.length_cons], ?_, fun h hh => ?_, fun P hP => ?_⟩
    · simp only [layoutHdrs, List.map_cons, List.sum_cons, blobsOf, List.length_append, h2]
    · simp only [blobsOf, List.length_append]
      rcases List.mem_cons.mp hh with rfl | hh
      · exact ⟨Nat.le_refl _, by simp only; omega⟩
      · obtain ⟨hlo, hhi⟩ := h3 h hh
        exact ⟨by omega, by omega⟩
    · have ih := h4 (P ++ b) (by rw [List.length_append, hP])
      subst hP
      rw [List.append_assoc, entriesOf] at ih
      simp only [layoutHdrs, blobsOf, entriesOf, List.map_cons, List.drop_left, List.take_left, ih]

theorem marshal_wellformed (es : List (Bytes × Bytes)) (hg : ∀ e ∈ es, e.1.length = 16)
    (hsmall : (marshal es).length < u32) :
    TableOk (marshal es) (layoutHdrs ((es.length + 1) * entrySize) es) (blobsOf es)
    ∧ entriesOf (marshal es) (layoutHdrs ((es.length + 1) * entrySize) es) = es := by
  obtain ⟨hn, htot, hr, hent⟩ := layoutHdrs_spec es ((es.length + 1) * entrySize)
  rw [marshal, List.append_assoc] at hsmall ⊢
  generalize layoutHdrs ((es.length + 1) * entrySize) es = hs at *
  have hg' : ∀ h ∈ hs, h.guid.length = 16 := fun h hh => hg _ (by
    rw [← hent (zeros _) (zeros_length _)]; exact List.mem_map_of_mem hh)
  have hlen : (hdrBytes hs ++ zeros entrySize).length = (es.length + 1) * entrySize := by
    rw [List.length_append, hdrBytes_length hs hg', hn, zeros_length, Nat.succ_mul]
  have hml : (hdrBytes hs ++ (zeros entrySize ++ blobsOf es)).length
      = (es.length + 1) * entrySize + (blobsOf es).length := by
    rw [← List.append_assoc, List.length_append, hlen]
  refine ⟨⟨rfl, hg', fun h hh => ?_, fun h hh => ?_, ?_, hsmall⟩, ?_⟩
  · rw [hn]; exact (hr h hh).1
  · rw [hml]; exact (hr h hh).2
  · rw [htot, hml]; omega
  · rw [← List.append_assoc]; exact hent _ hlen

/-! What a raw SEV-SNP decoder accepts holds a zero byte (an accepted report in its must-be-zero ranges, a table in its
terminator), so the text attempts leave it as it is (`textDecode_of_zero`). -/

theorem zero_mem_of_all_zero (l s : Bytes) (hsub : ∀ x ∈ l, x ∈ s) (hl : 0 < l.length) (hz : l.all (· == 0) = true) :
    (0 : UInt8) ∈ s := by
  cases l with
  | nil => cases hl
  | cons a rest => exact hsub 0 (eq_of_beq (List.all_eq_true.mp hz a List.mem_cons_self) ▸ List.mem_cons_self)

theorem zero_mem_of_headerLoop : ∀ (f : Nat) (s : Bytes) (es : List Hdr), headerLoop f s = some es → (0 : UInt8) ∈ s
  | 0, _, _, h => by cases h
  | f + 1, s, es, h => by
    obtain ⟨hl, ⟨hz, _⟩ | ⟨_, r, hr, _⟩⟩ := headerLoop_some h
    · simp only [Hdr.isZero, readHdr, Bool.and_eq_true] at hz
      apply zero_mem_of_all_zero (s.take 16) s (fun x hx => List.mem_of_mem_take hx) _ hz.2
      simp only [List.length_take, entrySize] at hl ⊢; omega
    · exact List.mem_of_mem_drop (zero_mem_of_headerLoop f _ r hr)

theorem zero_mem_of_checkCertTable (t : Bytes) (hne : t ≠ []) (h : checkCertTable t = true) : (0 : UInt8) ∈ t := by
  rw [checkCertTable, parseHeader, if_neg (fun h0 => hne (List.eq_nil_of_length_eq_zero h0))] at h
  cases hl : headerLoop (t.length + 1) t with
  | none => rw [hl] at h; cases h
  | some es => exact zero_mem_of_headerLoop _ _ es hl

theorem zero_mem_of_reportAccepted (r : Bytes) (h : reportAccepted r = true) : (0 : UInt8) ∈ r := by
  simp only [reportAccepted, Bool.and_eq_true, decide_eq_true_eq] at h
  obtain ⟨⟨⟨⟨⟨⟨⟨⟨hlen, _⟩, _⟩, hm⟩, _⟩, _⟩, _⟩, _⟩, _⟩ := h
  apply zero_mem_of_all_zero ((r.drop 0x4C).take (0x50 - 0x4C)) r
    (fun x hx => List.mem_of_mem_drop (List.mem_of_mem_take hx)) _ hm
  simp only [List.length_take, List.length_drop, reportSize] at hlen ⊢; omega

theorem rawTdx_no_panic (X : Protos) (q : Bytes) (s : String) : rawTdx X q ≠ .panic s := by
  rw [rawTdx]
  split <;> nofun

theorem tableOrTdx_no_panic (X : Protos) (q : Bytes) (s : String) : tableOrTdx X q ≠ .panic s := by
  rw [tableOrTdx]
  split
  · rename_i hc
    obtain ⟨es, _, hu | ⟨_, hu⟩⟩ := unmarshal_of_check q hc <;> rw [hu]
    · nofun
    · exact rawTdx_no_panic X q s
  · exact rawTdx_no_panic X q s

theorem rawFormats_no_panic (X : Protos) (q : Bytes) (s : String) : rawFormats X q ≠ .panic s := by
  rw [rawFormats]
  generalize hc : checkCertTable _ = c
  cases c
  · exact tableOrTdx_no_panic X q s
  cases hr : reportCertsToProto q with
  | ok a => nofun
  | err c => exact tableOrTdx_no_panic X q s
  | panic s' =>
    rw [reportCertsToProto] at hr
    generalize reportAccepted _ = acc at hr
    obtain ⟨es, _, hu | ⟨_, hu⟩⟩ := unmarshal_of_check _ hc <;> rw [hu] at hr <;> cases acc <;> cases hr

theorem afterSevAtt_no_panic (X : Protos) (q : Bytes) (s : String) : afterSevAtt goVariant X q ≠ .panic s := by
  rw [afterSevAtt]
  cases X.unmarshalReport q with
  | some r => nofun
  | none =>
    cases X.unmarshalQuoteV4 q with
    | some x => nofun
    | none =>
      rw [afterProtos, if_neg (show ¬ goVariant.rawFirst = true by decide)]
      exact rawFormats_no_panic X _ s

theorem sparseRange_eq (pre : Bytes) (k off n : Nat) (hn : off + n ≤ pre.length + k) :
    sparseRange pre off n = ((pre ++ zeros k).drop off).take n := by
  apply List.ext_getElem
  · simp only [sparseRange, List.length_map, List.length_range, List.length_take, List.length_drop,
      List.length_append, zeros_length]; omega
  · intro i h1 h2
    simp only [sparseRange, List.getElem_map, List.getElem_range, List.getElem_take, List.getElem_drop,
      List.getD_eq_getElem?_getD, List.getElem_append, zeros, List.getElem_replicate]
    split
    · rw [List.getElem?_eq_getElem]; rfl
    · rw [List.getElem?_eq_none (by omega)]; rfl

theorem unmarshalSparse_eq (pre : Bytes) (k : Nat) : ∀ (es : List Hdr), (∀ e ∈ es, e.off + e.len ≤ pre.length + k) →
    unmarshalSparse pre (pre.length + k) es = unmarshalEntries (pre ++ zeros k) es
  | [], _ => rfl
  | e :: rest, h => by
    obtain ⟨he, hr⟩ := List.forall_mem_cons.mp h
    simp only [unmarshalSparse, unmarshalEntries, entryBlobSparse, entryBlob, List.length_append, zeros_length,
      sparseRange_eq pre k e.off e.len he, unmarshalSparse_eq pre k rest hr]

end GceTcb.AttestChain
