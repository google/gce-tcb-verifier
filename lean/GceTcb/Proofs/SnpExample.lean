import GceTcb.Model.SevExample
import GceTcb.Model.SevCfg
import GceTcb.Proofs.SnpDigest
import GceTcb.Proofs.GuidTableExtra
/-
C04 — non-vacuity of the end-to-end theorem on concrete images.  Every image of Model/SevExample.lean is
`pre ++ fwOf secs`, and ExtractFromFirmware reads such an image back: GUIDed table, SEV-ES reset block and
exactly the descriptors `secs`, for every prefix and every list of up to 332 in-range descriptors
(`fwOf_parse`; the parser works from the end of the image, and the descriptor loop decodes what
`sevMetadataSectionRec.enc` wrote).  So no image is evaluated: the example (four sections in non-ascending
declared order) meets `Accepts` for every vCPU count ≥ 1, and every edit of one descriptor that realises a
malformation named in the property parses as well and is refused with the error of the stage that catches
it.  The well-founded GUID-table walk is stepped with the lemmas of Proofs/GuidTableExtra.lean; the hash stays
abstract, so no hashing is evaluated.
-/
namespace GceTcb.Proofs.SnpExample
open GceTcb GceTcb.Codec GceTcb.Codecs GceTcb.GuidTable GceTcb.SevMeta GceTcb.SevLd GceTcb.SevExample
open GceTcb.Proofs.SnpSections (Sec SectionsValid Disjoint count validateSections_ok_iff validateSections_no_panic)
open GceTcb.Proofs.SnpChain
open GceTcb.Proofs.SnpDigest (CfgIsSpec Accepts)
open GceTcb.Proofs.SnpTotal (slice_mid)
open GceTcb.Spec.SnpLaunch (launchUpdate)

/-! ### what ExtractFromFirmware reads from `pre ++ fwOf secs` -/

/-- the end of every image: the footer entry of the GUIDed table and 32 trailing bytes -/
def exFooter : Bytes := fwGuidEntryRec.enc ⟨62, footerGuid⟩ ++ List.replicate 32 0

theorem table_of (fw X : Bytes) (h : fw = X ++ (exTable ++ exFooter)) : getFwGUIDTable fw = .ok exTable := by
  subst h
  have hT : exTable.length = 44 := rfl
  have hF : exFooter.length = 50 := rfl
  have hl : (X ++ (exTable ++ exFooter)).length = X.length + 94 := by simp only [List.length_append, hT, hF]
  have hp : populateFromBytes exFooter = .ok ⟨62, footerGuid⟩ := by decide +kernel
  unfold getFwGUIDTable
  rw [if_neg (by omega), slice_mid _ _ (X ++ exTable) exFooter [] _ _ (by simp)
    (by rw [hl, List.length_append, hT]; omega) (by rw [hl, hF]; omega)]
  simp only [hp]
  rw [if_neg (by decide), if_neg (by omega), slice_mid _ _ X exTable exFooter _ _ rfl (by omega) (by omega)]

/-- what the walk collects: the reset block is met first (it is nearest to the footer) -/
def exMap : BlockMap := [(sevEsResetBlockGuid, resetBlock), (sevMetadataOffsetGuid, metaOffBlock)]

theorem ex_step1 : walkStep exTable 44 [] = .ok (22, [(sevEsResetBlockGuid, resetBlock)]) := by decide +kernel

theorem ex_step2 : walkStep exTable 22 [(sevEsResetBlockGuid, resetBlock)] = .ok (0, exMap) := by decide +kernel

theorem ex_walk : guidWalk exTable exTable.length [] = .ok exMap := by
  have hl : exTable.length = 44 := by decide
  rw [hl, guidWalk_step _ 44 [] 22 _ (by decide) ex_step1, guidWalk_step _ 22 _ 0 _ (by decide) ex_step2,
    guidWalk_zero]

theorem ex_reset : extractSevEsResetBlock exMap = .ok exRb := by decide +kernel

theorem flatMap_enc_length (secs : List Sec) : (secs.flatMap sevMetadataSectionRec.enc).length = 12 * secs.length := by
  induction secs with
  | nil => rfl
  | cons s secs ih =>
    rw [List.flatMap_cons, List.length_append, ih, Rec.enc_length, List.length_cons, Nat.mul_succ, Nat.add_comm]; rfl

/-- the descriptor loop reads back the descriptors encoded behind `A` -/
theorem readSections_enc (B : Bytes) (secs : List Sec) (hr : ∀ s ∈ secs, s.InRange) (A : Bytes) (it : Nat) (start : Int)
    (hs : start + it * 12 = A.length) :
    readSections (A ++ (secs.flatMap sevMetadataSectionRec.enc ++ B)) start secs.length it = .ok secs := by
  induction secs generalizing A it with
  | nil => rfl
  | cons s secs ih =>
    have hl : (sevMetadataSectionRec.enc s).length = 12 := Rec.enc_length _ s
    have hin := hr s List.mem_cons_self
    rw [List.length_cons, readSections, slice_mid _ _ A _ [] _ _ (by rw [List.append_nil]) hs
      (by simp only [List.length_append]; omega)]
    simp only [List.flatMap_cons, List.append_assoc]
    rw [SnpTotal.sevMetadataSectionFromBytes_eq _ (by simp only [List.length_append, hl]; omega), Rec.enc,
      decF_encF _ _ _ (sevMetadataSectionLaws.fits s hin), sevMetadataSectionLaws.of_to s hin, ← Rec.enc,
      ← List.append_assoc, ih (fun x hx => hr x (List.mem_cons_of_mem _ hx)) (A ++ sevMetadataSectionRec.enc s) (it + 1)
        (by rw [List.length_append, hl]; omega)]

theorem fwOf_eq (secs : List Sec) :
    fwOf secs = sevMetadataRec.enc ⟨sevSnpMetadataSignature, 16 + 12 * secs.length, 1, secs.length⟩ ++
      (secs.flatMap sevMetadataSectionRec.enc ++
        (List.replicate (4096 - (16 + 12 * secs.length) - 94) 0 ++ (exTable ++ exFooter))) := by
  simp only [fwOf, metaBytes, List.append_assoc]; rfl

/-- 16 + 12·332 + 94 ≤ 4096: up to 332 descriptors fit in front of the padding -/
theorem fwOf_length (secs : List Sec) (hn : secs.length ≤ 332) : (fwOf secs).length = 4096 := by
  have hT : exTable.length = 44 := rfl
  have h16 : sevMetadataRec.size = 16 := rfl
  have h18 : fwGuidEntryRec.size = 18 := rfl
  simp only [fwOf, metaBytes, List.length_append, flatMap_enc_length, List.length_replicate, Rec.enc_length, hT, h16, h18]
  omega

theorem metadata_of (pre : Bytes) (secs : List Sec) (hn : secs.length ≤ 332) (hr : ∀ s ∈ secs, s.InRange) :
    extractSevOvmfMetadata exMap (pre ++ fwOf secs) = .ok secs := by
  have hl : (pre ++ fwOf secs).length = pre.length + 4096 := by rw [List.length_append, fwOf_length secs hn]
  have hb : extractGUIDBlockFromMap exMap sevMetadataOffsetGuid 22 = .ok metaOffBlock := by decide +kernel
  have ho : SevMeta.metadataOffsetFromBytes metaOffBlock = .ok ⟨4096, ⟨22, sevMetadataOffsetGuid⟩⟩ := by decide +kernel
  have hin : SevMetadata.InRange ⟨sevSnpMetadataSignature, 16 + 12 * secs.length, 1, secs.length⟩ :=
    ⟨(by decide : sevSnpMetadataSignature < 2 ^ 32), (by omega : 16 + 12 * secs.length < 2 ^ 32), (by decide : 1 < 2 ^ 32),
      (by omega : secs.length < 2 ^ 32)⟩
  have hm : sevMetadataRec.ofVals (decF sevMetadataRec.ws (fwOf secs)) =
      ⟨sevSnpMetadataSignature, 16 + 12 * secs.length, 1, secs.length⟩ := by
    rw [fwOf_eq, Rec.enc, decF_encF _ _ _ (sevMetadataLaws.fits _ hin), sevMetadataLaws.of_to _ hin]
  unfold extractSevOvmfMetadata sevMetadataHeader
  simp only [hb, ho]
  rw [if_neg (by omega), if_neg (by decide), slice_mid _ _ pre (fwOf secs) [] _ _ (by rw [List.append_nil]) (by omega)
    (by rw [fwOf_length secs hn]; omega)]
  simp only []
  rw [SnpTotal.sevMetadataFromBytes_eq _ (by rw [fwOf_length secs hn]; decide), hm]
  simp only []
  rw [if_neg (fun h => h rfl), if_neg (by omega), if_neg (by omega), hl]
  simp only []
  rw [fwOf_eq, ← List.append_assoc]
  exact readSections_enc _ secs hr _ 0 _ (by rw [List.length_append, Rec.enc_length]; have : sevMetadataRec.size = 16 := rfl; omega)

/-- **`fwOf` round trip**: whatever precedes it, the image declaring `secs` parses to the example's reset block and `secs` -/
theorem fwOf_parse (pre : Bytes) (secs : List Sec) (hn : secs.length ≤ 332) (hr : ∀ s ∈ secs, s.InRange) :
    extractFromFirmware true true (pre ++ fwOf secs) = .ok (some exRb, some secs) := by
  unfold extractFromFirmware getFwGUIDToBlockMap
  simp only [Bool.not_true, Bool.false_eq_true, if_false, if_true]
  rw [table_of _ (pre ++ (sevMetadataRec.enc _ ++ (secs.flatMap sevMetadataSectionRec.enc ++ List.replicate _ 0)))
    (by simp only [fwOf_eq, List.append_assoc]; rfl)]
  simp only []
  rw [ex_walk]
  simp only []
  rw [ex_reset]
  simp only []
  rw [metadata_of pre secs hn hr]

/-! ### the example image -/

theorem ex_length : exFw.length = 4096 := fwOf_length exSecs (by decide)

theorem ex_parse : extractFromFirmware true true exFw = .ok (some exRb, some exSecs) :=
  fwOf_parse [] exSecs (by decide) (by decide)

theorem ex_sectionsValid : SectionsValid exSecs := by decide

/-- the example image meets `Accepts` for every vCPU count ≥ 1 (and whatever the product) -/
theorem ex_accepts (o : Opts) (hv : 1 ≤ o.vcpus) : Accepts o exFw exRb exSecs :=
  ⟨hv, ex_parse, by rw [ex_length], by rw [ex_length]; decide, ex_sectionsValid, by decide⟩

/-- an overlap is reported when the first loop and the three presence checks pass -/
theorem validateSections_overlap (secs : List Sec) (seen : List Nat) (hc : checkSections secs [] = .ok seen)
    (h1 : seen.contains kindUnmeasured = true) (h2 : seen.contains kindSecret = true) (h3 : seen.contains kindCpuid = true)
    (hl : ∀ s ∈ secs, 0 < s.length) (hov : ¬ secs.Pairwise Disjoint) : validateSections secs = .err "overlap" := by
  unfold validateSections
  have hne : secs ≠ [] := by rintro rfl; exact hov List.Pairwise.nil
  rw [if_neg hne, hc]
  simp only [h1, h2, h3, Bool.not_true, Bool.false_eq_true, if_false]
  have : overlapSorted (secs.mergeSort startLe) = true := by
    cases h : overlapSorted (secs.mergeSort startLe)
    · exact absurd ((SnpSections.overlap_mergeSort secs hl).mp h) hov
    · rfl
  rw [this]; rfl

/-- an image `fwOf secs` whose metadata validateSections or the section loop refuses is refused with that error
    (Milan, Genoa: the one-page ROM passes its check) -/
theorem rejected (secs : List Sec) (hn : secs.length ≤ 332) (hr : ∀ s ∈ secs, s.InRange) (e : String)
    (H : Bytes → Bytes) (hH : ∀ x, (H x).length = 48) (c : Cfg) (hc : CfgIsSpec c) (o : Opts)
    (hpr : o.product = 1 ∨ o.product = 2) (hv : 1 ≤ o.vcpus)
    (he : validateSections secs = .err e ∨ validateSections secs = .ok () ∧
      measureSections H (productHigh (c.width o.product)) secs (SnpAnyProduct.romDigest H (fwOf secs)) = .err e) :
    launchDigest H c o (fwOf secs) = .err e := by
  obtain ⟨hs, hw⟩ := SnpDigest.supported_of c hc _ hpr
  have hl := fwOf_length secs hn
  rw [SnpDigest.launchDigest_supported H c o _ hs]
  exact SnpAnyProduct.launchDigestOld_err H hH c o hv (fwOf secs) exRb secs (fwOf_parse [] secs hn hr) (by rw [hl]; decide) e
    (.inr ⟨(checkAlign_rom _ hw _ (by rw [hl]; decide)).mpr (by rw [hl]; decide), he⟩)

/-! ### the 8 KiB images for the theorems about a product value that is not a key of `bitWidth` -/

theorem wide_length : wideFw.length = 8192 := by
  rw [wideFw, List.length_append, List.length_replicate, fwOf_length wideSecs (by decide)]

theorem wide_parse : extractFromFirmware true true wideFw = .ok (some exRb, some wideSecs) :=
  fwOf_parse _ wideSecs (by decide) (by decide)

theorem wide_accepts (o : Opts) (hv : 1 ≤ o.vcpus) : Accepts o wideFw exRb wideSecs :=
  ⟨hv, wide_parse, by rw [wide_length], by rw [wide_length]; decide, by decide, by decide⟩

theorem twoPage_length : twoPageFw.length = 8192 := by
  rw [twoPageFw, List.length_append, List.length_replicate, ex_length]

theorem twoPage_parse : extractFromFirmware true true twoPageFw = .ok (some exRb, some exSecs) :=
  fwOf_parse _ exSecs (by decide) (by decide)

end GceTcb.Proofs.SnpExample
