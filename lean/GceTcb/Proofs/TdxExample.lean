import GceTcb.Proofs.TdxMain
import GceTcb.Proofs.GuidTableExtra
/-
C05 — non-vacuity of the end-to-end theorem: a concrete 4 KiB image (one boot firmware volume covering
the image, a TD_HOB page, two pages of temporary memory; TDX metadata located through the GUIDed table
at the end of the image) that meets `Valid` in the default and in the measure-all mode.

The readers find everything from the END of the image, so bytes put in front of an image do not change
what is read (`readTDXMetadata_pad`); only the last 200 bytes of the example are evaluated by the kernel.
The well-founded GUID-table walk is stepped with the lemmas of Proofs/GuidTableExtra.lean.  Core-only.
-/
namespace GceTcb.GuidTable
open GceTcb GceTcb.Codec GceTcb.Codecs

theorem slice_pad (site : String) (pad t : Bytes) (a b : Int) (ha : 0 ≤ a) :
    slice site (pad ++ t) (pad.length + a) (pad.length + b) = slice site t a b := by
  unfold slice
  have hc : (0 ≤ (pad.length : Int) + a ∧ (pad.length : Int) + a ≤ pad.length + b ∧
      (pad.length : Int) + b ≤ ((pad ++ t).length : Int)) ↔ (0 ≤ a ∧ a ≤ b ∧ b ≤ (t.length : Int)) := by
    rw [List.length_append]; omega
  by_cases h : 0 ≤ a ∧ a ≤ b ∧ b ≤ (t.length : Int)
  · rw [if_pos h, if_pos (hc.mpr h)]
    have e1 : ((pad.length : Int) + a).toNat = pad.length + a.toNat := by omega
    have e2 : ((pad.length : Int) + b).toNat - (pad.length + a.toNat) = b.toNat - a.toNat := by omega
    rw [e1, e2, List.drop_length_add_append]
  · rw [if_neg h, if_neg (fun h' => h (hc.mp h'))]

theorem getFwGUIDTable_pad (pad t tab : Bytes) (h : getFwGUIDTable t = .ok tab) :
    getFwGUIDTable (pad ++ t) = .ok tab := by
  unfold getFwGUIDTable at h ⊢
  have hl : ((pad ++ t).length : Int) = pad.length + t.length := by rw [List.length_append]; omega
  split at h
  · cases h
  rw [if_neg (by rw [List.length_append]; omega), hl,
    show (pad.length : Int) + t.length - 50 = pad.length + ((t.length : Int) - 50) by omega,
    slice_pad _ _ _ _ _ (by omega)]
  split at h
  · rename_i ent hs
    split at h
    · rename_i e he
      split at h
      · cases h
      rename_i hg
      rw [if_neg hg]
      split at h
      · cases h
      rename_i hsz
      rw [if_neg (by rw [List.length_append]; omega),
        show (pad.length : Int) + t.length - 32 - e.size = pad.length + ((t.length : Int) - 32 - e.size) by omega,
        show (pad.length : Int) + ((t.length : Int) - 32 - e.size) + ((e.size : Int) - 18) =
          pad.length + ((t.length : Int) - 32 - e.size + ((e.size : Int) - 18)) by omega,
        slice_pad _ _ _ _ _ (by omega)]
      exact h
    · cases h
    · cases h
  · cases h
  · cases h

theorem getFwGUIDToBlockMap_pad (pad t : Bytes) (m : BlockMap) (h : getFwGUIDToBlockMap t = .ok m) :
    getFwGUIDToBlockMap (pad ++ t) = .ok m := by
  unfold getFwGUIDToBlockMap at h ⊢
  split at h
  · rename_i tab ht
    rw [getFwGUIDTable_pad pad t tab ht]; exact h
  · cases h
  · cases h

end GceTcb.GuidTable

namespace GceTcb.TdxMeta
open GceTcb GceTcb.Codec GceTcb.Codecs GceTcb.GuidTable

theorem goSlice_pad (site : String) (pad t : Bytes) (lo hi : Nat) :
    goSlice site (pad ++ t) (pad.length + lo) (pad.length + hi) = goSlice site t lo hi := by
  unfold goSlice
  rw [Int.natCast_add, Int.natCast_add]
  exact slice_pad _ _ _ _ _ (Int.natCast_nonneg lo)

/-- the uint32 expression `len - off - 16` of extractTDXMetadata when nothing wraps -/
theorem guidOffset_of_lt (len off : Nat) (h : off + 16 ≤ len) (hl : len < 2 ^ 32) :
    (len % 2 ^ 32 + 2 ^ 32 - off + 2 ^ 32 - 16) % 2 ^ 32 = len - off - 16 := by
  rw [Nat.mod_eq_of_lt hl, show len + 2 ^ 32 - off + 2 ^ 32 - 16 = len - off - 16 + 2 ^ 32 * 2 by omega,
    Nat.add_mul_mod_self_left, Nat.mod_eq_of_lt (by omega)]

theorem locateMetadata_pad (pad t block d : Bytes) (hL : (pad ++ t).length < 2 ^ 32)
    (h : locateMetadata t block = .ok d) : locateMetadata (pad ++ t) block = .ok d := by
  unfold locateMetadata at h ⊢
  rw [List.length_append] at hL ⊢
  generalize leVal (block.take 4) = off at h ⊢
  split at h
  · cases h
  rename_i hb
  rw [if_neg hb]
  split at h
  · cases h
  rename_i ho
  have hT : t.length < 2 ^ 32 := by omega
  rw [Nat.mod_eq_of_lt (by omega)] at ho
  rw [Nat.mod_eq_of_lt (by omega), if_neg (by omega)]
  rw [guidOffset_of_lt _ off (by omega) hT, Nat.mod_eq_of_lt (by omega)] at h
  rw [guidOffset_of_lt _ off (by omega) hL, Nat.mod_eq_of_lt (by omega),
    show pad.length + t.length - off - 16 = pad.length + (t.length - off - 16) by omega,
    Nat.add_assoc, goSlice_pad "extractTDXMetadata:guid"]
  split at h
  · split at h
    · cases h
    rename_i hg
    rw [if_neg hg, goSlice_pad]; exact h
  · cases h
  · cases h

/-- what is left of readTDXMetadata once the TDX metadata offset block has been found -/
theorem readTDXMetadata_of_block (fw block : Bytes) (m : BlockMap) (hm : getFwGUIDToBlockMap fw = .ok m)
    (hb : m.lookup tdxOffsetUuid = some block) :
    readTDXMetadata fw =
      match locateMetadata fw block with
      | .ok desc =>
        match tdxMetadataFromBytes desc with
        | .ok md => .ok md
        | .err _ => .err "short"
        | .panic p => .panic p
      | .err c => .err c
      | .panic p => .panic p := by
  unfold readTDXMetadata
  rw [hm]; simp only []; rw [hb]; rfl

theorem readTDXMetadata_pad (pad t : Bytes) (md : TdxMetadata) (hL : (pad ++ t).length < 2 ^ 32)
    (h : readTDXMetadata t = .ok md) : readTDXMetadata (pad ++ t) = .ok md := by
  unfold readTDXMetadata at h ⊢
  split at h
  · rename_i m hm
    rw [getFwGUIDToBlockMap_pad pad t m hm]; simp only []
    split at h
    · cases h
    · split at h
      · rename_i desc hd
        rw [locateMetadata_pad pad t _ desc hL hd]; exact h
      · cases h
      · cases h
  · cases h
  · cases h

end GceTcb.TdxMeta

namespace GceTcb.TdxExample
open GceTcb GceTcb.Codec GceTcb.Codecs GceTcb.Intervals GceTcb.TdxMeta GceTcb.TdxHob GceTcb.Mrtd GceTcb.GuidTable

/-- descriptor (magic, length 16 + 3·32, version 1, three sections) and the sections:
    BFV = the whole image at 0xFFFFF000, measured; TD_HOB page at 0x809000; two TempMem pages at 0x80A000 -/
def exMd : TdxMetadata :=
  ⟨⟨0x46564454, 112, 1, 3⟩,
   [⟨0, 4096, 0xFFFFF000, 4096, 0, 1⟩, ⟨0, 0, 0x809000, 0x1000, 2, 0⟩, ⟨0, 0, 0x80A000, 0x2000, 3, 0⟩]⟩

/-- the GUIDed table contents: the TDX metadata offset block (offset 184 from the end, then its entry) -/
def exTable : Bytes := leBytes 4 184 ++ fwGuidEntryRec.enc ⟨22, tdxOffsetUuid⟩

/-- padding, metadata GUID, descriptor + sections, GUIDed table, footer entry, 32 trailing bytes -/
def exFw : Bytes :=
  List.replicate 3896 0 ++ uuidRec.enc tdxMetadataUuid ++ tdxMetadataEnc exMd ++
    exTable ++ fwGuidEntryRec.enc ⟨40, footerGuid⟩ ++ List.replicate 32 0

/-- the image without its zero padding -/
def exTail : Bytes :=
  uuidRec.enc tdxMetadataUuid ++ (tdxMetadataEnc exMd ++
    (exTable ++ (fwGuidEntryRec.enc ⟨40, footerGuid⟩ ++ List.replicate 32 0)))

theorem exFw_eq : exFw = List.replicate 3896 0 ++ exTail := by
  simp only [exFw, exTail, List.append_assoc]

theorem exTail_length : exTail.length = 200 := by decide +kernel

theorem ex_length : exFw.length = 4096 := by
  rw [exFw_eq, List.length_append, List.length_replicate, exTail_length]

theorem exTail_table : getFwGUIDTable exTail = .ok exTable := by decide +kernel

theorem ex_step : walkStep exTable 22 [] = .ok (0, [(tdxOffsetUuid, exTable)]) := by decide +kernel

theorem exTail_map : getFwGUIDToBlockMap exTail = .ok [(tdxOffsetUuid, exTable)] := by
  unfold getFwGUIDToBlockMap
  rw [exTail_table]
  simp only []
  have hl : exTable.length = 22 := by decide
  rw [hl, guidWalk_step _ 22 [] 0 _ (by decide) ex_step, guidWalk_zero]

theorem exTail_read : readTDXMetadata exTail = .ok exMd := by
  have hl : BlockMap.lookup [(tdxOffsetUuid, exTable)] tdxOffsetUuid = some exTable := by decide +kernel
  rw [readTDXMetadata_of_block _ _ _ exTail_map hl]
  decide +kernel

theorem ex_read : readTDXMetadata exFw = .ok exMd := by
  have hL : exFw.length < 2 ^ 32 := by rw [ex_length]; decide
  rw [exFw_eq] at hL ⊢
  exact readTDXMetadata_pad _ _ _ hL exTail_read

theorem ex_metaValid : MetaValid (exFw.length % 2 ^ 32) exMd := by
  rw [ex_length]
  exact ⟨by decide, by decide, by decide, by decide, by decide, by decide,
    ⟨_, List.mem_cons_self .., rfl⟩, by decide⟩

theorem ex_disjoint : DisjointL (exMd.sections.map gprOf) := by
  simp only [exMd, List.map_cons, List.map_nil, gprOf, DisjointL, List.pairwise_cons, List.mem_cons,
    List.not_mem_nil, or_false, Gpr.mem, forall_eq_or_imp, forall_eq]
  repeat' apply And.intro
  all_goals first | (intro x; omega) | exact List.Pairwise.nil | (intro _ hf; exact absurd hf id)

/-- the example image has valid TDVF metadata in every mode -/
theorem ex_valid (mode : Spec.Mrtd.Mode) : Valid mode exFw exMd :=
  ⟨ex_read, ex_metaValid, ex_disjoint, by decide, by decide, fun _ => by decide⟩

/-- one 16 MiB bank from address 0: it contains the TD_HOB page and the temporary memory -/
def exBanks : List Gpr := [⟨0, 0x1000000⟩]

theorem ex_banks : NoOverflow exBanks ∧ DisjointL exBanks := by
  refine ⟨?_, ?_⟩
  · intro g hg; simp only [exBanks, List.mem_cons, List.not_mem_nil, or_false] at hg; subst hg; decide
  · simp [exBanks, DisjointL]

theorem ex_stream_default :
    (Spec.Mrtd.stream .default exFw [] (exMd.sections.map metaOf)).isSome = true := by decide +kernel

theorem ex_stream_all :
    (Spec.Mrtd.stream .measureAll exFw (exBanks.map pair) (exMd.sections.map metaOf)).isSome = true := by
  decide +kernel

/-- default mode: tdx.MRTD returns the hash of the specification's stream -/
theorem ex_mrtd_default (H : Bytes → Bytes) :
    ∃ s, Spec.Mrtd.stream .default exFw [] (exMd.sections.map metaOf) = some s ∧ mrtd H {} exFw = .ok (H s) := by
  obtain ⟨s, hs⟩ := Option.isSome_iff_exists.mp ex_stream_default
  refine ⟨s, hs, ?_⟩
  have hm : modeOf {} = .default := rfl
  apply (mrtd_iff H {} exFw (H s) (fun h => absurd hm h)).mpr
  refine ⟨exMd, ex_valid _, ?_⟩
  rw [hm]
  show (Spec.Mrtd.stream .default exFw [] (exMd.sections.map metaOf)).map H = some (H s)
  rw [hs]; rfl

/-- legacy measure-all mode with a bank list: likewise -/
theorem ex_mrtd_all (H : Bytes → Bytes) :
    ∃ s, Spec.Mrtd.stream .measureAll exFw (exBanks.map pair) (exMd.sections.map metaOf) = some s ∧
      mrtd H { banks := exBanks, measureAllRegions := true } exFw = .ok (H s) := by
  obtain ⟨s, hs⟩ := Option.isSome_iff_exists.mp ex_stream_all
  refine ⟨s, hs, ?_⟩
  have hm : modeOf { banks := exBanks, measureAllRegions := true } = .measureAll := rfl
  apply (mrtd_iff H _ exFw (H s) (fun _ => ex_banks)).mpr
  refine ⟨exMd, ex_valid _, ?_⟩
  rw [hm]
  show (Spec.Mrtd.stream .measureAll exFw (exBanks.map pair) (exMd.sections.map metaOf)).map H = some (H s)
  rw [hs]; rfl

end GceTcb.TdxExample
