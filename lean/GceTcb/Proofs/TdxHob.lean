import GceTcb.Model.TdxHob
import GceTcb.Spec.TdHob
import GceTcb.Proofs.Codecs
import GceTcb.Proofs.TdxIntervals
/-
C05 — the TD hand-off block built by getTDHOBList equals the PI-specification block of Spec/TdHob.lean,
has exactly the section's size, and is refused exactly when it does not fit.  Core-only.
-/
namespace GceTcb.TdxHob
open GceTcb GceTcb.Codec GceTcb.Codecs GceTcb.Intervals GceTcb.TdxMeta

def pair (g : Gpr) : Nat × Nat := (g.start, g.len)

theorem handoff_eq_phit (e : Nat) :
    handoffWriteTo ⟨⟨1, 56⟩, 9, 0, 0, 0, 0, 0, e⟩ = Spec.TdHob.phit e := by
  simp [handoffWriteTo, Rec.enc, handoffRec, encF, Spec.TdHob.phit, Spec.TdHob.header, Spec.TdHob.u16,
    Spec.TdHob.u32, Spec.TdHob.u64, List.append_assoc]

theorem zero_owner : leBytes 4 0 ++ (leBytes 2 0 ++ (leBytes 2 0 ++ leBytes 8 (leVal (List.replicate 8 (0 : UInt8))))) =
    Spec.TdHob.zeros 16 := by decide

theorem resource_eq (rt attrs : Nat) (g : Gpr) :
    hobResource rt attrs g = Spec.TdHob.resource rt attrs g.start g.len := by
  have := zero_owner
  simp only [hobResource, resourceWriteTo, Rec.enc, resourceRec, encF, Spec.TdHob.resource, Spec.TdHob.header,
    Spec.TdHob.u16, Spec.TdHob.u32, Spec.TdHob.u64, List.append_assoc, List.append_nil] at *
  rw [← this]
  simp [List.append_assoc]

theorem end_eq : hobHeaderWriteTo ⟨0xFFFF, 8⟩ = Spec.TdHob.endMarker := by
  simp [hobHeaderWriteTo, Rec.enc, hobHeaderRec, encF, Spec.TdHob.endMarker, Spec.TdHob.header, Spec.TdHob.u16,
    Spec.TdHob.u32, List.append_assoc]

theorem attrs_eq (dea : Bool) (g : Gpr) (h : g.start + g.len < 2 ^ 64) :
    unacceptedAttrs dea g = Spec.TdHob.unacceptedAttributes dea g.start g.len := by
  unfold unacceptedAttrs Spec.TdHob.unacceptedAttributes
  rw [end_of_lt h]
  rfl

/-- the bytes written before the size check are the specification's HOB list -/
theorem hobContent_eq (hob : Gpr) (priv un : List Gpr) (dea : Bool)
    (hn : 48 * (un.length + priv.length) + 56 < 2 ^ 32)
    (hb : hob.start + 56 + 48 * (un.length + priv.length) < 2 ^ 64)
    (hun : NoOverflow un) :
    hobContent hob priv un dea = Spec.TdHob.hobList hob.start (priv.map pair) (un.map pair) dea := by
  have e1 : (hob.start % 2 ^ 64 + (56 + 48 * (un.length + priv.length) % 2 ^ 32) % 2 ^ 32) % 2 ^ 64
      = hob.start + 56 + 48 * (priv.length + un.length) := by
    rw [Nat.mod_eq_of_lt (by omega : 48 * (un.length + priv.length) < 2 ^ 32),
      Nat.mod_eq_of_lt (by omega : 56 + 48 * (un.length + priv.length) < 2 ^ 32),
      Nat.mod_eq_of_lt (by omega : hob.start < 2 ^ 64), Nat.mod_eq_of_lt (by omega)]
    omega
  simp only [hobContent, Spec.TdHob.hobList, List.length_map, List.flatMap_map, pair, e1, handoff_eq_phit, end_eq]
  congr 2
  · congr 1
    exact flatMap_congr_mem _ fun g _ => resource_eq 0 baseAttrs g
  · exact flatMap_congr_mem _ fun g hg => by rw [resource_eq, attrs_eq dea g (hun g hg)]; rfl

theorem resource_length (rt attrs : Nat) (g : Gpr) : (hobResource rt attrs g).length = 48 :=
  Rec.enc_length resourceRec _

theorem flatMap_length_const {α : Type} (f : α → Bytes) (k : Nat) (l : List α) (h : ∀ a, (f a).length = k) :
    (l.flatMap f).length = k * l.length := by
  simp [List.length_flatMap, h, List.map_const', Nat.mul_comm]

/-- 56-byte PHIT, 48 bytes per descriptor, 8-byte end marker -/
theorem hobContent_length (hob : Gpr) (priv un : List Gpr) (dea : Bool) :
    (hobContent hob priv un dea).length = 56 + 48 * (priv.length + un.length) + 8 := by
  have h1 : handoffRec.size = 56 := rfl
  have h2 : hobHeaderRec.size = 8 := rfl
  simp only [hobContent, List.length_append, handoffWriteTo, hobHeaderWriteTo, Rec.enc_length, h1, h2,
    flatMap_length_const _ 48 priv (resource_length 0 baseAttrs), flatMap_length_const _ 48 un (fun g => resource_length 7 _ g)]
  omega

end GceTcb.TdxHob
