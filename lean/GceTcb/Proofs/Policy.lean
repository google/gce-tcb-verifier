import GceTcb.Model.Policy
/-
For C17 and C02: what each step of the SEV policy derivation (`setPolicy`, `setMeasurement`, `addBundle`; together
`modifyPolicy`) and what `tdxPolicy` do to the base policy.
-/
namespace GceTcb.Policy
open GceTcb

/-- `q`'s trusted keys are `p`'s, extended by the CA bundle: nothing for an empty bundle; otherwise the bundle's first PEM
    block, a CERTIFICATE, as identity key and, if anything follows, one more CERTIFICATE block, the last, as author key. -/
def BundleApplied {R : Type} (pem : Pem) (bundle : Bytes) (p q : SevPolicy R) : Prop :=
  (bundle = [] ∧ q.trustedIdKeys = p.trustedIdKeys ∧ q.trustedAuthorKeys = p.trustedAuthorKeys) ∨
  (∃ idb rest, pem bundle = some ("CERTIFICATE", idb, rest) ∧
     q.trustedIdKeys = p.trustedIdKeys ++ [idb] ∧
     ((rest = [] ∧ q.trustedAuthorKeys = p.trustedAuthorKeys) ∨
      (∃ ab, pem rest = some ("CERTIFICATE", ab, []) ∧
         q.trustedAuthorKeys = p.trustedAuthorKeys ++ [ab])))

theorem addBundle_spec {R : Type} (pem : Pem) (bundle : Bytes) (p q : SevPolicy R)
    (h : addBundle pem bundle p = some q) :
    q.policy = p.policy ∧ q.measurement = p.measurement ∧ q.minimumGuestSvn = p.minimumGuestSvn ∧
    q.rest = p.rest ∧ BundleApplied pem bundle p q := by
  unfold addBundle at h
  by_cases h0 : bundle.length = 0
  · rw [if_pos h0] at h; cases h
    exact ⟨rfl, rfl, rfl, rfl, Or.inl ⟨List.eq_nil_of_length_eq_zero h0, rfl, rfl⟩⟩
  rw [if_neg h0] at h
  cases hd : pem bundle with
  | none => rw [hd] at h; cases h
  | some r =>
    obtain ⟨ty, idb, idrest⟩ := r
    simp only [hd] at h
    by_cases hty : ty = "CERTIFICATE"
    · subst hty
      rw [if_neg (fun hn => hn rfl)] at h
      by_cases hr : idrest.length = 0
      · rw [if_pos hr] at h; cases h
        exact ⟨rfl, rfl, rfl, rfl, Or.inr ⟨idb, idrest, hd, rfl, Or.inl ⟨List.eq_nil_of_length_eq_zero hr, rfl⟩⟩⟩
      rw [if_neg hr] at h
      cases hd2 : pem idrest with
      | none => rw [hd2] at h; cases h
      | some r2 =>
        obtain ⟨ty2, ab, arest⟩ := r2
        simp only [hd2] at h
        by_cases hty2 : ty2 = "CERTIFICATE"
        · subst hty2
          rw [if_neg (fun hn => hn rfl)] at h
          by_cases har : arest.length = 0
          · rw [if_neg (fun hn => hn har)] at h; cases h
            cases List.eq_nil_of_length_eq_zero har
            exact ⟨rfl, rfl, rfl, rfl, Or.inr ⟨idb, idrest, hd, rfl, Or.inr ⟨ab, hd2, rfl⟩⟩⟩
          · rw [if_pos har] at h; cases h
        · rw [if_pos hty2] at h; cases h
    · rw [if_pos hty] at h; cases h

theorem setPolicy_eq {R : Type} (s : SevSnp) (p : SevPolicy R) (ow : Bool) :
    ∃ v, setPolicy s p ow = { p with policy := v } ∧
      (ow = false ∨ p.policy = 0 → v = s.policy) ∧ (ow = true → p.policy ≠ 0 → v = p.policy) := by
  unfold setPolicy
  by_cases hc : (!ow || p.policy == 0) = true
  · rw [if_pos hc]
    exact ⟨s.policy, rfl, fun _ => rfl, fun h1 h2 => by simp [h1, h2] at hc⟩
  · rw [if_neg hc]
    simp only [Bool.or_eq_true, Bool.not_eq_true', beq_iff_eq] at hc
    exact ⟨p.policy, rfl, fun h => absurd h hc, fun _ _ => rfl⟩

theorem setMeasurement_some {R : Type} (pem : Pem) (s : SevSnp) (p q : SevPolicy R)
    (o : SevPolicyOptions R) (h : setMeasurement pem s p o = some q) :
    ∃ m, addBundle pem s.caBundle { p with measurement := m } = some q ∧
      (o.launchVmsas ≠ 0 → mlookup s.measurements o.launchVmsas = some m) ∧
      (o.launchVmsas = 0 → m = p.measurement ∧ o.allowUnspecifiedVmsas = true) := by
  unfold setMeasurement at h
  by_cases hz : o.launchVmsas = 0
  · rw [if_pos hz] at h
    cases ha : o.allowUnspecifiedVmsas with
    | false => simp [ha] at h
    | true => exact ⟨p.measurement, by simpa [ha] using h, fun hn => absurd hz hn, fun _ => ⟨rfl, rfl⟩⟩
  · rw [if_neg hz] at h
    cases hm : mlookup s.measurements o.launchVmsas with
    | none => simp [hm] at h
    | some m => exact ⟨m, by simpa [hm] using h, fun _ => rfl, fun h0 => absurd h0 hz⟩

theorem modifyPolicy_spec {R : Type} (pem : Pem) (s : SevSnp) (p q : SevPolicy R)
    (o : SevPolicyOptions R) (h : modifyPolicy pem s p o = some q) :
    ∃ v m, addBundle pem s.caBundle { p with policy := v, measurement := m } = some q ∧
      (o.overwrite = false ∨ p.policy = 0 → v = s.policy) ∧ (o.overwrite = true → p.policy ≠ 0 → v = p.policy) ∧
      (o.launchVmsas ≠ 0 → mlookup s.measurements o.launchVmsas = some m) ∧
      (o.launchVmsas = 0 → m = p.measurement ∧ o.allowUnspecifiedVmsas = true) ∧
      (o.overwrite = false → policyModificationAllowed s p o.launchVmsas = true ∧
        (p.minimumGuestSvn ≠ 0 → p.minimumGuestSvn ≤ s.svn)) := by
  unfold modifyPolicy at h
  by_cases h1 : (!o.overwrite && !(policyModificationAllowed s p o.launchVmsas)) = true
  · rw [if_pos h1] at h; cases h
  rw [if_neg h1] at h
  by_cases h2 : (!o.overwrite && (p.minimumGuestSvn ≠ 0 && s.svn < p.minimumGuestSvn)) = true
  · rw [if_pos h2] at h; cases h
  rw [if_neg h2] at h
  obtain ⟨v, hv, hv1, hv2⟩ := setPolicy_eq s p o.overwrite
  rw [hv] at h
  obtain ⟨m, hadd, hm1, hm2⟩ := setMeasurement_some pem s _ q o h
  refine ⟨v, m, hadd, hv1, hv2, hm1, hm2, fun how => ?_⟩
  simp only [how, Bool.not_false, Bool.true_and, Bool.not_eq_true', Bool.not_eq_false] at h1
  simp only [how, Bool.not_false, Bool.true_and, Bool.and_eq_true, ne_eq,
    decide_eq_true_eq, not_and, Nat.not_lt] at h2
  exact ⟨h1, h2⟩

theorem pma_policy {R : Type} (s : SevSnp) (p : SevPolicy R) (n : Nat)
    (h : policyModificationAllowed s p n = true) (hne : p.policy ≠ 0) : s.policy = p.policy := by
  unfold policyModificationAllowed at h
  by_cases hc : (p.policy ≠ 0 && p.policy ≠ s.policy) = true
  · rw [if_pos hc] at h; cases h
  · simp only [Bool.and_eq_true, ne_eq, decide_eq_true_eq, not_and, Decidable.not_not] at hc
    exact (hc hne).symm

theorem pma_measurement {R : Type} (s : SevSnp) (p : SevPolicy R) (n : Nat) (m : Bytes)
    (h : policyModificationAllowed s p n = true) (hn : n ≠ 0) (hm : mlookup s.measurements n = some m)
    (hne : p.measurement ≠ []) : m = p.measurement := by
  unfold policyModificationAllowed at h
  by_cases hc : (p.policy ≠ 0 && p.policy ≠ s.policy) = true
  · rw [if_pos hc] at h; cases h
  · rw [if_neg hc, if_pos hn, hm] at h
    unfold allowBytes at h
    have : p.measurement.length ≠ 0 := by
      intro h0; exact hne (List.eq_nil_of_length_eq_zero h0)
    rw [if_pos this] at h
    simpa using h

/-- `sel` is the rows for the requested RAM size. -/
theorem tdxPolicy_spec {Q R : Type} (eq : Q) (er : R) (rs : List TdxRow) (o : TdxPolicyOptions Q R)
    (q : TdxPolicy Q R) (h : tdxPolicy eq er (some rs) o = some q) (sel : List TdxRow)
    (hsel : sel = rs.filter (fun m => o.ramGib == 0 || m.ramGib == u32 o.ramGib)) :
    (∀ r ∈ sel, r.mrtd.length = mrTdSize) ∧ sel ≠ [] ∧
    q.rest = (o.base.getD ⟨none, er⟩).rest ∧
    (∃ b, q.body = some b ∧ b.anyMrTd = sel.map (·.mrtd) ∧
      b.restQ = (((o.base.getD ⟨none, er⟩).body.map (·.restQ)).getD eq)) ∧
    (o.overwrite = false → ∀ b0, (o.base.getD ⟨none, er⟩).body = some b0 → b0.anyMrTd = []) := by
  simp only [tdxPolicy, ← hsel] at h
  by_cases hlen : (sel.any (fun m => m.mrtd.length ≠ mrTdSize)) = true
  · rw [if_pos hlen] at h; cases h
  rw [if_neg hlen] at h
  by_cases hne : sel.isEmpty = true
  · rw [if_pos hne] at h; cases h
  rw [if_neg hne] at h
  refine ⟨fun r hr => ?_, fun hh => hne (by rw [hh]; rfl), ?_⟩
  · simp only [List.any_eq_true, not_exists, not_and] at hlen
    simpa using hlen r hr
  unfold modifyTdxPolicy at h
  cases hb : (o.base.getD ⟨none, er⟩).body with
  | none =>
    simp only [hb] at h; cases h
    exact ⟨rfl, ⟨_, rfl, rfl, rfl⟩, fun _ _ h0 => nomatch h0⟩
  | some b =>
    simp only [hb] at h
    by_cases hc : (!b.anyMrTd.isEmpty && !o.overwrite) = true
    · rw [if_pos hc] at h; cases h
    · rw [if_neg hc] at h; cases h
      refine ⟨rfl, ⟨_, rfl, rfl, rfl⟩, fun how b0 hb0 => ?_⟩
      cases hb0
      simp only [how, Bool.not_false, Bool.and_true, Bool.not_eq_true', List.isEmpty_eq_false_iff,
        ne_eq, Decidable.not_not] at hc
      simpa using hc

theorem byteCheck_eq {given required : Bytes} (hr : required.length = mrTdSize)
    (h : byteCheck given required = true) : required = given := by
  unfold byteCheck at h
  have h0 : ¬ (mrTdSize = 0) := by decide
  simp only [hr, h0, if_false, ne_eq, not_true_eq_false, beq_iff_eq] at h
  exact h

end GceTcb.Policy
