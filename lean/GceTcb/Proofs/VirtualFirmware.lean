import GceTcb.Model.VirtualFirmware
import GceTcb.Proofs.Commit
import GceTcb.Proofs.Endorse
/- Lemmas for C15: the dry run of the commit phase, the loop over the back ends, and the effects and
   the result of `virtualFirmware` with its case analysis done once. -/
namespace GceTcb.VF
open GceTcb GceTcb.Endorse GceTcb.Manifest GceTcb.Commit

section commit
variable {c : Cfg} {e : Entry} {budget : Int}

theorem plan_dry_noErr (a : Attempt) (hd : c.dryRun = true) (hn : c.snapshot = true ∨ nameOk c.cand = true) :
    (plan c e a).internalErr = false := by
  unfold plan
  split
  · rfl
  · rename_i hs
    simp [planDry, hn.resolve_left hs]

/-- With dry-run the only calls on the VersionControl double are Result(nil, path) and — when the change function
    refused the candidate name — RetriableError queries. -/
theorem retryLoop_dry_events (hd : c.dryRun = true) :
    ∀ (script : List Attempt) (tries : Nat), ∀ ev ∈ (retryLoop c e budget tries script).1,
      (ev.kind = .result ∧ ev.ok = false) ∨ ev.kind = .retriable := by
  intro script
  induction script with
  | nil => intro tries ev hev; cases hev
  | cons a rest ih =>
    intro tries ev hev
    rcases mem_retryLoop_cons c e budget tries a rest ev hev with h | ⟨b, rfl⟩ | ⟨_, h, _⟩
    · simp only [attempt, hd, if_true] at h
      split at h
      · cases h
      · cases List.mem_singleton.mp h; exact .inl ⟨rfl, rfl⟩
    · exact .inr rfl
    · exact ih (tries + 1) ev h

theorem commitPhase_eq (script : List Attempt) :
    commitPhase false c e budget script =
      ((retryLoop c e budget 0 script).1, if (retryLoop c e budget 0 script).2 = .ok then .ok else .err) := by
  simp only [commitPhase, Bool.and_false, Bool.false_eq_true, if_false]
  rfl

/-- The first "attempt" of a dry run consults no back end, which only has to be there (`hne`). -/
theorem commitPhase_dry_ok (hd : c.dryRun = true) (hn : c.snapshot = true ∨ nameOk c.cand = true)
    {script : List Attempt} (hne : script ≠ []) : (commitPhase false c e budget script).2 = .ok := by
  cases script with
  | nil => exact absurd rfl hne
  | cons a rest => simp [commitPhase_eq, retryLoop, attempt, hd, plan_dry_noErr a hd hn]

theorem commitPhase_ne_panic (script : List Attempt) : (commitPhase false c e budget script).2 ≠ .panic := by
  rw [commitPhase_eq]
  split <;> simp

variable {L : Bool}

theorem commitAll_effects (l : List (Nat × List Attempt)) :
    (commitAll L c e budget l).1 ⊆ l.flatMap fun x => (commitPhase L c e budget x.2).1.map (Eff.vcs x.1) := by
  induction l with
  | nil => exact List.Subset.refl _
  | cons x rest ih =>
    simp only [commitAll, List.flatMap_cons]
    split
    · exact List.append_subset.mpr ⟨List.subset_append_left _ _, List.subset_append_of_subset_right _ ih⟩
    · exact List.subset_append_left _ _

theorem commitAll_result {Q : CRes → Prop} (hok : Q .ok) {l : List (Nat × List Attempt)}
    (h : ∀ x ∈ l, Q (commitPhase L c e budget x.2).2) : Q (commitAll L c e budget l).2 := by
  induction l with
  | nil => exact hok
  | cons x rest ih =>
    simp only [commitAll]
    split
    · exact ih fun y hy => h y (by simp [hy])
    · exact h x (by simp)

end commit

theorem signDocEff_docs (keys : Option Keys) (ts : Int × Nat) (g : Golden) :
    ∀ k d, SignEff.sign k d ∈ (signDocEff keys ts g).1 →
      d.digest = g.digest ∧ d.snp = g.snp ∧ d.tdx = g.tdx ∧ d.clSpec = g.clSpec ∧ d.commit = g.commit ∧
      d.timestamp = some ts := by
  intro k d h
  rcases signDocEff_cases keys ts g with ⟨_, _, _, _, _, _, _, _, _, _, _, _, _, rfl, heq⟩ | ⟨_, hno⟩
  · rw [heq] at h
    simp only [List.mem_cons, List.not_mem_nil, or_false, reduceCtorEq, false_or, SignEff.sign.injEq] at h
    obtain ⟨_, rfl⟩ := h
    exact ⟨rfl, rfl, rfl, rfl, rfl, rfl⟩
  · exact absurd h (hno k d)

theorem sign_mem_map (k : String) (d : Golden) (l : List SignEff) :
    Eff.sign k d ∈ l.map ofSignEff ↔ SignEff.sign k d ∈ l := by
  constructor
  · intro hl
    obtain ⟨se, hse, heq⟩ := List.mem_map.mp hl
    cases se <;> cases heq
    exact hse
  · intro h
    exact List.mem_map.mpr ⟨_, h, rfl⟩

section run
variable {L : Bool} {P : Prims} {T : Tables} {c : Ctx} {keys : Option Keys} {ts : Int × Nat} {fl : Flags}
  {vcs : Option (List Attempt)} {vcss : List (List Attempt)}

theorem mem_effects {eff : Eff} :
    eff ∈ (virtualFirmware L P T c keys ts fl vcs vcss).effects ↔
      ∃ g, goldenMeasurement P T c = .ok g ∧
        if fl.measurementOnly then eff ∈ (renderMeasurements fl.launchVmsas g).map Eff.stdout
        else eff ∈ (signDocEff keys ts g).1.map ofSignEff ∨ (signDocEff keys ts g).2.isOk = true ∧
          eff ∈ (commitAll L fl.cfg (newEntry P c ts fl.cfg) fl.budget (effectiveVcss vcs vcss)).1 := by
  unfold virtualFirmware
  cases goldenMeasurement P T c with
  | err e => simp
  | panic s => simp
  | ok g =>
    simp only [Outcome.ok.injEq, exists_eq_left']
    split
    · rfl
    · cases hs : signDocEff keys ts g with
      | mk effs r => cases r <;> simp [Outcome.isOk]

theorem result_eq :
    (virtualFirmware L P T c keys ts fl vcs vcss).result =
      (goldenMeasurement P T c).bind fun g =>
        if fl.measurementOnly then .ok ()
        else (signDoc keys ts g).bind fun _ =>
          match (commitAll L fl.cfg (newEntry P c ts fl.cfg) fl.budget (effectiveVcss vcs vcss)).2 with
          | .ok => .ok ()
          | .err => .err "commit"
          | .panic => .panic "nil ChangeOps" := by
  unfold virtualFirmware signDoc
  cases goldenMeasurement P T c with
  | err e => rfl
  | panic s => rfl
  | ok g =>
    simp only [Outcome.bind]
    split
    · rfl
    · cases hs : signDocEff keys ts g with
      | mk effs r => cases r <;> rfl

end run

theorem sign_mem_iff (P : Prims) (T : Tables) (c : Ctx) (keys : Option Keys) (ts : Int × Nat)
    (fl : Flags) (vcs : Option (List Attempt)) (vcss : List (List Attempt)) (k : String) (d : Golden) :
    Eff.sign k d ∈ (virtualFirmware false P T c keys ts fl vcs vcss).effects ↔
      fl.measurementOnly = false ∧ ∃ g, goldenMeasurement P T c = .ok g ∧
        SignEff.sign k d ∈ (signDocEff keys ts g).1 := by
  have hc : Eff.sign k d ∉
      (commitAll false fl.cfg (newEntry P c ts fl.cfg) fl.budget (effectiveVcss vcs vcss)).1 := by
    intro h
    obtain ⟨_, _, h⟩ := List.mem_flatMap.mp (commitAll_effects _ h)
    obtain ⟨_, _, he⟩ := List.mem_map.mp h
    cases he
  cases hm : fl.measurementOnly <;> simp [mem_effects, hm, sign_mem_map, hc]

/-! ### concrete inputs used by the non-vacuity examples of the property file -/

def exP : Prims :=
  { sha384 := fun b => 0xAA :: b
    launchDigest := fun img k pr => .ok (UInt8.ofNat k :: UInt8.ofNat pr :: img)
    mrtd := fun img s _ => .ok (UInt8.ofNat s.length :: img)
    parseUuid := fun s => if s.length == 36 then some [1] else none }
def exT : Tables := ⟨[1, 2], [("c3-standard-4", 16, 1, 176)], "f73a6949-e8f3-473b-9553-e40e056fa3a2", 7⟩
def exC : Ctx :=
  { snp := some ⟨5, "", "", 0, 1⟩, tdx := some ⟨6, false, ["c3-standard-4"]⟩, image := [9], clSpec := 1, commit := [],
    svsmMeasurement := [], rndImageId := "87654321-dead-beef-c0de-123456789abc" }
def exKeys : Option Keys :=
  some ⟨some ⟨.ok "k", fun _ => .ok [1], fun _ => .ok [2]⟩, some (fun _ _ => .ok [3])⟩
def exCfgVF (dry snap : Bool) : Cfg := ⟨dry, snap, false, false, false, "rc0", "R", "out", "snap", "fw.fd"⟩
def exFl (mo dry snap : Bool) : Flags := ⟨mo, 0, 5, exCfgVF dry snap⟩
def exScript : List Attempt := [⟨none, false, .notFound, false⟩]

def countVcs (l : List Eff) : Nat := l.countP fun | .vcs _ _ => true | _ => false
def countKeys (l : List Eff) : Nat := l.countP fun | .stdout _ => false | .vcs _ _ => false | _ => true
def stdoutLines (l : List Eff) : List String := l.filterMap fun | .stdout s => some s | _ => none

/-- The SNP section of `exC`, evaluated once for the examples (reading the two ids is the dear part). -/
theorem exSnp : snpPart exP exT exC = .ok (some ⟨5, [1], [1], 7, [(1, [1, 1, 9]), (2, [2, 1, 9])], []⟩) := by
  decide +kernel

end GceTcb.VF
