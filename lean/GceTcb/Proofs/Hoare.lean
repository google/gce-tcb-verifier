import GceTcb.Model.Rotate
/-
A small program logic for the `Run` monad of Model/CA.lean: triples with three postconditions
(normal return, error return, crash), valid for one arbitrary but fixed fault script `sc`.
Because the script is arbitrary, a triple proved here holds for every combination of faults.
Then the predicates on the call log (`St.log`) in which C10 states destroy-after-commit.
-/
namespace GceTcb.CA

def NoFault (sc : Nat → Fault) : Prop := ∀ n, sc n = .ok

theorem noFault_noFault : NoFault noFault := fun _ => rfl

/-- `{P} m {Q | R | E}` under script `sc`: from a state satisfying `P`, a normal return with value `a`
    ends in a state satisfying `Q a`, an error return in `R`, a crash in `E`. -/
def Triple {α : Type} (sc : Nat → Fault) (P : St → Prop) (m : Run α) (Q : α → St → Prop)
    (R E : St → Prop) : Prop :=
  ∀ s, P s → match m sc s with
    | .ok a s' => Q a s'
    | .err s' => R s'
    | .crash s' => E s'

/-- The usual shape: on error or crash the state satisfies `X`; a crash happens only under a script
    with a fault, an error only under a script with a fault or when overwriting is not allowed. -/
def Tr {α : Type} (sc : Nat → Fault) (ow : Bool) (P : St → Prop) (m : Run α) (Q : α → St → Prop)
    (X : St → Prop) : Prop :=
  Triple sc P m Q (fun s => X s ∧ (¬ NoFault sc ∨ ow = false)) (fun s => X s ∧ ¬ NoFault sc)

variable {sc : Nat → Fault} {ow : Bool} {α : Type} {P P' : St → Prop} {m : Run α} {Q Q' : α → St → Prop}
  {R R' E E' X X' : St → Prop}

theorem Triple.pure (a : α) (h : ∀ s, P s → Q a s) : Triple sc P (Pure.pure a : Run α) Q R E := by
  intro s hP; exact h s hP

theorem Triple.bind {β : Type} {f : α → Run β} {Q1 : α → St → Prop} {Q : β → St → Prop}
    (h1 : Triple sc P m Q1 R E) (h2 : ∀ a, Triple sc (Q1 a) (f a) Q R E) :
    Triple sc P (m >>= f) Q R E := by
  intro s hP
  have := h1 s hP
  show match (match m sc s with
    | .ok a s' => f a sc s'
    | .err s' => .err s'
    | .crash s' => .crash s') with
    | .ok a s' => Q a s' | .err s' => R s' | .crash s' => E s'
  cases hm : m sc s with
  | ok a s' => rw [hm] at this; exact h2 a s' this
  | err s' => rw [hm] at this; exact this
  | crash s' => rw [hm] at this; exact this

theorem Triple.conseq (h : Triple sc P m Q R E) (hP : ∀ s, P' s → P s)
    (hQ : ∀ a s, Q a s → Q' a s) (hR : ∀ s, R s → R' s) (hE : ∀ s, E s → E' s) :
    Triple sc P' m Q' R' E' := by
  intro s hP'
  have := h s (hP s hP')
  cases hm : m sc s with
  | ok a s' => rw [hm] at this; exact hQ a s' this
  | err s' => rw [hm] at this; exact hR s' this
  | crash s' => rw [hm] at this; exact hE s' this

theorem Triple.pre (h : Triple sc P m Q R E) (hP : ∀ s, P' s → P s) : Triple sc P' m Q R E :=
  h.conseq hP (fun _ _ x => x) (fun _ x => x) (fun _ x => x)

theorem Triple.post (h : Triple sc P m Q R E) (hQ : ∀ a s, Q a s → Q' a s) : Triple sc P m Q' R E :=
  h.conseq (fun _ x => x) hQ (fun _ x => x) (fun _ x => x)

theorem Triple.and (h : Triple sc P m Q R E) (h' : Triple sc P' m Q' R' E') :
    Triple sc (fun s => P s ∧ P' s) m (fun a s => Q a s ∧ Q' a s) (fun s => R s ∧ R' s) (fun s => E s ∧ E' s) := by
  intro s hP
  have h1 := h s hP.1
  have h2 := h' s hP.2
  cases hm : m sc s with
  | ok a s' => rw [hm] at h1 h2; exact ⟨h1, h2⟩
  | err s' => rw [hm] at h1 h2; exact ⟨h1, h2⟩
  | crash s' => rw [hm] at h1 h2; exact ⟨h1, h2⟩

theorem Triple.of_fact {φ : Prop} (h : φ → Triple sc P m Q R E) : Triple sc (fun s => φ ∧ P s) m Q R E := by
  intro s hP; exact h hP.1 s hP.2

theorem Triple.have_fact {φ : Prop} (hφ : ∀ s, P s → φ) (h : φ → Triple sc P m Q R E) : Triple sc P m Q R E :=
  fun s hP => h (hφ s hP) s hP

theorem Triple.of_exists {ι : Type} {P : ι → St → Prop} (h : ∀ i, Triple sc (P i) m Q R E) :
    Triple sc (fun s => ∃ i, P i s) m Q R E := by
  intro s hP; obtain ⟨i, hi⟩ := hP; exact h i s hi

theorem Triple.unreach (h : ∀ s, ¬ P s) : Triple sc P m Q R E := by
  intro s hP; exact absurd hP (h s)

theorem Triple.throw (h : ∀ s, P s → R s) : Triple sc P (throw : Run α) Q R E := by
  intro s hP; exact h s hP

theorem Triple.getSt {P : St → Prop} {R E : St → Prop} :
    Triple sc P getSt (fun a s => a = s ∧ P s) R E := by
  intro s hP; exact ⟨rfl, hP⟩

theorem Triple.getSt_bind {β : Type} {f : St → Run β} {Q : β → St → Prop}
    (h : ∀ s0, P s0 → Triple sc (fun s => s = s0) (f s0) Q R E) : Triple sc P (CA.getSt >>= f) Q R E := by
  intro s hP
  exact h s hP s rfl

theorem Triple.modSt {Q : Unit → St → Prop} (f : St → St)
    (h : ∀ s, P s → Q () (f s)) : Triple sc P (modSt f) Q R E := by
  intro s hP; exact h s hP

theorem Triple.ofOption {α : Type} {P : St → Prop} {Q : α → St → Prop} {R E : St → Prop} (o : Option α)
    (h : ∀ s, P s → match o with | some a => Q a s | none => R s) : Triple sc P (ofOption o) Q R E := by
  intro s hP
  have := h s hP
  cases o with
  | none => exact this
  | some a => exact this

/-- the assertions inside the call may depend on the outcome `f` the script assigned to it (`f ≠ fail` there) -/
theorem Triple.wrapI {P' : Fault → St → Prop} {body : Run α} {Q' : Fault → α → St → Prop}
    (c : Call)
    (hlog : ∀ s f, P s → P' f (s.logged c f))
    (hfail : ∀ s, P s → ¬ NoFault sc → R (s.logged c .fail))
    (hbody : ∀ f, Triple sc (P' f) body (Q' f) R E)
    (hQE : ∀ a s, ¬ NoFault sc → Q' .crash a s → E s)
    (hRE : ∀ s, ¬ NoFault sc → R s → E s) :
    Triple sc P (wrap c body) (Q' .ok) R E := by
  intro s hP
  unfold CA.wrap
  cases hs : sc s.pos with
  | fail =>
    have hf : ¬ NoFault sc := fun h => by rw [h s.pos] at hs; cases hs
    exact hfail s hP hf
  | ok => exact hbody .ok _ (hlog s .ok hP)
  | crash =>
    have hf : ¬ NoFault sc := fun h => by rw [h s.pos] at hs; cases hs
    have := hbody .crash _ (hlog s .crash hP)
    cases hb : body sc (s.logged c .crash) with
    | ok a s' => rw [hb] at this; exact hQE a s' hf this
    | err s' => rw [hb] at this; exact hRE s' hf this
    | crash s' => rw [hb] at this; exact this

theorem Triple.wrap {body : Run α}
    (c : Call)
    (hlog : ∀ s f, P s → P' (s.logged c f))
    (hfail : ∀ s, P s → ¬ NoFault sc → R (s.logged c .fail))
    (hbody : Triple sc P' body Q R E)
    (hQE : ∀ a s, ¬ NoFault sc → Q a s → E s)
    (hRE : ∀ s, ¬ NoFault sc → R s → E s) :
    Triple sc P (wrap c body) Q R E :=
  Triple.wrapI (P' := fun _ => P') (Q' := fun _ => Q) c hlog hfail (fun _ => hbody) hQE hRE

theorem Triple.attempt {α : Type} {P : St → Prop} {m : Run α} {Q : α → St → Prop} {R R' E : St → Prop}
    (h : Triple sc P m Q R E) :
    Triple sc P (attempt m) (fun o s => match o with | some a => Q a s | none => R s) R' E := by
  intro s hP
  have := h s hP
  unfold CA.attempt
  cases hm : m sc s with
  | ok a s' => rw [hm] at this; exact this
  | err s' => rw [hm] at this; exact this
  | crash s' => rw [hm] at this; exact this

theorem Triple.repeatRun {φ : α → Prop}
    (h : Triple sc P m (fun a s => φ a ∧ P s) R E) (n : Nat) :
    Triple sc P (repeatRun n m) (fun l s => (∀ a ∈ l, φ a) ∧ P s) R E := by
  induction n with
  | zero =>
    unfold CA.repeatRun
    exact Triple.pure _ (fun s hP => ⟨fun a ha => (by cases ha), hP⟩)
  | succ n ih =>
    unfold CA.repeatRun
    exact Triple.bind h fun a => Triple.of_fact fun ha => Triple.bind ih fun l =>
      Triple.pure _ fun s hs => ⟨List.forall_mem_cons.mpr ⟨ha, hs.1⟩, hs.2⟩

theorem Triple.ite {c : Prop} [Decidable c] {m1 m2 : Run α} (h1 : c → Triple sc P m1 Q R E) (h2 : ¬ c → Triple sc P m2 Q R E) :
    Triple sc P (if c then m1 else m2) Q R E := by
  by_cases hc : c
  · rw [if_pos hc]; exact h1 hc
  · rw [if_neg hc]; exact h2 hc

theorem Tr.wrapI {P' : Fault → St → Prop} {body : Run α} {Q' : Fault → α → St → Prop}
    (c : Call)
    (hlog : ∀ s f, P s → P' f (s.logged c f))
    (hfail : ∀ s, P s → X (s.logged c .fail))
    (hbody : ∀ f, Tr sc ow (P' f) body (Q' f) X)
    (hQX : ∀ a s, Q' .crash a s → X s) :
    Tr sc ow P (wrap c body) (Q' .ok) X :=
  Triple.wrapI c hlog (fun s hP hf => ⟨hfail s hP, Or.inl hf⟩) hbody
    (fun a s hf hq => ⟨hQX a s hq, hf⟩) (fun _ hf hr => ⟨hr.1, hf⟩)

theorem Tr.call {body : Run α} (c : Call) (hP : ∀ s f, P s → P (s.logged c f)) (hPX : ∀ s, P s → X s)
    (hbody : Tr sc ow P body Q X) (hQX : ∀ a s, Q a s → X s) : Tr sc ow P (wrap c body) Q X :=
  Tr.wrapI (P' := fun _ => P) (Q' := fun _ => Q) c hP (fun s h => hPX _ (hP s .fail h)) (fun _ => hbody) hQX

theorem Tr.weaken {α : Type} {P P' : St → Prop} {m : Run α} {Q Q' : α → St → Prop} {X X' : St → Prop}
    (h : Tr sc ow P m Q X) (hP : ∀ s, P' s → P s) (hQ : ∀ a s, Q a s → Q' a s) (hX : ∀ s, X s → X' s) :
    Tr sc ow P' m Q' X' :=
  Triple.conseq h hP hQ (fun s hr => ⟨hX s hr.1, hr.2⟩) (fun s he => ⟨hX s he.1, he.2⟩)

theorem Tr.weakenX (h : Tr sc ow P m Q X) (hX : ∀ s, X s → X' s) : Tr sc ow P m Q X' :=
  h.weaken (fun _ h => h) (fun _ _ h => h) hX

theorem Tr.ow_mono {ow' : Bool}
    (hw : ow = false → ow' = false) (h : Tr sc ow P m Q X) : Tr sc ow' P m Q X :=
  Triple.conseq h (fun _ h => h) (fun _ _ h => h) (fun _ hr => ⟨hr.1, hr.2.imp_right hw⟩) (fun _ h => h)

def NonDestroy (c : Call) : Prop := ∀ k, c ≠ .kmDestroy k ∧ c ≠ .kmsDestroy k

def NoDestroy (log : List (Call × Fault)) : Prop := ∀ e ∈ log, NonDestroy e.1

theorem NoDestroy.snoc {log : List (Call × Fault)} (h : NoDestroy log) {c : Call} (hc : NonDestroy c)
    (f : Fault) : NoDestroy (log ++ [(c, f)]) := by
  intro e he
  rcases List.mem_append.mp he with h1 | h1
  · exact h e h1
  · have : e = (c, f) := by simpa using h1
    rw [this]; exact hc

def Call.isDestroy : Call → Bool
  | .kmDestroy _ | .kmsDestroy _ => true
  | _ => false

theorem NonDestroy.of_isDestroy {c : Call} (h : c.isDestroy = false) : NonDestroy c :=
  fun _ => ⟨fun e => (by rw [e] at h; cases h), fun e => (by rw [e] at h; cases h)⟩

/-- the call whose successful completion makes the new primary durable -/
def commitCall (cfg : Cfg) : Call × Fault :=
  match cfg.ca with
  | .gcsca => (.stC manifestName, .ok)
  | .memca => (.caFin, .ok)

/-- destroy-after-commit on a call log: every DestroyKeyVersion that reached the key manager is
    preceded by the completed commit call. -/
def DAC (cfg : Cfg) (log : List (Call × Fault)) : Prop :=
  ∀ pre k f post, log = pre ++ (Call.kmDestroy k, f) :: post → f ≠ .fail → commitCall cfg ∈ pre

/-- … and the same one level down: every DestroyCryptoKeyVersion request that reached Cloud KMS is
    preceded by the completed commit call. -/
def DACK (cfg : Cfg) (log : List (Call × Fault)) : Prop :=
  ∀ pre k f post, log = pre ++ (Call.kmsDestroy k, f) :: post → f ≠ .fail → commitCall cfg ∈ pre

/-- destroy-after-commit for the destroy calls `d k`; `DAC` and `DACK` are its two instances -/
def DACd (d : String → Call) (cfg : Cfg) (log : List (Call × Fault)) : Prop :=
  ∀ pre k f post, log = pre ++ (d k, f) :: post → f ≠ .fail → commitCall cfg ∈ pre

theorem DACd.of_noDestroy {d : String → Call} (hd : ∀ k, ¬ NonDestroy (d k)) (cfg : Cfg) {log : List (Call × Fault)}
    (h : NoDestroy log) : DACd d cfg log := by
  intro pre k f post hl _
  exact absurd (h (d k, f) (by rw [hl]; simp)) (hd k)

theorem DAC_of_noDestroy (cfg : Cfg) {log : List (Call × Fault)} (h : NoDestroy log) : DAC cfg log :=
  DACd.of_noDestroy (fun k h => (h k).1 rfl) cfg h

theorem DACK_of_noDestroy (cfg : Cfg) {log : List (Call × Fault)} (h : NoDestroy log) : DACK cfg log :=
  DACd.of_noDestroy (fun k h => (h k).2 rfl) cfg h

/-- a destroy call of the longer log has the whole old log in front of it, or lies in the old log -/
theorem DACd.snoc {d : String → Call} {cfg : Cfg} {log : List (Call × Fault)} (h : DACd d cfg log)
    (hc : commitCall cfg ∈ log) (e : Call × Fault) : DACd d cfg (log ++ [e]) := by
  intro pre k f post hl hf
  rcases List.append_eq_append_iff.mp hl with ⟨_, h1, _⟩ | ⟨c', h1, h2⟩
  · rw [h1]; exact List.mem_append_left _ hc
  · cases c' with
    | nil => rw [List.append_nil] at h1; rw [← h1]; exact hc
    | cons x c'' =>
      rw [List.cons_append] at h2
      rw [← (List.cons.inj h2).1] at h1
      exact h pre k f c'' h1 hf

/-- the commit call has completed and nothing was destroyed before it: every extension of such a log, by destroy calls
    too, satisfies destroy-after-commit at both levels -/
def Committed (cfg : Cfg) (log : List (Call × Fault)) : Prop :=
  commitCall cfg ∈ log ∧ DAC cfg log ∧ DACK cfg log

theorem Committed.of_noDestroy {cfg : Cfg} {log : List (Call × Fault)} (h : NoDestroy log) (hc : commitCall cfg ∈ log) :
    Committed cfg log :=
  ⟨hc, DAC_of_noDestroy cfg h, DACK_of_noDestroy cfg h⟩

theorem Committed.snoc {cfg : Cfg} {log : List (Call × Fault)} (h : Committed cfg log) (e : Call × Fault) :
    Committed cfg (log ++ [e]) :=
  ⟨List.mem_append_left _ h.1, DACd.snoc h.2.1 h.1 e, DACd.snoc h.2.2 h.1 e⟩

end GceTcb.CA
