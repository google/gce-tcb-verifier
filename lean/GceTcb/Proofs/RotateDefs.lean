import GceTcb.Proofs.Hoare
import GceTcb.Proofs.CAStore
/-
Invariants and preconditions of C10, and what its step specifications share: the exceptional
postconditions `Safe` / `SafeN` / `SafeK`, predicates that survive logging (`Stable`) and the rule for a
call that only reads the state (`Tr.get`).
-/
namespace GceTcb.CA

/-- object name of the certificate a rotation request produces (gcsca.certObjectName) -/
def objName (cfg : Cfg) (req : Req) : String :=
  cfg.certDir ++ req.cn ++ "-" ++ toString req.serial ++ ".crt"

theorem certObjectName_mk (cfg : Cfg) (req : Req) (p q : Nat) :
    certObjectName cfg ⟨req.cn, req.serial, p, q⟩ = objName cfg req := rfl

/-- contract of the key manager's naming: the new version's name differs from the current one and is
    not empty (memkm.BumpName: strictly larger numeric suffix; Cloud KMS: a fresh version number). -/
def BumpOK (cfg : Cfg) : Prop := (∀ n, cfg.bump n ≠ n) ∧ (∀ n, cfg.bump n ≠ "")

/-- gcsca: the durable state is good, with its witnesses named -/
structure InvG (cfg : Cfg) (m : Manifest) (r c : Cert) (path : String) (s : St) : Prop where
  man : lookup s.store manifestName = some (.manifest m)
  root : lookup s.store cfg.rootPath = some (.pem r)
  entry : lookup m.entries m.signing = some path
  prim : lookup s.store path = some (.der c)
  kprim : lookup s.keys m.signing = some c.pub
  chain : c.sigBy = r.pub
  kroot : lookup s.keys m.root = some r.pub
  sig_ne : m.signing ≠ ""
  root_ne : m.root ≠ ""
  sr : m.signing ≠ m.root
  pm : path ≠ manifestName
  rm : cfg.rootPath ≠ manifestName
  broot : ∀ n, cfg.bump n ≠ m.root

/-- memca: the authority's contents are good -/
structure InvM (cfg : Cfg) (r c : Cert) (s : St) : Prop where
  root : lookup s.memCerts s.memRoot = some r
  prim : lookup s.memCerts s.memPrimary = some c
  kprim : lookup s.keys s.memPrimary = some c.pub
  chain : c.sigBy = r.pub
  kroot : lookup s.keys s.memRoot = some r.pub
  sig_ne : s.memPrimary ≠ ""
  root_ne : s.memRoot ≠ ""
  sr : s.memPrimary ≠ s.memRoot
  broot : ∀ n, cfg.bump n ≠ s.memRoot

/-- The clause of the property: the recorded primary signing key is a live key, a certificate is
    stored for it, that certificate carries the live key's public key and its signature verifies under
    the stored root certificate (so signing with the primary and verifying against the root works). -/
def PrimaryOK (cfg : Cfg) (s : St) : Prop :=
  match cfg.ca with
  | .gcsca => ∃ m r c path,
      lookup s.store manifestName = some (.manifest m) ∧ lookup s.store cfg.rootPath = some (.pem r) ∧
      lookup m.entries m.signing = some path ∧ lookup s.store path = some (.der c) ∧
      lookup s.keys m.signing = some c.pub ∧ c.sigBy = r.pub
  | .memca => ∃ r c,
      lookup s.memCerts s.memRoot = some r ∧ lookup s.memCerts s.memPrimary = some c ∧
      lookup s.keys s.memPrimary = some c.pub ∧ c.sigBy = r.pub

/-- The invariant: `PrimaryOK` + the root key is live and is the key of the stored root certificate +
    name hygiene (primary, root and manifest names are distinct and non-empty; the key manager never
    hands out the root's name).  It speaks about durable state only. -/
def Inv (cfg : Cfg) (s : St) : Prop :=
  match cfg.ca with
  | .gcsca => ∃ m r c path, InvG cfg m r c path s
  | .memca => ∃ r c, InvM cfg r c s

def primaryOf (cfg : Cfg) (s : St) : String :=
  match cfg.ca with
  | .gcsca => match lookup s.store manifestName with
    | some (.manifest m) => m.signing
    | _ => ""
  | .memca => s.memPrimary

/-- where gcsca.upload will write the certificate of the next key version -/
def target (cfg : Cfg) (req : Req) (m : Manifest) : String :=
  (lookup m.entries (cfg.bump m.signing)).getD (objName cfg req)

/-- Precondition on the request: the object the new certificate goes to is neither the manifest nor the
    root certificate object (certificate objects live under `certDir` and end in ".crt", so this only
    excludes configurations in which `rootPath` itself looks like a certificate object).  The object that
    holds the PRIMARY's certificate is not excluded: gcsca.upload refuses it (`claimed`). -/
def Fresh (cfg : Cfg) (req : Req) (s : St) : Prop :=
  match cfg.ca with
  | .memca => True
  | .gcsca => ∀ m, lookup s.store manifestName = some (.manifest m) →
      target cfg req m ≠ manifestName ∧ target cfg req m ≠ cfg.rootPath

/-- gcsca.upload will refuse the rotation's certificate: the stored manifest records the target object
    for a key version other than the new one -/
def claimed (cfg : Cfg) (req : Req) (m : Manifest) : Bool :=
  heldByOther m (target cfg req m) (cfg.bump m.signing)

/-- the request does not name a certificate object that another key version holds (needed for a
    rotation to SUCCEED; not needed for failure atomicity) -/
def Unclaimed (cfg : Cfg) (req : Req) (s : St) : Prop :=
  match cfg.ca with
  | .memca => True
  | .gcsca => ∀ m, lookup s.store manifestName = some (.manifest m) → claimed cfg req m = false

def Claimed (cfg : Cfg) (req : Req) (s : St) : Prop :=
  cfg.ca = .gcsca ∧ ∃ m, lookup s.store manifestName = some (.manifest m) ∧ claimed cfg req m = true

variable {cfg cfg' : Cfg} {m : Manifest} {r c : Cert} {path : String} {s s' : St}

theorem Inv.gcs (hca : cfg.ca = .gcsca) (h : Inv cfg s) : ∃ m r c path, InvG cfg m r c path s := by
  unfold Inv at h; rw [hca] at h; exact h

theorem Inv.primaryOK (h : Inv cfg s) : PrimaryOK cfg s := by
  unfold Inv at h; unfold PrimaryOK
  revert h
  cases cfg.ca with
  | gcsca => exact fun ⟨m, r, c, path, hi⟩ => ⟨m, r, c, path, hi.man, hi.root, hi.entry, hi.prim, hi.kprim, hi.chain⟩
  | memca => exact fun ⟨r, c, hi⟩ => ⟨r, c, hi.root, hi.prim, hi.kprim, hi.chain⟩

theorem primaryOf_gcs (hca : cfg.ca = .gcsca)
    (hm : lookup s.store manifestName = some (.manifest m)) : primaryOf cfg s = m.signing := by
  unfold primaryOf; rw [hca, hm]

theorem Claimed_iff {req : Req} (hca : cfg.ca = .gcsca)
    (hm : lookup s.store manifestName = some (.manifest m)) : Claimed cfg req s ↔ claimed cfg req m = true := by
  constructor
  · rintro ⟨_, m', hm', hc⟩
    rw [hm] at hm'
    rw [Obj.manifest.inj (Option.some.inj hm')]; exact hc
  · exact fun hc => ⟨hca, m, hm, hc⟩

theorem heldByOther_of_lookup {m : Manifest} {k p kvn : String} (h : lookup m.entries k = some p) (hk : k ≠ kvn) :
    heldByOther m p kvn = true := by
  unfold heldByOther
  exact List.any_eq_true.mpr ⟨(k, p), lookup_mem h, by simp [hk]⟩

theorem InvG.of_lookups (h : InvG cfg m r c path s)
    (h1 : lookup s'.store manifestName = lookup s.store manifestName)
    (h2 : lookup s'.store cfg.rootPath = lookup s.store cfg.rootPath)
    (h3 : lookup s'.store path = lookup s.store path)
    (h4 : lookup s'.keys m.signing = lookup s.keys m.signing)
    (h5 : lookup s'.keys m.root = lookup s.keys m.root) : InvG cfg m r c path s' :=
  ⟨h1.trans h.man, h2.trans h.root, h.entry, h3.trans h.prim, h4.trans h.kprim, h.chain, h5.trans h.kroot,
   h.sig_ne, h.root_ne, h.sr, h.pm, h.rm, h.broot⟩

theorem InvG.transfer (h : InvG cfg m r c path s) (h1 : s'.store = s.store) (h2 : s'.keys = s.keys) :
    InvG cfg m r c path s' :=
  h.of_lookups (by rw [h1]) (by rw [h1]) (by rw [h1]) (by rw [h2]) (by rw [h2])

theorem InvM.of_lookups (h : InvM cfg r c s)
    (hr : s'.memRoot = s.memRoot) (hp : s'.memPrimary = s.memPrimary)
    (h1 : lookup s'.memCerts s.memRoot = lookup s.memCerts s.memRoot)
    (h2 : lookup s'.memCerts s.memPrimary = lookup s.memCerts s.memPrimary)
    (h3 : lookup s'.keys s.memPrimary = lookup s.keys s.memPrimary)
    (h4 : lookup s'.keys s.memRoot = lookup s.keys s.memRoot) : InvM cfg r c s' :=
  ⟨by rw [hr]; exact h1.trans h.root, by rw [hp]; exact h2.trans h.prim, by rw [hp]; exact h3.trans h.kprim,
   h.chain, by rw [hr]; exact h4.trans h.kroot, by rw [hp]; exact h.sig_ne, by rw [hr]; exact h.root_ne,
   by rw [hr, hp]; exact h.sr, by rw [hr]; exact h.broot⟩

theorem InvM.transfer (h : InvM cfg r c s) (h1 : s'.memCerts = s.memCerts) (h2 : s'.keys = s.keys)
    (h3 : s'.memRoot = s.memRoot) (h4 : s'.memPrimary = s.memPrimary) : InvM cfg r c s' :=
  h.of_lookups h3 h4 (by rw [h1]) (by rw [h1]) (by rw [h2]) (by rw [h2])

theorem InvG.inv (hca : cfg.ca = .gcsca)
    (h : InvG cfg m r c path s) : Inv cfg s := by
  unfold Inv; rw [hca]; exact ⟨m, r, c, path, h⟩

theorem InvM.inv (hca : cfg.ca = .memca) (h : InvM cfg r c s) : Inv cfg s := by
  unfold Inv; rw [hca]; exact ⟨r, c, h⟩

theorem InvG.rebump (h : InvG cfg m r c path s) (hr : cfg'.rootPath = cfg.rootPath) (hb : ∀ n, cfg'.bump n ≠ m.root) :
    InvG cfg' m r c path s :=
  ⟨h.man, by rw [hr]; exact h.root, h.entry, h.prim, h.kprim, h.chain, h.kroot, h.sig_ne, h.root_ne, h.sr,
    h.pm, by rw [hr]; exact h.rm, hb⟩

theorem InvM.rebump (h : InvM cfg r c s)
    (hb : ∀ n, cfg'.bump n ≠ s.memRoot) : InvM cfg' r c s :=
  ⟨h.root, h.prim, h.kprim, h.chain, h.kroot, h.sig_ne, h.root_ne, h.sr, hb⟩

theorem Inv.map (hca : cfg'.ca = cfg.ca)
    (hG : ∀ m r c p, InvG cfg m r c p s → InvG cfg' m r c p s') (hM : ∀ r c, InvM cfg r c s → InvM cfg' r c s')
    (h : Inv cfg s) : Inv cfg' s' := by
  unfold Inv at h ⊢
  rw [hca]
  revert h
  cases cfg.ca with
  | gcsca => exact fun ⟨m, r, c, p, hi⟩ => ⟨m, r, c, p, hG m r c p hi⟩
  | memca => exact fun ⟨r, c, hi⟩ => ⟨r, c, hM r c hi⟩

theorem Inv_reload (cfg : Cfg) (s : St) : Inv cfg s.reload ↔ Inv cfg s :=
  ⟨Inv.map rfl (fun _ _ _ _ h => h.transfer rfl rfl) (fun _ _ h => h.transfer rfl rfl rfl rfl),
   Inv.map rfl (fun _ _ _ _ h => h.transfer rfl rfl) (fun _ _ h => h.transfer rfl rfl rfl rfl)⟩

theorem Fresh_reload (cfg : Cfg) (req : Req) (s : St) : Fresh cfg req s.reload ↔ Fresh cfg req s := by
  unfold Fresh
  cases cfg.ca <;> exact Iff.rfl

theorem Unclaimed_reload (cfg : Cfg) (req : Req) (s : St) : Unclaimed cfg req s.reload ↔ Unclaimed cfg req s := by
  unfold Unclaimed
  cases cfg.ca <;> exact Iff.rfl

def Safe (cfg : Cfg) (s : St) : Prop := Inv cfg s ∧ DAC cfg s.log

/-- the form of `Safe` and `SafeK` that holds before anything is destroyed -/
def SafeN (cfg : Cfg) (s : St) : Prop := Inv cfg s ∧ NoDestroy s.log

theorem SafeN.safe (h : SafeN cfg s) : Safe cfg s :=
  ⟨h.1, DAC_of_noDestroy cfg h.2⟩

def SafeK (cfg : Cfg) (s : St) : Prop := Inv cfg s ∧ DAC cfg s.log ∧ DACK cfg s.log

theorem SafeN.safeK (h : SafeN cfg s) : SafeK cfg s :=
  ⟨h.1, DAC_of_noDestroy cfg h.2, DACK_of_noDestroy cfg h.2⟩

def Stable (P : St → Prop) : Prop := ∀ s c f, NonDestroy c → P s → P (s.logged c f)

variable {sc : Nat → Fault} {ow : Bool} {α : Type} {P X : St → Prop}

theorem Stable.logged (hP : Stable P) {c : Call} (hc : c.isDestroy = false) : ∀ s f, P s → P (s.logged c f) :=
  fun s f => hP s c f (.of_isDestroy hc)

theorem Tr.get {f : St → Run α} {Q : α → St → Prop} (c : Call) (hc : c.isDestroy = false) (hP : Stable P)
    (hf : ∀ s, P s → ∃ a, f s sc s = .ok a s ∧ Q a s) :
    Tr sc ow P (CA.wrap c (CA.getSt >>= f)) (fun a s => Q a s ∧ P s) P :=
  Tr.call c (hP.logged hc) (fun _ h => h) (Triple.getSt_bind fun s0 h0 s hs => by
    subst hs
    obtain ⟨a, e, hq⟩ := hf s h0
    show match f s sc s with
      | .ok a s' => Q a s' ∧ P s'
      | .err s' => _
      | .crash s' => _
    rw [e]; exact ⟨hq, h0⟩) (fun _ _ h => h.2)

end GceTcb.CA
