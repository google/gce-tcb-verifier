import GceTcb.Model.Pipeline
/-
Lemmas about Model/Pipeline.lean and the policy derivation that need no assumption on the primitives: rotations keep
the root, the verifier's steps on a signed document, the lookup in a measurement table, and the TDX policy derived for
a listed row (used by Props/C03.lean and, for every policy type, by Proofs/ToolChain.lean).
-/
namespace GceTcb.Pipeline
open GceTcb GceTcb.Policy

theorem root_rotations (L : Lifetimes) (ca : CA) (rots : List Nat) :
    (rots.foldl (rotate L) ca).root = ca.root := by
  induction rots generalizing ca with
  | nil => rfl
  | cons t ts ih => exact ih (rotate L ca t)

theorem history_append_root (L : Lifetimes) (t0 : Nat) (rots later : List Nat) :
    (history L t0 (rots ++ later)).root = (history L t0 rots).root :=
  (congrArg CA.root List.foldl_append).trans (root_rotations L _ later)

/-- The verifier's steps on a document the signer produced: if the payload unmarshals to the document
    signed, the signing certificate chains to the root at `t` and the signature checks under its key, the
    endorsement verifies for any options the document satisfies. -/
theorem verify_endorse_of {β : Type} (P : Prims β) (cd : Nat) (ca : CA) (r : Request) (hp : hasProvenance r) (t : Nat)
    (hum : P.unmarshal (endorse P ca r).payload =
      some ⟨r.digest, r.clSpec, r.commit, r.timestamp, some ca.primary, r.sev, r.tdx⟩)
    (hchain : P.verifyChain ca.primary [ca.root] t = true)
    (hsig : P.checkSig ca.primary.subject (endorse P ca r).payload (endorse P ca r).signature = true)
    (ed : Bytes) (hed : ed = [] ∨ ed = r.digest) (so : Option SNPOptions)
    (hso : ∀ o, so = some o → snp r.sev o = true) :
    verifyEndorsement P cd (endorse P ca r) ⟨some [ca.root], t, ed, so⟩ = true := by
  have hprov : (decide (r.timestamp > cd) && r.clSpec == 0 && r.commit.isEmpty) = false := by
    rcases hp with h | h <;> simp [h]
  have hdig : (!ed.isEmpty && ed != r.digest) = false := by
    rcases hed with rfl | rfl <;> simp
  unfold verifyEndorsement
  simp only [hum, hprov, hchain, hsig, hdig, Bool.false_eq_true, if_false, Bool.not_true]
  cases so with
  | none => rfl
  | some o => exact hso o rfl

theorem mlookup_of_mem (m : List (Nat × Bytes)) (hn : (m.map (·.1)).Nodup) (n : Nat) (v : Bytes)
    (h : (n, v) ∈ m) : mlookup m n = some v := by
  induction m with
  | nil => cases h
  | cons a t ih =>
    rw [List.map_cons, List.nodup_cons] at hn
    unfold mlookup
    rcases List.mem_cons.mp h with rfl | h'
    · simp
    · have : (a.1 == n) = false := beq_false_of_ne fun heq => hn.1 (heq ▸ List.mem_map_of_mem (f := (·.1)) h')
      rw [List.find?_cons, this]
      exact ih hn.2 h'

/-- For every policy type: the policy derived for a row's RAM size admits the row's MRTD, for well-formed
    tables (48-byte MRTDs). -/
theorem every_listed_mrtd_accepted {Q R : Type} (eq : Q) (er : R) (rows : List TdxRow)
    (hwf : ∀ x ∈ rows, x.mrtd.length = mrTdSize) (row : TdxRow) (hmem : row ∈ rows) (hram : row.ramGib < 4294967296) :
    tdxValidateMeasurement eq er (some rows) row.mrtd (none : Option (TdxPolicy Q R)) false
      (row.ramGib : Int) true = true := by
  have hu : u32 (row.ramGib : Int) = row.ramGib := by
    unfold u32; rw [Int.emod_eq_of_lt (Int.natCast_nonneg _) (by omega)]; rfl
  unfold tdxValidateMeasurement tdxPolicy
  simp only [hu]
  have hsel : row ∈ rows.filter (fun m => ((row.ramGib : Int) == 0 || m.ramGib == row.ramGib)) :=
    List.mem_filter.mpr ⟨hmem, by simp⟩
  -- from here on only this matters: the selected rows are well-formed and `row` is among them
  generalize hs : rows.filter _ = sel at hsel ⊢
  replace hwf : ∀ x ∈ sel, x.mrtd.length = mrTdSize := fun x hx => hwf x (List.mem_filter.mp (hs ▸ hx)).1
  have hany : (sel.any fun m => decide (m.mrtd.length ≠ mrTdSize)) = false :=
    List.any_eq_false.mpr fun x hx h => of_decide_eq_true h (hwf x hx)
  have hne : sel.isEmpty = false := List.isEmpty_eq_false_iff_exists_mem.mpr ⟨_, hsel⟩
  simp only [hany, hne, Bool.false_eq_true, if_false, Option.getD_none, modifyTdxPolicy,
    Option.map_some, Option.getD_some, Bool.true_and, Bool.and_eq_true]
  constructor
  · simpa [lengthCheckMany] using fun x hx => Or.inr (hwf x hx)
  · unfold byteCheckAny
    rw [List.isEmpty_map, hne]
    exact List.any_eq_true.mpr ⟨row.mrtd, List.mem_map_of_mem hsel, by simp [byteCheck, hwf row hsel, mrTdSize]⟩

end GceTcb.Pipeline
