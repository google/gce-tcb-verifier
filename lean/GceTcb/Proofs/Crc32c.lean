import GceTcb.Proofs.Kms
/-
CRC32C detects every single-bit error — proved for the executable `crc32c` of Model/Kms.lean (the function the
driver compares with Go's hash/crc32 on every run).  Idea: one bit step `crcStep` of the reflected
shift-register is injective (the polynomial 0x82F63B78 has bit 31 set, so bit 31 of the result tells which
branch was taken and the rest gives the shifted-out state back); hence a byte step is injective in the
register for a fixed byte and in the byte for a fixed register; a flipped bit changes one byte, so the
registers differ after that byte and stay different through the remaining bytes.  Core only.
-/
namespace GceTcb.Kms
open GceTcb

private def P : Nat := 0x82F63B78
private def stepN (c : Nat) : Nat := if c.testBit 0 = true then (c / 2) ^^^ P else c / 2

private theorem crcStep_toNat (c : UInt32) : (crcStep c).toNat = stepN c.toNat := by
  unfold crcStep stepN
  have h1 : (c &&& 1 = 1) ↔ c.toNat.testBit 0 = true := by
    rw [← UInt32.toNat_inj]
    simp [UInt32.toNat_and, Nat.and_one_is_mod]
  by_cases h : c.toNat.testBit 0 = true
  · rw [if_pos (h1.mpr h), if_pos h]
    simp [UInt32.toNat_xor, UInt32.toNat_shiftRight, Nat.shiftRight_eq_div_pow, P]
  · rw [if_neg (mt h1.mp h), if_neg h]
    simp [UInt32.toNat_shiftRight, Nat.shiftRight_eq_div_pow]

private theorem stepN_testBit31 (c : Nat) (hc : c < 2^32) : (stepN c).testBit 31 = c.testBit 0 := by
  unfold stepN
  have h0 : (c / 2).testBit 31 = false := Nat.testBit_lt_two_pow (Nat.div_lt_of_lt_mul hc)
  cases h : c.testBit 0
  · rw [if_neg nofun, h0]
  · rw [if_pos rfl, Nat.testBit_xor, h0]; rfl

private theorem stepN_inj (a b : Nat) (ha : a < 2^32) (hb : b < 2^32) (h : stepN a = stepN b) : a = b := by
  have h0 : a.testBit 0 = b.testBit 0 := by rw [← stepN_testBit31 a ha, ← stepN_testBit31 b hb, h]
  have hd : a / 2 = b / 2 := by
    unfold stepN at h
    rw [h0] at h
    by_cases hb0 : b.testBit 0 = true
    · rw [if_pos hb0, if_pos hb0] at h
      simpa only [Nat.xor_assoc, Nat.xor_self, Nat.xor_zero] using congrArg (· ^^^ P) h
    · rw [if_neg hb0, if_neg hb0] at h; exact h
  refine Nat.eq_of_testBit_eq fun i => ?_
  cases i with
  | zero => exact h0
  | succ i => rw [Nat.testBit_succ, Nat.testBit_succ, hd]

private theorem crcStep_inj {a b : UInt32} (h : crcStep a = crcStep b) : a = b :=
  UInt32.toNat_inj.mp (stepN_inj _ _ a.toNat_lt b.toNat_lt (by rw [← crcStep_toNat, ← crcStep_toNat, h]))

private theorem crcByte_inj {c d : UInt32} {a b : UInt8} (h : crcByte c a = crcByte d b) :
    c ^^^ a.toUInt32 = d ^^^ b.toUInt32 :=
  crcStep_inj (crcStep_inj (crcStep_inj (crcStep_inj (crcStep_inj (crcStep_inj (crcStep_inj (crcStep_inj h)))))))

private theorem fold_inj_state (bs : Bytes) {s t : UInt32} (h : s ≠ t) : bs.foldl crcByte s ≠ bs.foldl crcByte t := by
  induction bs generalizing s t with
  | nil => exact h
  | cons b bs ih => exact ih fun e => h ((UInt32.xor_left_inj _).mp (crcByte_inj e))

private theorem flip_ne (b : UInt8) (i : Nat) (hi : i < 8) : b ^^^ (1 <<< i.toUInt8) ≠ b := by
  intro h
  have : ∀ j : Fin 8, (1 <<< j.val.toUInt8 : UInt8) ≠ 0 := by decide
  exact this ⟨i, hi⟩ ((UInt8.xor_right_inj b).mp (h.trans UInt8.xor_zero.symm))

private theorem fold_flip_ne (bs : Bytes) (s : UInt32) (i : Nat) (h : i < 8 * bs.length) :
    (flipBit bs i).foldl crcByte s ≠ bs.foldl crcByte s := by
  induction bs generalizing s i with
  | nil => cases h
  | cons b bs ih =>
    unfold flipBit
    by_cases hi : i < 8
    · rw [if_pos hi]
      exact fold_inj_state bs fun e =>
        flip_ne b i hi (UInt8.toUInt32_inj.mp ((UInt32.xor_right_inj _).mp (crcByte_inj e)))
    · rw [if_neg hi]
      exact ih _ _ (Nat.sub_lt_right_of_lt_add (Nat.le_of_not_lt hi) h)

theorem crc32c_single_bit : CrcSingleBit crc32c := by
  intro bs i hi h
  unfold crc32c at h
  exact fold_flip_ne bs _ i hi ((UInt32.xor_left_inj _).mp (UInt32.toNat_inj.mp h))

end GceTcb.Kms
