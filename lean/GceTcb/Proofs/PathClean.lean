import GceTcb.Model.Paths
import GceTcb.Proofs.SecureJoin
/-
Laws of Go's path.Clean / path.Join (model: SecureJoin.clean / joinElems) used by C13 / C14: shape of a
cleaned path, idempotence, extension of a directory text by a clean local name and its injectivity,
associativity of Join up to Clean for a relative inner element. Shape, idempotence and associativity come
from one normal form: a component list acts on every stack like some ".." followed by normal components
(`foldl_cleanStep_nf`). Then the cleaned endorsement basename (ending in ".binarypb") as a clean local
path, and the same laws on `String` for `Paths.pclean` / `Paths.pjoin` / `Paths.outPath`.
-/
namespace GceTcb.SecureJoin

theorem cleanStep_dot (r : Bool) (st : List Name) : cleanStep r st ['.'] = st := by
  simp [cleanStep]

theorem foldl_cleanStep_nf (l : List Name) (hl : ∀ c ∈ l, '/' ∉ c) :
    ∃ k ns, AllNormal ns ∧
      ∀ r st, l.foldl (cleanStep r) st = (List.replicate k dotdot ++ ns).foldl (cleanStep r) st := by
  induction l with
  | nil => exact ⟨0, [], AllNormal.nil, fun _ _ => rfl⟩
  | cons c l ih =>
    obtain ⟨hc, hl⟩ := List.forall_mem_cons.mp hl
    obtain ⟨k, ns, hn, h⟩ := ih hl
    rcases comp_cases hc with hc | rfl | hc
    · exact ⟨k, ns, hn, fun r st => by rw [List.foldl_cons, cleanStep_skip r st hc, h]⟩
    · exact ⟨k + 1, ns, hn, fun r st => by rw [List.foldl_cons, h]; rfl⟩
    · cases k with
      | zero => exact ⟨0, c :: ns, List.forall_mem_cons.mpr ⟨hc, hn⟩, fun r st => by rw [List.foldl_cons, h]; rfl⟩
      | succ k =>
        -- the component is taken back by the first ".."
        exact ⟨k, ns, hn, fun r st => by
          rw [List.foldl_cons, h, cleanStep_normal r st c hc, List.replicate_succ, List.cons_append, List.foldl_cons,
            cleanStep_dotdot_cons r hc.2.2.1]⟩

/-- A rooted path drops its leading "..". -/
theorem foldl_cleanStep_nf_nil (r : Bool) (k : Nat) (ns : List Name) (hn : AllNormal ns) :
    ((List.replicate k dotdot ++ ns).foldl (cleanStep r) []).reverse =
      List.replicate (if r then 0 else k) dotdot ++ ns := by
  have hd : (List.replicate k dotdot).foldl (cleanStep r) [] = List.replicate (if r then 0 else k) dotdot := by
    induction k with
    | zero => cases r <;> rfl
    | succ k ih =>
      rw [List.replicate_succ', List.foldl_append, ih]
      cases r with
      | true => rfl
      | false =>
        cases k with
        | zero => rfl
        | succ k => exact cleanStep_dotdot_dotdot false _
  rw [List.foldl_append, hd, foldl_cleanStep_normal r ns hn, List.reverse_append, List.reverse_reverse,
    List.reverse_replicate]

theorem cleanStack_shape (p : PathStr) :
    ∃ k ns, cleanStack p = List.replicate k dotdot ++ ns ∧ AllNormal ns ∧ (isAbs p = true → k = 0) := by
  obtain ⟨k, ns, hn, h⟩ := foldl_cleanStep_nf (splitSlash p) (splitSlash_no_slash p)
  exact ⟨_, ns, by rw [cleanStack, h, foldl_cleanStep_nf_nil _ k ns hn], hn, fun h => if_pos h⟩

theorem nf_mem {k : Nat} {ns : List Name} (hn : AllNormal ns) :
    ∀ c ∈ List.replicate k dotdot ++ ns, c ≠ [] ∧ '/' ∉ c := by
  intro c hc
  rcases List.mem_append.mp hc with hc | hc
  · rw [(List.mem_replicate.mp hc).2]; decide
  · exact hn.rel c hc

theorem cleanStack_mem (p : PathStr) : ∀ c ∈ cleanStack p, c ≠ [] ∧ '/' ∉ c := by
  obtain ⟨k, ns, h, hn, _⟩ := cleanStack_shape p
  rw [h]
  exact nf_mem hn

theorem splitSlash_renderClean (r : Bool) (l : List Name) (hl : ∀ x ∈ l, '/' ∉ x) (h0 : l ≠ []) :
    splitSlash (renderClean r l) = if r then [] :: l else l := by
  cases r with
  | true => exact splitSlash_renderAbs l hl h0
  | false =>
    obtain ⟨c, cs, rfl⟩ := List.exists_cons_of_ne_nil h0
    exact splitSlash_renderRel c cs hl

theorem renderClean_append_inj (r : Bool) (T a b : List Name) (hT : ∀ c ∈ T, '/' ∉ c) (ha : AllNormal a)
    (hb : AllNormal b) (ha0 : a ≠ []) (hb0 : b ≠ []) (h : renderClean r (T ++ a) = renderClean r (T ++ b)) : a = b := by
  have hsl : ∀ l : List Name, AllNormal l → ∀ x ∈ T ++ l, '/' ∉ x := fun l hl =>
    List.forall_mem_append.mpr ⟨hT, hl.noslash⟩
  have hs := congrArg splitSlash h
  rw [splitSlash_renderClean r _ (hsl a ha) (by simp [ha0]), splitSlash_renderClean r _ (hsl b hb) (by simp [hb0])] at hs
  cases r with
  | true => exact List.append_cancel_left (List.tail_eq_of_cons_eq hs)
  | false => exact List.append_cancel_left hs

theorem clean_renderAbs (ns : List Name) (hn : AllNormal ns) : clean (renderAbs ns) = renderAbs ns := by
  rw [clean_of_ne _ (renderAbs_ne_nil ns), isAbs_renderAbs, cleanStack_renderAbs ns hn]
  rfl

theorem clean_renderRel (ns : List Name) (hn : AllNormal ns) (h0 : ns ≠ []) :
    clean (renderRel ns) = renderRel ns := by
  obtain ⟨habs, hne⟩ := renderRel_rel ns hn.rel
  obtain ⟨c, cs, rfl⟩ := List.exists_cons_of_ne_nil h0
  rw [clean_of_ne _ hne, habs, cleanStack, habs, splitSlash_renderRel c cs hn.noslash, foldl_cleanStep_normal _ _ hn,
    List.append_nil, List.reverse_reverse]
  rfl

theorem clean_ne_nil (p : PathStr) : clean p ≠ [] := by
  unfold clean
  split
  · simp
  · unfold renderClean
    split
    · exact renderAbs_ne_nil _
    · exact (renderRel_rel _ (cleanStack_mem p)).2

theorem foldl_splitSlash_clean (r : Bool) (st : List Name) (x : PathStr) (hx0 : x ≠ []) (hx : isAbs x = false) :
    (splitSlash (clean x)).foldl (cleanStep r) st = (splitSlash x).foldl (cleanStep r) st := by
  obtain ⟨k, ns, hn, h⟩ := foldl_cleanStep_nf (splitSlash x) (splitSlash_no_slash x)
  have hst : cleanStack x = List.replicate k dotdot ++ ns := by
    rw [cleanStack, hx, h, foldl_cleanStep_nf_nil false k ns hn]
    rfl
  rw [clean_of_ne x hx0, hx, hst, h]
  cases hF : List.replicate k dotdot ++ ns with
  | nil => rfl
  | cons c cs =>
    rw [splitSlash_renderClean false _ (fun y hy => by rw [← hF] at hy; exact (nf_mem hn y hy).2) (List.cons_ne_nil c cs)]
    rfl

theorem clean_idem (p : PathStr) : clean (clean p) = clean p := by
  by_cases hp : p = []
  · subst hp; decide
  cases hr : isAbs p with
  | true =>
    obtain ⟨k, ns, hs, hn, hk⟩ := cleanStack_shape p
    rw [clean_of_ne p hp, hr, hs, hk hr]
    exact clean_renderAbs ns hn
  | false =>
    have hc : clean p = renderRel (cleanStack p) := by rw [clean_of_ne p hp, hr]; rfl
    obtain ⟨habs, hne⟩ := renderRel_rel _ (cleanStack_mem p)
    rw [← hc] at habs hne
    rw [clean_of_ne _ hne, habs, cleanStack, habs, foldl_splitSlash_clean false [] p hp hr, ← hr, ← cleanStack, hr]
    exact hc.symm

theorem clean_join_clean (a x : PathStr) (ha : a ≠ []) (hx0 : x ≠ []) (hx : isAbs x = false) :
    clean (a ++ '/' :: clean x) = clean (a ++ '/' :: x) := by
  rw [clean_of_ne (a ++ '/' :: clean x) (by simp [ha]), clean_of_ne (a ++ '/' :: x) (by simp [ha]),
    isAbs_append a _ ha, isAbs_append a _ ha, cleanStack_append_slash a _ ha, cleanStack_append_slash a _ ha,
    foldl_splitSlash_clean _ _ x hx0 hx]

theorem flatMap_slash (ns : List Name) (h0 : ns ≠ []) : ns.flatMap ('/' :: ·) = '/' :: renderRel ns := by
  cases ns with
  | nil => exact absurd rfl h0
  | cons c cs => simp [renderRel]

/-- A map from local names to path texts that extends a fixed cleaned directory (`rooted`, stack `T`)
    by the name's components. -/
def Ext (f : PathStr → PathStr) : Prop :=
  ∃ (r : Bool) (T : List Name), (∀ c ∈ T, '/' ∉ c) ∧
    ∀ ns, AllNormal ns → ns ≠ [] → f (renderRel ns) = renderClean r (T ++ ns)

/-- … or, as texts: the name itself, or a fixed text, "/", the name. -/
def Pre (f : PathStr → PathStr) : Prop :=
  (∀ ns, AllNormal ns → ns ≠ [] → f (renderRel ns) = renderRel ns) ∨
  (∃ Y : PathStr, ∀ ns, AllNormal ns → ns ≠ [] → f (renderRel ns) = Y ++ '/' :: renderRel ns)

theorem Ext.pre {f : PathStr → PathStr} (h : Ext f) : Pre f := by
  obtain ⟨r, T, _, hf⟩ := h
  cases r with
  | true =>
    refine .inr ⟨T.flatMap ('/' :: ·), fun ns hn h0 => ?_⟩
    rw [hf ns hn h0, ← flatMap_slash ns h0, ← List.flatMap_append]
    exact (if_neg (List.append_ne_nil_of_right_ne_nil T h0) : renderAbs (T ++ ns) = _)
  | false =>
    cases T with
    | nil => exact .inl hf
    | cons t ts =>
      refine .inr ⟨renderRel (t :: ts), fun ns hn h0 => ?_⟩
      rw [hf ns hn h0, ← flatMap_slash ns h0]
      simp [renderClean, renderRel]

theorem Ext.congr {f g : PathStr → PathStr} (h : Ext g)
    (hfg : ∀ ns, AllNormal ns → ns ≠ [] → f (renderRel ns) = g (renderRel ns)) : Ext f := by
  obtain ⟨r, T, hT, hg⟩ := h
  exact ⟨r, T, hT, fun ns hn h0 => (hfg ns hn h0).trans (hg ns hn h0)⟩

theorem ext_clean_slash (P : PathStr) : Ext (fun b => clean (P ++ '/' :: b)) := by
  by_cases hP : P = []
  · subst hP
    refine ⟨true, [], by simp, fun ns hn h0 => ?_⟩
    show clean ('/' :: renderRel ns) = renderAbs ns
    rw [← flatMap_slash ns h0, ← clean_renderAbs ns hn, renderAbs, if_neg h0]
  · refine ⟨isAbs P, cleanStack P, fun c hc => (cleanStack_mem P c hc).2, fun ns hn h0 => ?_⟩
    obtain ⟨c, cs, rfl⟩ := List.exists_cons_of_ne_nil h0
    show clean (P ++ '/' :: renderRel (c :: cs)) = _
    rw [clean_of_ne _ (by simp [hP]), isAbs_append P _ hP, cleanStack_append_slash P _ hP,
      splitSlash_renderRel c cs hn.noslash, foldl_cleanStep_normal _ _ hn, List.reverse_append, List.reverse_reverse,
      List.reverse_reverse]

/-- go: path.Join(dir, name) -/
theorem ext_join_dir (dir : PathStr) : Ext (fun b => joinElems [dir, b]) := by
  have hj : ∀ ns, AllNormal ns → joinElems [dir, renderRel ns] = goJoin dir (renderRel ns) := fun ns hn =>
    (goJoin_eq_joinElems dir _ (renderRel_rel ns hn.rel).2).symm
  by_cases hd : dir = []
  · refine ⟨false, [], by simp, fun ns hn h0 => ?_⟩
    show joinElems [dir, renderRel ns] = renderRel ns
    rw [hj ns hn, goJoin, if_pos hd, clean_renderRel ns hn h0]
  · exact (ext_clean_slash dir).congr fun ns hn _ => (hj ns hn).trans (if_neg hd)

/-- go: path.Join(root, f(name)) -/
theorem ext_join_root {f : PathStr → PathStr} (h : Ext f) (root : PathStr) :
    Ext (fun b => joinElems [root, f b]) := by
  rcases h.pre with hf | ⟨Y, hf⟩
  · exact (ext_join_dir root).congr fun ns hn h0 => by rw [hf ns hn h0]
  · have hj : ∀ ns, AllNormal ns → ns ≠ [] →
        joinElems [root, f (renderRel ns)] = goJoin root (Y ++ '/' :: renderRel ns) :=
      fun ns hn h0 => by rw [hf ns hn h0, goJoin_eq_joinElems root _ (by simp)]
    by_cases hr : root = []
    · exact (ext_clean_slash Y).congr fun ns hn h0 => (hj ns hn h0).trans (if_pos hr)
    · exact (ext_clean_slash (root ++ '/' :: Y)).congr fun ns hn h0 => by
        rw [hj ns hn h0, goJoin, if_neg hr, List.append_assoc, List.cons_append]

theorem Ext.inj {f : PathStr → PathStr} (h : Ext f) (a b : List Name) (ha : AllNormal a) (hb : AllNormal b)
    (ha0 : a ≠ []) (hb0 : b ≠ []) (he : f (renderRel a) = f (renderRel b)) : a = b := by
  obtain ⟨r, T, hT, hf⟩ := h
  rw [hf a ha ha0, hf b hb hb0] at he
  exact renderClean_append_inj r T a b hT ha hb ha0 hb0 he

theorem splitSlash_append_noslash (y s : PathStr) (hs : '/' ∉ s) :
    ∃ init last, splitSlash y = init ++ [last] ∧ splitSlash (y ++ s) = init ++ [last ++ s] := by
  induction y with
  | nil => exact ⟨[], [], rfl, by simp [splitSlash_noslash s hs]⟩
  | cons c cs ih =>
    obtain ⟨init, last, h1, h2⟩ := ih
    by_cases hc : c = '/'
    · exact ⟨[] :: init, last, by simp [splitSlash, hc, h1], by simp [splitSlash, hc, h2]⟩
    · cases init with
      | nil => exact ⟨[], c :: last, by simp [splitSlash, hc, h1], by simp [splitSlash, hc, h2]⟩
      | cons i is => exact ⟨(c :: i) :: is, last, by simp [splitSlash, hc, h1], by simp [splitSlash, hc, h2]⟩

/-- The file extension the endorsement basename always ends in. -/
def extChars : PathStr := ['.', 'b', 'i', 'n', 'a', 'r', 'y', 'p', 'b']

theorem normal_append_ext (z : Name) (hz : '/' ∉ z) : Normal (z ++ extChars) := by
  -- too long to be "", "." or ".."
  have hne : ∀ l : Name, l.length < 9 → z ++ extChars ≠ l := fun l hl h => by
    rw [← h, List.length_append] at hl
    exact Nat.not_lt.mpr (Nat.le_add_left 9 _) hl
  exact ⟨hne _ (by decide), hne _ (by decide), hne _ (by decide),
    fun h => (List.mem_append.mp h).elim hz (by decide)⟩

theorem cleanStack_ext (y : PathStr) :
    ∃ k ns l, cleanStack (y ++ extChars) = List.replicate k dotdot ++ ns ++ [l] ∧ AllNormal ns ∧ Normal l ∧
      (isAbs (y ++ extChars) = true → k = 0) := by
  obtain ⟨init, last, h1, h2⟩ := splitSlash_append_noslash y extChars (by decide)
  have hnos : ∀ c ∈ init ++ [last], '/' ∉ c := by rw [← h1]; exact splitSlash_no_slash y
  have hl : Normal (last ++ extChars) := normal_append_ext last (hnos last (by simp))
  obtain ⟨k, ns, hn, h⟩ := foldl_cleanStep_nf init fun c hc => hnos c (List.mem_append_left _ hc)
  refine ⟨if isAbs (y ++ extChars) then 0 else k, ns, last ++ extChars, ?_, hn, hl, fun h => if_pos h⟩
  rw [cleanStack, h2, List.foldl_append, List.foldl_cons, List.foldl_nil, cleanStep_normal _ _ _ hl, List.reverse_cons, h,
    foldl_cleanStep_nf_nil _ k ns hn]

def climbsL (b : PathStr) : Bool := ['.', '.', '/'].isPrefixOf b

theorem clean_ext_local (y : PathStr) (habs : isAbs (clean (y ++ extChars)) = false)
    (hcl : climbsL (clean (y ++ extChars)) = false) :
    ∃ ns, AllNormal ns ∧ ns ≠ [] ∧ clean (y ++ extChars) = renderRel ns := by
  obtain ⟨k, ns, l, hs, hn, hl, hk⟩ := cleanStack_ext y
  rw [clean_of_ne _ (by simp [extChars]), hs] at habs hcl ⊢
  cases hr : isAbs (y ++ extChars) with
  | true => rw [hr] at habs; cases (isAbs_renderAbs _).symm.trans habs
  | false =>
    rw [hr] at hcl
    cases k with
    | zero => exact ⟨ns ++ [l], hn.snoc hl, by simp, rfl⟩
    | succ k =>
      -- ".." with at least `l` behind it: the text starts with "../"
      cases hrest : List.replicate k dotdot ++ ns ++ [l] with
      | nil => simp at hrest
      | cons c cs =>
        rw [List.replicate_succ, List.cons_append, List.cons_append, hrest] at hcl
        exact Bool.noConfusion (hcl : true = false)

theorem renderRel_local (ns : List Name) (hn : AllNormal ns) (h0 : ns ≠ []) :
    isAbs (renderRel ns) = false ∧ climbsL (renderRel ns) = false := by
  refine ⟨(renderRel_rel ns hn.rel).1, ?_⟩
  obtain ⟨c, cs, rfl⟩ := List.exists_cons_of_ne_nil h0
  -- "../" in front would make ".." the first component
  cases hcl : climbsL (renderRel (c :: cs)) with
  | false => rfl
  | true =>
    obtain ⟨t, ht⟩ := List.isPrefixOf_iff_prefix.mp hcl
    have hs := splitSlash_renderRel c cs hn.noslash
    rw [← ht, show ['.', '.', '/'] ++ t = dotdot ++ '/' :: t from rfl, splitSlash_append_slash] at hs
    exact absurd (List.cons.inj hs).1.symm (hn c List.mem_cons_self).2.2.1

end GceTcb.SecureJoin

namespace GceTcb.Paths
open GceTcb.SecureJoin

/-- A clean local path: one or more normal components (not "", ".", "..", '/'-free) joined by '/'.
    Exactly the relative paths that path.Clean leaves alone and that do not climb. -/
def LocalClean (b : String) : Prop := ∃ ns, AllNormal ns ∧ ns ≠ [] ∧ b.toList = renderRel ns

theorem pclean_toList (s : String) : (pclean s).toList = clean s.toList := String.toList_ofList

theorem pjoin_toList (l : List String) : (pjoin l).toList = joinElems (l.map String.toList) :=
  String.toList_ofList

theorem pclean_idem (s : String) : pclean (pclean s) = pclean s := by
  apply String.ext
  rw [pclean_toList, pclean_toList, clean_idem]

theorem pclean_ne_empty (s : String) : pclean s ≠ "" := by
  intro h
  have := congrArg String.toList h
  rw [pclean_toList] at this
  exact clean_ne_nil _ this

theorem LocalClean.pclean_eq {b : String} (h : LocalClean b) : pclean b = b := by
  obtain ⟨ns, hn, h0, hb⟩ := h
  apply String.ext
  rw [pclean_toList, hb, clean_renderRel ns hn h0]

theorem climbs_eq (b : String) : climbs b = climbsL b.toList := rfl

/-- A clean local path passes the name test of defaultGenerateBasename. -/
theorem LocalClean.localName {b : String} (h : LocalClean b) : localName b = true := by
  obtain ⟨ns, hn, h0, hb⟩ := h
  obtain ⟨h1, h2⟩ := renderRel_local ns hn h0
  simp [Paths.localName, pisAbs, climbs_eq, hb, h1, h2]

theorem LocalClean.ne_empty {b : String} (h : LocalClean b) : b ≠ "" := by
  obtain ⟨ns, hn, h0, hb⟩ := h
  intro he
  rw [he] at hb
  exact (renderRel_rel ns hn.rel).2 hb.symm

theorem ext_toList : ".binarypb".toList = extChars := String.toList_ofList

theorem cleanBasename_toList (cand : String) :
    (cleanBasename cand).toList = clean ((if cand == "" then "endorsement" else cand).toList ++ extChars) := by
  rw [cleanBasename, pclean_toList, String.toList_append, ext_toList]

theorem cleanBasename_local (cand : String) (h : localName (cleanBasename cand) = true) :
    LocalClean (cleanBasename cand) := by
  rw [Paths.localName, pisAbs, climbs_eq, cleanBasename_toList] at h
  simp only [Bool.and_eq_true, Bool.not_eq_true'] at h
  rw [LocalClean, cleanBasename_toList]
  exact clean_ext_local _ h.1 h.2

theorem localName_cleanBasename_iff (cand : String) :
    localName (cleanBasename cand) = true ↔ LocalClean (cleanBasename cand) :=
  ⟨cleanBasename_local cand, LocalClean.localName⟩

theorem cleanBasename_plain (cand : String) (h : '/' ∉ cand.toList) :
    cleanBasename cand = (if cand == "" then "endorsement" else cand) ++ ".binarypb" ∧
    LocalClean (cleanBasename cand) := by
  have hrel : '/' ∉ (if cand == "" then "endorsement" else cand).toList := by
    split
    · rw [String.toList_ofList]; decide
    · exact h
  unfold cleanBasename
  generalize (if cand == "" then "endorsement" else cand) = rel at hrel ⊢
  have hlc : LocalClean (rel ++ ".binarypb") :=
    ⟨[rel.toList ++ extChars], List.forall_mem_singleton.mpr (normal_append_ext _ hrel), List.cons_ne_nil _ _,
      by rw [String.toList_append, ext_toList]; exact (List.append_nil _).symm⟩
  rw [hlc.pclean_eq]
  exact ⟨rfl, hlc⟩

theorem manifestFile_local : LocalClean "manifest.textproto" := by
  refine ⟨["manifest.textproto".toList], fun c hc => ?_, List.cons_ne_nil _ _, (List.append_nil _).symm⟩
  rw [List.mem_singleton.mp hc, String.toList_ofList]
  exact ⟨by decide, by decide, by decide, by decide⟩

/-- The full path of a local name: a fixed text (empty for ReleasePath = path.Join, root + "/" for
    ReleasePath = concatenation), then a fixed cleaned directory extended by the components of the name. -/
theorem outPath_ext (mode : RelMode) (root outDir : String) :
    ∃ (pre : PathStr) (r : Bool) (T : List Name), (∀ c ∈ T, '/' ∉ c) ∧
      ∀ (b : String) (ns : List Name), AllNormal ns → ns ≠ [] → b.toList = renderRel ns →
        (outPath mode root outDir b).toList = pre ++ renderClean r (T ++ ns) := by
  obtain ⟨pre, g, ⟨r, T, hT, hE⟩, h⟩ :
      ∃ pre g, Ext g ∧ ∀ b, (outPath mode root outDir b).toList = pre ++ g b.toList := by
    cases mode with
    | concat =>
      exact ⟨root.toList ++ ['/'], _, ext_join_dir outDir.toList, fun b => by simp [outPath, release, pjoin_toList]⟩
    | join =>
      exact ⟨[], _, ext_join_root (ext_join_dir outDir.toList) root.toList, fun b => by
        simp [outPath, release, pjoin_toList]⟩
  exact ⟨pre, r, T, hT, fun b ns hn h0 hb => by rw [h, hb, hE ns hn h0]⟩

theorem outPath_inj (mode : RelMode) (root outDir : String) (b₁ b₂ : String)
    (h₁ : LocalClean b₁) (h₂ : LocalClean b₂)
    (he : outPath mode root outDir b₁ = outPath mode root outDir b₂) : b₁ = b₂ := by
  obtain ⟨pre, r, T, hT, hE⟩ := outPath_ext mode root outDir
  obtain ⟨n1, hn1, h01, hb1⟩ := h₁
  obtain ⟨n2, hn2, h02, hb2⟩ := h₂
  have := congrArg String.toList he
  rw [hE b₁ n1 hn1 h01 hb1, hE b₂ n2 hn2 h02 hb2] at this
  apply String.ext
  rw [hb1, hb2, renderClean_append_inj r T n1 n2 hT hn1 hn2 h01 h02 (List.append_cancel_left this)]

/-- path.Join is associative only for a non-empty relative `b`; `a` and `c` may be empty. -/
theorem pjoin_assoc (a b c : String) (hb : b ≠ "") (hr : pisAbs b = false) :
    pjoin [a, pjoin [b, c]] = pjoin [a, b, c] := by
  apply String.ext
  have hbl : b.toList ≠ [] := fun h => hb (String.toList_eq_nil_iff.mp h)
  have hinner : joinElems [b.toList, c.toList] = clean (b.toList ++ '/' :: c.toList) := by
    simp [joinElems, List.dropWhile, hbl]
  simp only [pjoin_toList, List.map_cons, List.map_nil]
  rw [hinner, ← goJoin_eq_joinElems _ _ (clean_ne_nil _), goJoin]
  by_cases ha : a.toList = []
  · rw [if_pos ha, clean_idem]
    simp [joinElems, List.dropWhile, ha, hbl]
  · rw [if_neg ha, clean_join_clean _ _ ha (by simp) ((isAbs_append _ _ hbl).trans hr)]
    simp [joinElems, List.dropWhile, ha]

end GceTcb.Paths
