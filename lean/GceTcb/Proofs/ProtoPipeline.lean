import GceTcb.Proofs.ProtoEndorse
/-
The C03 pipeline with protobuf instantiated by the wire codec: `unmarshal (marshal g) = some g` is a
theorem for every representable document.  Core-only.
-/
namespace GceTcb.ProtoEndorse
open GceTcb GceTcb.ProtoWire GceTcb.Pipeline GceTcb.Policy

/-- What is still assumed once protobuf is the Lean codec: RSA-PSS sign/verify agreement, X.509 path
    validation for a leaf issued by a self-signed CA root inside both validity windows, and that a DER
    certificate is non-empty and parses back. -/
structure CryptoLaws (X : Crypto) : Prop where
  sig_ok : ∀ k m, X.checkSig k m (X.sign k m) = true
  chain_ok : ∀ (c r : Cert) (now : Nat), c.issuer = r.subject → r.issuer = r.subject → r.isCA = true →
    r.valid now → c.valid now → X.verifyChain c [r] now = true
  cert_parse : ∀ c, X.parseCert (X.certDer c) = some c
  cert_nonempty : ∀ c, X.certDer c ≠ []

/-- The document's values fit the Go types of the message fields, and its measurement map is given in
    canonical form (the Lean representation of a Go map: ascending keys). -/
structure Representable (g : Pipeline.Golden) : Prop where
  clSpec : g.clSpec < 18446744073709551616
  timestamp : g.timestamp < 9223372036854775808
  sev : ∀ s, g.sev = some s → s.svn < 4294967296 ∧ s.policy < 18446744073709551616 ∧
    SortedKeys s.measurements ∧ ∀ p ∈ s.measurements, p.1 < 4294967296
  tdx : ∀ rows, g.tdx = some rows → ∀ r ∈ rows, r.ramGib < 4294967296

theorem wf_toWire (X : Crypto) (g : Pipeline.Golden) (h : Representable g) : WfGolden (toWire X g) := by
  refine ⟨h.clSpec, ?_, ?_, ?_, rfl⟩
  · intro t ht
    cases ht
    have := h.timestamp
    exact ⟨by simp only; omega, by simp only; omega, by simp only; omega, by simp only; omega, rfl⟩
  · intro s hs
    obtain ⟨s0, h0, rfl⟩ := Option.map_eq_some_iff.mp hs
    obtain ⟨h1, h2, _, h4⟩ := h.sev s0 h0
    exact ⟨h1, h2, h4, rfl⟩
  · intro d hd
    obtain ⟨rows, h0, rfl⟩ := Option.map_eq_some_iff.mp hd
    refine ⟨Nat.zero_lt_succ _, fun r hr => ?_, rfl⟩
    obtain ⟨x, hx, rfl⟩ := List.mem_map.mp hr
    exact ⟨h.tdx rows h0 x hx, rfl⟩

theorem canon_toWire (X : Crypto) (g : Pipeline.Golden) (h : Representable g) :
    canonGolden (toWire X g) = toWire X g := by
  cases hs : g.sev with
  | none => simp [canonGolden, toWire, hs]
  | some s =>
    obtain ⟨_, _, h3, _⟩ := h.sev s hs
    simp [canonGolden, toWire, hs, canonSevSnp, sevToWire, normMap_eq_self_of_sorted _ h3]

theorem ofWire_toWire (X : Crypto) (hX : CryptoLaws X) (g : Pipeline.Golden) : ofWire X (toWire X g) = some g := by
  have hrows : ∀ rows : List TdxRow, List.map rowOfWire (List.map rowToWire rows) = rows := by
    intro rows
    induction rows with
    | nil => rfl
    | cons r rs ih => simp only [List.map_cons, ih]; rfl
  have hsev : Option.map sevOfWire (Option.map sevToWire g.sev) = g.sev := by
    cases g.sev with
    | none => rfl
    | some s => rfl
  have htdx : Option.map (fun d : WTdx => List.map rowOfWire d.measurements)
      (Option.map (fun rows : List TdxRow => (⟨0, List.map rowToWire rows, []⟩ : WTdx)) g.tdx) = g.tdx := by
    cases g.tdx with
    | none => rfl
    | some rows => simp only [Option.map_some, hrows]
  cases g with
  | mk digest clSpec commit timestamp cert sev tdx =>
    cases cert with
    | none =>
      simp only [ofWire, toWire, if_true] at hsev htdx ⊢
      simp only [hsev, htdx, Int.toNat_natCast]
    | some c =>
      simp only [ofWire, toWire, hX.cert_nonempty c, if_false, hX.cert_parse c] at hsev htdx ⊢
      simp only [hsev, htdx, Int.toNat_natCast]

theorem wirePrims_marshal (X : Crypto) (ord : List (Nat × Bytes) → List (Nat × Bytes)) :
    (wirePrims X ord).marshal = marshalGolden X ord := rfl

theorem wirePrims_unmarshal (X : Crypto) (ord : List (Nat × Bytes) → List (Nat × Bytes)) :
    (wirePrims X ord).unmarshal = unmarshalGolden X := rfl

/-- `unmarshal ∘ marshal = id` — what `Pipeline.Laws` assumes of protobuf — for the Lean codec, for every
    representable document, whatever order the marshaller's map iteration produces.  Stated for the
    projections of `wirePrims`, and rewritten with the two equations above: a definitional unfolding of
    `unmarshalGolden (marshalGolden …)` would run the decoder on the encoder symbolically. -/
theorem unmarshal_marshal_wire (X : Crypto) (hX : CryptoLaws X) (ord : List (Nat × Bytes) → List (Nat × Bytes))
    (hord : ∀ l, (ord l).Perm l) (g : Pipeline.Golden) (hg : Representable g)
    (hsz : ((wirePrims X ord).marshal g).length < 2 ^ 64) :
    (wirePrims X ord).unmarshal ((wirePrims X ord).marshal g) = some g := by
  have hm : marshalGolden X ord g = encodeGoldenRaw (reorderGolden ord (toWire X g)) := rfl
  rw [wirePrims_unmarshal, wirePrims_marshal, hm] at *
  unfold unmarshalGolden
  rw [decodeGolden_encodeRaw _ (wf_reorderGolden ord hord _ (wf_toWire X g hg)) hsz,
    canon_reorderGolden ord hord _ (canon_toWire X g hg)]
  exact ofWire_toWire X hX g

end GceTcb.ProtoEndorse
