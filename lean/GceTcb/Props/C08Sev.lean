import GceTcb.Model.SevCfg
import GceTcb.Model.SevSites
import GceTcb.Proofs.SnpBounds
import GceTcb.Gen.PanicSitesSev
import GceTcb.Props.C04
/-
C08 (SEV half) — firmware analysis is total and resource-bounded on arbitrary images: the GUIDed-table
walk, SEV-ES reset block and SEV-SNP metadata extraction, sev.LaunchDigest and sev.UnsignedSnp.

Every theorem quantifies over ALL byte strings (`fw : List UInt8`, any length) and all launch options
(`vcpus : Int`, any product value, any hash function).  "No panic": no checked operation of the model
(slice / index / make, Go semantics) fails.  "Ticks": iterations of the repository's own loops.
-/
namespace GceTcb.Props.C08Sev
open GceTcb GceTcb.GuidTable GceTcb.SevMeta GceTcb.SevLd
open GceTcb.Proofs

/-! ## the model's panic sites are the code's -/

/-- Every index / slice / make / conversion / type-assertion expression of the SEV firmware-analysis
    functions (regenerated inventory) is accounted for by the model, and nothing else is. -/
theorem C08_sites :
    SevSites.modelledSites.map (·.1) = Gen.PanicSitesSev.siteKeys ∧
    SevSites.modelledSites.map (·.2.1) = Gen.PanicSitesSev.siteSrcs :=
  -- by unfolding: the kernel compares string literals whole, `decide` would go through them character by character
  ⟨rfl, rfl⟩

/-- the sites at which the model can produce `panic` are inventoried expressions -/
theorem C08_checked_sites_inventoried :
    SevSites.checkedSites.all (fun c => Gen.PanicSitesSev.siteKeys.contains c) = true := by
  -- the checked sites by their positions in the inventory (literals are compared whole; a search would
  -- compare strings character by character)
  have h : SevSites.checkedSites =
      [52, 53, 61, 62, 63, 64, 66, 57, 58, 59, 60, 54, 55, 56, 0, 4, 5, 9, 14, 19, 80].filterMap
        (Gen.PanicSitesSev.siteKeys[·]?) := rfl
  rw [h]
  exact SnpTotal.all_contains_filterMap _ _

/-! ## no panic: the exported entry points, on every byte string -/

theorem C08_no_panic_GetFwGUIDToBlockMap (fw : Bytes) (p : String) : getFwGUIDToBlockMap fw ≠ .panic p :=
  SnpTotal.getFwGUIDToBlockMap_no_panic fw p

theorem C08_no_panic_ExtractFromFirmware (sevEs sevSnp : Bool) (fw : Bytes) (p : String) :
    extractFromFirmware sevEs sevSnp fw ≠ .panic p :=
  SnpTotal.extractFromFirmware_no_panic sevEs sevSnp fw p

theorem C08_no_panic_LaunchDigest (H : Bytes → Bytes) (o : Opts) (fw : Bytes) (p : String) :
    launchDigest H genCfg o fw ≠ .panic p :=
  SnpBounds.launchDigest_no_panic H genCfg C04.C04_cfg_is_spec o fw p

theorem C08_no_panic_UnsignedSnp (H : Bytes → Bytes) (familyOk imageOk : Bool) (launchVmsas product : Nat)
    (fw : Bytes) (p : String) :
    unsignedSnp H genCfg Gen.SevLayout.VmsaCounts familyOk imageOk launchVmsas product fw ≠ .panic p :=
  SnpBounds.unsignedSnp_no_panic H genCfg C04.C04_cfg_is_spec _ familyOk imageOk launchVmsas product fw p

/-- the repaired checks: a metadata offset below the 16-byte header, and a section count whose
    `count*12+16` wraps in 32 bits to the stored length, are errors (were: slice panics, D5) -/
theorem C08_offset_and_count_checked (m : BlockMap) (fw : Bytes) (count : Nat) (start : Int)
    (h : sevMetadataHeader m fw = .ok (count, start)) :
    0 ≤ start ∧ start + 12 * (count : Int) ≤ fw.length ∧ 12 * count + 16 ≤ fw.length := by
  rcases (SnpTotal.sevMetadataHeader_total m fw).cases with ⟨c, hc⟩ | ⟨_, h', hb⟩
  · rw [hc] at h; cases h
  · rw [h'] at h; cases h; exact hb

/-- The GUID-table walk terminates: one iteration removes an entry of at least 18 bytes from the
    unprocessed length.  (`guidWalk` is defined by well-founded recursion on that length; this lemma is
    the decreasing proof Lean's termination checker accepted.)  Hence at most `n/18 + 1` iterations. -/
theorem C08_guid_walk_terminates (table : Bytes) (n : Nat) (acc : BlockMap) :
    (∀ n' acc', walkStep table n acc = .ok (n', acc') → n' + 18 ≤ n) ∧
    guidWalkTicks table n acc ≤ n / 18 + 1 :=
  ⟨fun _ _ h => walkStep_decreases h, SnpTotal.guidWalkTicks_le table n acc⟩

/-! ## loop iterations and allocation, in the image length, the vCPU count and the declared pages -/

/-- GetFwGUIDToBlockMap: iterations linear in the image length -/
theorem C08_ticks_bound_GetFwGUIDToBlockMap (fw : Bytes) : getFwGUIDToBlockMapTicks fw ≤ fw.length / 18 + 1 :=
  SnpTotal.getFwGUIDToBlockMapTicks_le fw

/-- ExtractFromFirmware: table walk plus one iteration per 12-byte descriptor inside the image -/
theorem C08_ticks_bound_ExtractFromFirmware (sevEs sevSnp : Bool) (fw : Bytes) :
    extractFromFirmwareTicks sevEs sevSnp fw ≤ fw.length / 18 + 1 + fw.length / 12 :=
  SnpTotal.extractFromFirmwareTicks_le sevEs sevSnp fw

/-- the descriptor list an image can declare is bounded by its size (so are `make` and `append` on it) -/
theorem C08_alloc_bound_ExtractFromFirmware (fw : Bytes) (rb : Codecs.ResetBlock) (secs : List SnpSections.Sec)
    (h : extractFromFirmware true true fw = .ok (some rb, some secs)) : 12 * secs.length + 16 ≤ fw.length :=
  (SnpTotal.parsed_inRange h).1

/-- The full-strength reading of "time related to the image size" for LaunchDigest: iterations bounded
    by the image length and the vCPU count alone. -/
def C08_ticks_bound_LaunchDigest_full : Prop :=
  ∀ (o : Opts) (fw : Bytes), launchDigestTicks genCfg o fw ≤ fw.length / 2 + 4 + 2 * o.vcpus.toNat

/-- What is proved: the bound holds up to the pages the image's own metadata DECLARES
    (`declaredPagesOf fw`, the sum over the parsed descriptors of `length/4096 + 1`), which are hashed one
    PAGE_INFO each and are not bounded by the image size (a 12-byte descriptor declares up to 2^20 pages). -/
theorem C08_ticks_bound_LaunchDigest_partial (o : Opts) (fw : Bytes) :
    launchDigestTicks genCfg o fw ≤ fw.length / 2 + 4 + 2 * o.vcpus.toNat + SnpBounds.declaredPagesOf fw :=
  SnpBounds.launchDigestTicks_le genCfg o fw

/-- Witness of the known finding (time unrelated to the image size): one 12-byte descriptor of an
    unmeasured range of 0xFFFFD000 bytes makes the section loop hash 1 048 573 pages, whatever the image
    size.  (The whole-image replay is the harness case `gen:huge-sections`.) -/
theorem C08_finding_declared_pages :
    measureSectionsTicks (productHigh 48) [⟨0, 0xFFFFD000, kindUnmeasured⟩] = 1 + 1048573 ∧
    ¬ (∀ (high : Nat) (secs : List SnpSections.Sec), measureSectionsTicks high secs ≤ 12 * secs.length + 16) := by
  have h : measureSectionsTicks (productHigh 48) [⟨0, 0xFFFFD000, kindUnmeasured⟩] = 1 + 1048573 := by decide
  refine ⟨h, fun hall => ?_⟩
  have := hall (productHigh 48) [⟨0, 0xFFFFD000, kindUnmeasured⟩]
  rw [h] at this
  simp at this

/-- **What valid metadata can declare, absolutely.**  Descriptor addresses and lengths are 32-bit fields and
    validateSections accepts only non-empty whole-page lengths and pairwise disjoint ranges (64-bit ends),
    so the ranges lie side by side below 2^33 − 4097: an image that parses and passes validateSections
    declares at most 2^21 − 2 pages (8 GiB − 8 KiB) in at most 2^21 − 2 descriptors (also ≤ (|image| − 16)/12),
    and `declaredPagesOf` — the quantity in `C08_ticks_bound_LaunchDigest_partial` — is that page count plus
    one per descriptor. -/
theorem C08_declared_pages_bound (fw : Bytes) (rb : Codecs.ResetBlock) (secs : List SnpSections.Sec)
    (hp : extractFromFirmware true true fw = .ok (some rb, some secs)) (hv : validateSections secs = .ok ()) :
    SnpBounds.declaredPagesOf fw = SnpConst.totalPages secs + secs.length ∧
    SnpConst.totalPages secs ≤ 2 ^ 21 - 2 ∧ secs.length ≤ 2 ^ 21 - 2 ∧ 12 * secs.length + 16 ≤ fw.length ∧
    SnpBounds.declaredPagesOf fw ≤ 2 ^ 21 - 2 + (fw.length - 16) / 12 := by
  obtain ⟨hl, hr⟩ := SnpTotal.parsed_inRange hp
  obtain ⟨h2, h3⟩ := SnpConst.totalPages_le secs ((SnpSections.validateSections_ok_iff secs).mp hv) hr
  have h1 : SnpBounds.declaredPagesOf fw = SnpConst.totalPages secs + secs.length := by
    unfold SnpBounds.declaredPagesOf
    rw [hp]
    exact SnpConst.declaredPages_eq secs
  exact ⟨h1, h2, h3, hl, by omega⟩

/-- The constant is attained by valid, page-aligned metadata of four descriptors (the section loop then runs
    4 + 2 097 150 iterations on Milan): the bound cannot be lowered without a policy on declared sizes. -/
theorem C08_declared_pages_bound_tight :
    SnpSections.SectionsValid SnpConst.maxSecs ∧ validateSections SnpConst.maxSecs = .ok () ∧
    SnpConst.totalPages SnpConst.maxSecs = 2 ^ 21 - 2 ∧
    measureSectionsTicks (productHigh 48) SnpConst.maxSecs = 4 + (2 ^ 21 - 2) :=
  ⟨SnpConst.maxSecs_valid, (SnpSections.validateSections_ok_iff _).mpr SnpConst.maxSecs_valid,
   by decide, by decide⟩

/-- **The known finding D5f made precise.**  The iterations of sev.LaunchDigest are bounded by the image
    length, the vCPU count and a CONSTANT independent of the image: the declared pages are hashed only after
    validateSections has accepted the metadata, and accepted metadata declares at most 2^21 − 2 pages.  So the
    time is bounded — by 2 097 150 PAGE_INFO hashes of 112 bytes beyond the linear part — but the bound is not
    a function of the image size, which `C08_ticks_bound_LaunchDigest_full` would require
    (`C08_finding_declared_pages`: a 4 KiB image reaches 2^20 of them). -/
theorem C08_ticks_bound_LaunchDigest_const (o : Opts) (fw : Bytes) :
    launchDigestTicks genCfg o fw ≤ fw.length / 2 + 4 + 2 * o.vcpus.toNat + (2 ^ 21 - 2) :=
  SnpConst.launchDigestTicks_le_const genCfg o fw

/-- A product without a known address width costs nothing: the refusal (the product-check fix) precedes every loop — no GUID
    walk, no page is hashed — so the bounds above hold for every product value, trivially for these. -/
theorem C08_ticks_unsupported_product (o : Opts) (hp : o.product ≠ 1 ∧ o.product ≠ 2) (fw : Bytes) :
    launchDigestTicks genCfg o fw = 0 ∧ launchDigestAlloc genCfg o fw = 8192 + 4112 * o.vcpus.toNat := by
  have hs := (SnpDigest.unsupported_of genCfg C04.C04_cfg_is_spec o.product hp).1
  have ht : launchDigestTicks genCfg o fw = 0 := by
    unfold launchDigestTicks
    split
    · rfl
    · simp [hs]
  exact ⟨ht, by unfold launchDigestAlloc; rw [ht]⟩

/-- allocation account likewise: linear part plus at most 128 bytes for each of the 2^21 − 2 pages (256 MiB
    of short-lived PAGE_INFO buffers in total, never live at once) -/
theorem C08_alloc_bound_LaunchDigest_const (o : Opts) (fw : Bytes) :
    launchDigestAlloc genCfg o fw ≤ 64 * fw.length + 4368 * o.vcpus.toNat + (8704 + 128 * (2 ^ 21 - 2)) := by
  have := SnpConst.launchDigestTicks_le_const genCfg o fw
  unfold launchDigestAlloc
  omega

/-- UnsignedSnp with the constant: one LaunchDigest per requested count -/
theorem C08_ticks_bound_UnsignedSnp_const (launchVmsas product : Nat) (fw : Bytes) :
    unsignedSnpTicks genCfg Gen.SevLayout.VmsaCounts launchVmsas product fw ≤
      (vmsaCounts Gen.SevLayout.VmsaCounts launchVmsas).length * (fw.length / 2 + 4 + (2 ^ 21 - 2)) +
      2 * (vmsaCounts Gen.SevLayout.VmsaCounts launchVmsas).sum :=
  SnpBounds.unsignedSnpTicks_le genCfg _ launchVmsas product fw _ fun o => by
    have := SnpConst.launchDigestTicks_le_const genCfg o fw
    omega

/-- allocation account of LaunchDigest: linear in image length, vCPU count and declared pages -/
theorem C08_alloc_bound_LaunchDigest (o : Opts) (fw : Bytes) :
    launchDigestAlloc genCfg o fw ≤ 64 * fw.length + 4368 * o.vcpus.toNat + 128 * SnpBounds.declaredPagesOf fw + 8704 := by
  have := SnpBounds.launchDigestTicks_le genCfg o fw
  unfold launchDigestAlloc
  omega

/-- UnsignedSnp: one LaunchDigest per requested count -/
theorem C08_ticks_bound_UnsignedSnp (launchVmsas product : Nat) (fw : Bytes) :
    unsignedSnpTicks genCfg Gen.SevLayout.VmsaCounts launchVmsas product fw ≤
      (vmsaCounts Gen.SevLayout.VmsaCounts launchVmsas).length * (fw.length / 2 + 4 + SnpBounds.declaredPagesOf fw) +
      2 * (vmsaCounts Gen.SevLayout.VmsaCounts launchVmsas).sum :=
  SnpBounds.unsignedSnpTicks_le genCfg _ launchVmsas product fw _ fun o => by
    have := SnpBounds.launchDigestTicks_le genCfg o fw
    omega

/-! ## non-vacuity -/

-- `walkStep` on an 18-byte table whose entry declares size 0: it is refused ("entry-size"), not looped on
example : walkStep (Codecs.zeros 16 ++ [18, 0]).reverse.reverse 18 [] ≠ .err "x" := by decide
example : (vmsaCounts Gen.SevLayout.VmsaCounts 0).sum = 1079 := by decide
example : SnpBounds.declaredPages [⟨0, 0xFFFFD000, 1⟩] = 1048574 := by decide
-- Turin (3) on the example image: refused before any loop
example : launchDigestTicks genCfg ⟨4, 3⟩ SevExample.exFw = 0 := (C08_ticks_unsupported_product ⟨4, 3⟩ (by decide) _).1
-- the hypotheses of `C08_declared_pages_bound` are inhabited: the kernel-evaluated example image of C04 (12 pages)
example : SnpBounds.declaredPagesOf SevExample.exFw = 12 + 4 := by
  have h := C08_declared_pages_bound _ _ _ SnpExample.ex_parse
    ((SnpSections.validateSections_ok_iff _).mpr SnpExample.ex_sectionsValid)
  rw [h.1]; decide

end GceTcb.Props.C08Sev
