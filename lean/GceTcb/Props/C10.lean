import GceTcb.Proofs.RotateFinal
import GceTcb.Proofs.RotateKms
/-
C10 — Signing-key rotation is failure-atomic.
Property theorems only (the program logic and the step specifications live in Proofs/Hoare.lean,
Proofs/RotateDefs.lean, Proofs/RotateGcs.lean, Proofs/RotateMem.lean, Proofs/RotateKms.lean; the facts
about one run that the theorems below are read off, and the demo states, in Proofs/RotateFinal.lean).

The model (Model/CA.lean, Model/Rotate.lean) is the rotation of rotate/rotate.go AFTER the "fix:" commit
(steps in sequence, stop at the first error, destroy the old key after Finalize).  Every theorem
quantifies over ALL fault scripts `sc : Nat → Fault` (any number of failed calls and a crash at any
call), both authorities (`cfg.ca`), both key managers (`cfg.km`), every number of public-key calls the
X.509 library makes (`cfg.pubPre`, `cfg.pubPost`) and every starting state satisfying the invariant.

Hypotheses (all explicit): `BumpOK cfg` — the key manager hands out a name that differs from the current
one and is not empty; `Inv cfg s` — the invariant (PrimaryOK + the root key is live and matches the
stored root certificate + name hygiene); `Fresh cfg req s` — the object the new certificate is written
to is not the manifest object or the root certificate object.  The object holding the PRIMARY's
certificate (a serial override equal to the primary's serial with the same common name — finding D22)
is not excluded: gcsca.upload (after its "fix:" commit) refuses an object that the manifest
records for another key version before any storage call, whatever --overwrite says, and the model
follows (`heldByOther`); the pre-fix upload is kept as `rotateKeyNoGuard` with the witness
`C10_old_upload_clobbers_primary`.  The theorems that assert SUCCESS of a rotation need, in addition,
that the request is not refused in that way (`Unclaimed`); `C10_collision_refused` is the other half.
Runs start from `s.reload`: a fresh authority instance (no cached manifest) and an empty call log.
-/
namespace GceTcb.CA

/-- **Failure atomicity.**  Whatever faults and crash the script injects into one rotation, the state that
    survives — reloaded through a fresh authority instance — satisfies the invariant again: the recorded
    primary signing key is live, its certificate is stored, is for that key and verifies under the stored
    root. -/
theorem C10_primary_live (cfg : Cfg) (req : Req) (sc : Nat → Fault) (s : St)
    (hb : BumpOK cfg) (hi : Inv cfg s) (hf : Fresh cfg req s) :
    Inv cfg (rotateKey cfg req sc s.reload).state.reload :=
  (Inv_reload _ _).mpr (Res.state_of (rotate_run_facts cfg req sc s hb hi hf) (fun _ _ h => h.1) (fun _ h => h.1.1)
    (fun _ h => h.1.1))

/-- … in the words of the property: endorsing keeps working with the recorded primary. -/
theorem C10_primary_usable (cfg : Cfg) (req : Req) (sc : Nat → Fault) (s : St)
    (hb : BumpOK cfg) (hi : Inv cfg s) (hf : Fresh cfg req s) :
    PrimaryOK cfg (rotateKey cfg req sc s.reload).state.reload :=
  (C10_primary_live cfg req sc s hb hi hf).primaryOK

/-- **Destroy after commit.**  In the call log of every run, a DestroyKeyVersion that reached the key
    manager is preceded by the completed call that makes the new primary durable (gcsca: Close of the
    manifest object; memca: Finalize). -/
theorem C10_destroy_after_commit (cfg : Cfg) (req : Req) (sc : Nat → Fault) (s : St)
    (hb : BumpOK cfg) (hi : Inv cfg s) (hf : Fresh cfg req s) :
    DAC cfg (rotateKey cfg req sc s.reload).state.log :=
  Res.state_of (X := fun s => DAC cfg s.log) (rotate_run_facts cfg req sc s hb hi hf) (fun _ _ h => h.2.1)
    (fun _ h => h.1.2) (fun _ h => h.1.2)

/-- a fault-free rotation with overwrite allowed succeeds from any good state, unless its certificate
    would go to an object that another key version holds -/
theorem C10_fault_free_succeeds (cfg : Cfg) (req : Req) (s : St) (how : cfg.overwrite = true)
    (hb : BumpOK cfg) (hi : Inv cfg s) (hf : Fresh cfg req s) (hu : Unclaimed cfg req s) :
    ∃ k s', rotateKey cfg req noFault s.reload = .ok k s' ∧ Inv cfg s'.reload ∧
      primaryOf cfg s' = k ∧ k = cfg.bump (primaryOf cfg s) := by
  obtain ⟨k, s', hr, h⟩ := Res.ok_of (rotate_run_facts cfg req noFault s hb hi hf)
    (fun _ h => h.2.elim (fun h => h noFault_noFault) fun h => h.elim (fun h => by rw [how] at h; cases h)
      (not_claimed_of_unclaimed hu))
    (fun _ h => h.2 noFault_noFault)
  exact ⟨k, s', hr, (Inv_reload cfg s').mpr h.1, h.2.2.1, h.2.2.2.1⟩

/-- **Retry succeeds.**  After a rotation that was hit by any faults, a later fault-free rotation that is
    allowed to overwrite succeeds (for every request whose target object is fresh in the surviving state,
    in particular the same request when the failed attempt did not commit — `C10_retry_same_request`),
    the key it returns is recorded as primary, and the invariant holds again. -/
theorem C10_retry_succeeds (cfg : Cfg) (req req' : Req) (sc : Nat → Fault) (s : St)
    (hb : BumpOK cfg) (hi : Inv cfg s) (hf : Fresh cfg req s)
    (hf' : Fresh cfg.allowOverwrite req' (rotateKey cfg req sc s.reload).state.reload)
    (hu' : Unclaimed cfg.allowOverwrite req' (rotateKey cfg req sc s.reload).state.reload) :
    ∃ k s', rotateKey cfg.allowOverwrite req' noFault (rotateKey cfg req sc s.reload).state.reload = .ok k s' ∧
      Inv cfg s'.reload ∧ primaryOf cfg s' = k ∧
      k = cfg.bump (primaryOf cfg (rotateKey cfg req sc s.reload).state.reload) := by
  have h1 := C10_primary_live cfg req sc s hb hi hf
  have h1' := (Inv_allowOverwrite cfg _).mpr h1
  obtain ⟨k, s', hr, hinv, hp, hk⟩ := C10_fault_free_succeeds cfg.allowOverwrite req' _ rfl hb h1' hf' hu'
  exact ⟨k, s', hr, (Inv_allowOverwrite cfg _).mp hinv, hp, hk⟩

/-- `Fresh` and `Unclaimed` only look at the stored manifest: a failed attempt that did not change the stored
    manifest leaves the same request admissible for the retry (its leftover object is overwritten). -/
theorem C10_retry_same_request (cfg : Cfg) (req : Req) (s s1 : St) (hf : Fresh cfg req s) (hu : Unclaimed cfg req s)
    (hsame : lookup s1.store manifestName = lookup s.store manifestName) :
    Fresh cfg.allowOverwrite req s1 ∧ Unclaimed cfg.allowOverwrite req s1 := by
  unfold Fresh Unclaimed Cfg.allowOverwrite at *
  cases hca : cfg.ca with
  | memca => simp
  | gcsca =>
    simp only [hca] at hf hu ⊢
    constructor
    · intro m hm
      rw [hsame] at hm
      exact hf m hm
    · intro m hm
      rw [hsame] at hm
      exact hu m hm

/-- **A colliding request is refused, atomically** (the input class of finding D22).  When the stored
    manifest records the object the new certificate would go to for a key version other than the new one
    — in particular the object holding the PRIMARY's certificate — no script lets the rotation return
    normally, `--overwrite` or not; the state that survives satisfies the invariant (this is
    `C10_primary_live`; restated for the reader), so the recorded primary is still the old key, live and
    certified. -/
theorem C10_collision_refused (cfg : Cfg) (req : Req) (sc : Nat → Fault) (s : St)
    (hb : BumpOK cfg) (hi : Inv cfg s) (hf : Fresh cfg req s) (hc : Claimed cfg req s) :
    (∀ k s', rotateKey cfg req sc s.reload ≠ .ok k s') ∧
    Inv cfg (rotateKey cfg req sc s.reload).state.reload := by
  refine ⟨?_, C10_primary_live cfg req sc s hb hi hf⟩
  intro k s' hr
  have := rotate_run_facts cfg req sc s hb hi hf
  rw [hr] at this
  exact this.2.2.2.2 hc

/-- the primary's own certificate object is such an object: a request whose target is the entry of the
    recorded primary is `Claimed` -/
theorem C10_primary_object_claimed (cfg : Cfg) (req : Req) (s : St) (hca : cfg.ca = .gcsca) (hb : BumpOK cfg)
    (m : Manifest) (hm : lookup s.store manifestName = some (.manifest m))
    (ht : lookup m.entries m.signing = some (target cfg req m)) : Claimed cfg req s :=
  ⟨hca, m, hm, heldByOther_of_lookup ht (Ne.symm (hb.1 _))⟩

/-! ### the order matters: the rotation as it was before the fix -/

/-- **The old order breaks the invariant** (memca): with the steps evaluated as arguments of one
    error-combining call, ONE failed signing call (position 10: `Signer.Sign` with the root key) leaves
    an uncertified key recorded as primary and the old key destroyed — from a state that satisfies every
    hypothesis of `C10_primary_live`. -/
theorem C10_old_order_breaks :
    Inv (demoCfg .memca) demoM ∧ Fresh (demoCfg .memca) ⟨"sig", 3⟩ demoM ∧ BumpOK (demoCfg .memca) ∧
    ¬ PrimaryOK (demoCfg .memca) (rotateKeyOld (demoCfg .memca) ⟨"sig", 3⟩ (failAt 10) demoM.reload).state.reload := by
  exact ⟨demoM_inv, trivial, demoBump_ok .memca, by decide +kernel⟩

/-- … and on the deferred authority ONE failed storage call (position 22: Close of the manifest object)
    leaves the stored manifest naming a key that has already been destroyed. -/
theorem C10_old_order_breaks_gcsca :
    Inv (demoCfg .gcsca) demoG ∧ Fresh (demoCfg .gcsca) ⟨"sig", 3⟩ demoG ∧ BumpOK (demoCfg .gcsca) ∧
    ¬ PrimaryOK (demoCfg .gcsca) (rotateKeyOld (demoCfg .gcsca) ⟨"sig", 3⟩ (failAt 22) demoG.reload).state.reload := by
  exact ⟨demoG_inv, demoG_fresh _ (by decide +kernel) (by decide +kernel), demoBump_ok .gcsca, by decide +kernel⟩

/-! ### the refusal matters: gcsca.upload as it was before its fix -/

def demoCfgOw : Cfg := (demoCfg .gcsca).allowOverwrite

/-- **The old upload clobbers the primary's certificate** (finding D22): with `--overwrite`, a request
    whose common name and serial are the current primary's (⟨"sigcn", 2⟩ in `demoG`) satisfies every
    hypothesis of `C10_primary_live`; on gcsca.upload WITHOUT the refusal ONE crash
    (position 19: Close of the certificate object, i.e. before the manifest write) — or one failed call
    (position 20: opening the manifest's writer) — leaves the stored manifest naming the old key "sk" as
    primary while the object its entry points to certifies the new key: `PrimaryOK` fails.  On the
    repaired upload the same run is refused before any storage call and `PrimaryOK` holds. -/
theorem C10_old_upload_clobbers_primary :
    Inv demoCfgOw demoG ∧ Fresh demoCfgOw ⟨"sigcn", 2⟩ demoG ∧ BumpOK demoCfgOw ∧ Claimed demoCfgOw ⟨"sigcn", 2⟩ demoG ∧
    ¬ PrimaryOK demoCfgOw (rotateKeyNoGuard demoCfgOw ⟨"sigcn", 2⟩ (crashAt 19) demoG.reload).state.reload ∧
    ¬ PrimaryOK demoCfgOw (rotateKeyNoGuard demoCfgOw ⟨"sigcn", 2⟩ (failAt 20) demoG.reload).state.reload ∧
    (rotateKey demoCfgOw ⟨"sigcn", 2⟩ (crashAt 19) demoG.reload).tag = "err" ∧
    PrimaryOK demoCfgOw (rotateKey demoCfgOw ⟨"sigcn", 2⟩ (crashAt 19) demoG.reload).state.reload := by
  have hinv : Inv demoCfgOw demoG := (Inv_allowOverwrite _ _).mpr demoG_inv
  have hfr : Fresh demoCfgOw ⟨"sigcn", 2⟩ demoG := by
    intro m hm
    rw [demoG_manifest hm]
    decide +kernel
  have hbo : BumpOK demoCfgOw := demoBump_ok .gcsca
  exact ⟨hinv, hfr, hbo, ⟨rfl, _, demoG_stored, by decide +kernel⟩, by decide +kernel, by decide +kernel,
    by decide +kernel, (C10_primary_live demoCfgOw ⟨"sigcn", 2⟩ (crashAt 19) demoG hbo hinv hfr).primaryOK⟩

/-! ### the hypotheses hold in `demoG` / `demoM`; the shipped rotation under the faults that break the old ones -/

/-- Non-vacuity of `C10_fault_free_succeeds` / `C10_retry_succeeds`: the usual request (next serial) is not
    claimed in `demoG`. -/
example : Unclaimed (demoCfg .gcsca) ⟨"sig", 3⟩ demoG := demoG_unclaimed

/-- Non-vacuity of `C10_collision_refused`: the colliding request of `C10_old_upload_clobbers_primary`,
    fault-free and with overwrite allowed, ends in an error after 16 calls (the last one is Finalize: no
    storage call was made), both keys live, the store unchanged, and the usual retry then succeeds. -/
example :
    let r := rotateKey demoCfgOw ⟨"sigcn", 2⟩ noFault demoG.reload
    let r2 := rotateKey demoCfgOw ⟨"sig", 3⟩ noFault r.state.reload
    r.tag = "err" ∧ r.state.log.length = 16 ∧ r.state.store = demoG.store ∧
    lookup r.state.keys "sk" = some 1 ∧ primaryOKb demoCfgOw r.state.reload = true ∧
    r2.tag = "ok" ∧ primaryOf demoCfgOw r2.state = "sk_n" ∧ primaryOKb demoCfgOw r2.state.reload = true := by
  decide +kernel

/-- Non-vacuity of `C10_primary_live` / `C10_destroy_after_commit`: the hypotheses hold for `demoG`
    (`demoG_inv`, `demoG_fresh`, `demoBump_ok`), and the fixed rotation under the same single fault that
    breaks the old order (Close of the manifest fails) ends in an error with BOTH keys live, the leftover
    certificate object written, the old key still recorded as primary, and no destroy call in the log;
    a crash right after the manifest's Close leaves the NEW key recorded and both keys live. -/
example :
    let r := rotateKey (demoCfg .gcsca) ⟨"sig", 3⟩ (failAt 22) demoG.reload
    r.tag = "err" ∧ lookup r.state.keys "sk" = some 1 ∧ lookup r.state.keys "sk_n" = some 2 ∧
    (lookup r.state.store "certs/sig-3.crt").isSome = true ∧
    primaryOf (demoCfg .gcsca) r.state = "sk" ∧ primaryOKb (demoCfg .gcsca) r.state.reload = true ∧
    r.state.log.length = 23 := by
  decide +kernel

example :
    let r := rotateKey (demoCfg .gcsca) ⟨"sig", 3⟩ (crashAt 22) demoG.reload
    r.tag = "crash" ∧ lookup r.state.keys "sk" = some 1 ∧ lookup r.state.keys "sk_n" = some 2 ∧
    primaryOf (demoCfg .gcsca) r.state = "sk_n" ∧ primaryOKb (demoCfg .gcsca) r.state.reload = true := by
  decide +kernel

/-- Non-vacuity of `C10_retry_succeeds`: after the failed attempt above the SAME request is fresh again
    (`C10_retry_same_request` applies: the stored manifest is unchanged), and the fault-free retry with
    overwrite returns the new key, which is then the recorded primary; the old key is gone. -/
example :
    let s1 := (rotateKey (demoCfg .gcsca) ⟨"sig", 3⟩ (failAt 22) demoG.reload).state.reload
    let r2 := rotateKey (demoCfg .gcsca).allowOverwrite ⟨"sig", 3⟩ noFault s1
    lookup s1.store manifestName = lookup demoG.store manifestName ∧
    r2.tag = "ok" ∧ primaryOf (demoCfg .gcsca) r2.state = "sk_n" ∧ lookup r2.state.keys "sk" = none ∧
    primaryOKb (demoCfg .gcsca) r2.state.reload = true := by
  decide +kernel

/-- … and on the immediate authority, with two faults in one run (a swallowed failure of the template's
    certificate read, then a crash after DestroyKeyVersion). -/
example :
    let sc : Nat → Fault := fun i => if i = 7 then .fail else if i = 13 then .crash else .ok
    let r := rotateKey (demoCfg .memca) ⟨"sig", 3⟩ sc demoM.reload
    r.tag = "crash" ∧ primaryOf (demoCfg .memca) r.state = "sk_n" ∧ lookup r.state.keys "sk" = none ∧
    primaryOKb (demoCfg .memca) r.state.reload = true ∧ r.state.log.length = 14 := by
  decide +kernel

/-! ## the Cloud KMS stack (gcpkms.Manager + gcpkms.Signer, deferred authority)

`rotateKeyKms` (Model/RotateKms.lean) is rotate.Key with keys/gcpkms underneath: every Cloud KMS client call
(CreateCryptoKeyVersion, every GetCryptoKeyVersion poll, GetPublicKey, AsymmetricSign,
DestroyCryptoKeyVersion) is a numbered fault position nested inside the manager / signer call that makes
it.  The theorems quantify over ALL fault scripts and ALL environments `env` (how many polls a new version
stays PENDING_GENERATION, what it turns into — ENABLED, DISABLED, DESTROYED, GENERATION_FAILED —, whether
the context expires during the wait, whether the AsymmetricSign response fails an integrity check).

The hypotheses of the nonprod theorems on this stack: `BumpOK` (the new name differs from the current one
and is not empty) and the clause `broot` of `Inv` (the manager never hands out the root's name) are not
assumed — they follow from the naming scheme `<cryptoKey>/cryptoKeyVersions/<count+1>` and the
hygiene `KHyg` of the key service (no usable key carries a number the cryptoKey has not handed out), which
is part of `InvKms` and is PRESERVED by every run (`C10_kms_primary_live`); see `C10_kms_names_fresh`.
`Fresh` (two clauses: not the manifest, not the root certificate object) stays as `FreshKms`; the success
theorems need `UnclaimedKms` (the target object is not recorded for another key version), and
`C10_kms_collision_refused` is the other half; `cfg.ca = .gcsca` restricts to the shipped authority. -/

/-- **The naming scheme discharges `BumpOK` / `broot`.**  In a state satisfying the invariant the name the
    next CreateCryptoKeyVersion hands out is not the name of a usable key — in particular neither the
    recorded primary nor the root —, it is not empty, and it differs from every name handed out before
    (version numbers strictly increase, distinct numbers give distinct names). -/
theorem C10_kms_names_fresh (cfg : Cfg) (env : KmsEnv) (s : St) (hca : cfg.ca = .gcsca) (hi : InvKms cfg env s) :
    lookup s.keys (nextName env s) = none ∧ nextName env s ≠ primaryOf cfg s ∧ nextName env s ≠ "" ∧
    (∀ m r c p, InvG cfg.kmsView m r c p s → nextName env s ≠ m.root) ∧
    (∀ n, n ≤ s.kcount → verName env.parent n ≠ nextName env s) := by
  have hn := hi.2.next_not_live
  obtain ⟨m, r, c, p, h⟩ := hi.1.gcs (cfg := cfg.kmsView) hca
  exact ⟨hn, by rw [primaryOf_gcs hca h.man]; exact ne_of_lookup h.kprim hn, verName_ne_empty _ _,
    fun _ _ _ _ h => ne_of_lookup h.kroot hn, fun n hle e => by have := verName_inj _ _ _ e; omega⟩

/-- **Failure atomicity on the Cloud KMS stack.**  Whatever faults and crash the script injects into one
    rotation and whatever Cloud KMS does with the new version, the state that survives — reloaded through
    a fresh authority instance — satisfies the invariant again: the recorded primary is an ENABLED
    version, its certificate is stored, is for that key and verifies under the stored root; and the key
    service's hygiene holds again. -/
theorem C10_kms_primary_live (cfg : Cfg) (env : KmsEnv) (req : Req) (sc : Nat → Fault) (s : St)
    (hca : cfg.ca = .gcsca) (hi : InvKms cfg env s) (hf : FreshKms cfg env req s) :
    InvKms cfg env (rotateKeyKms cfg env req sc s.reload).state.reload :=
  (InvKms_reload _ _ _).mpr (Res.state_of (rotateKms_run_facts cfg env req sc s hca hi hf) (fun _ _ h => h.1)
    (fun _ h => h.1.1) (fun _ h => h.1.1))

/-- … in the words of the property: endorsing keeps working with the recorded primary. -/
theorem C10_kms_primary_usable (cfg : Cfg) (env : KmsEnv) (req : Req) (sc : Nat → Fault) (s : St)
    (hca : cfg.ca = .gcsca) (hi : InvKms cfg env s) (hf : FreshKms cfg env req s) :
    PrimaryOK cfg (rotateKeyKms cfg env req sc s.reload).state.reload :=
  (C10_kms_primary_live cfg env req sc s hca hi hf).primaryOK

/-- **Destroy after commit, at both levels.**  In the call log of every run a DestroyKeyVersion that
    reached the manager, and a DestroyCryptoKeyVersion request that reached Cloud KMS, is preceded by the
    completed Close of the manifest object that records the new primary. -/
theorem C10_kms_destroy_after_commit (cfg : Cfg) (env : KmsEnv) (req : Req) (sc : Nat → Fault) (s : St)
    (hca : cfg.ca = .gcsca) (hi : InvKms cfg env s) (hf : FreshKms cfg env req s) :
    DAC cfg (rotateKeyKms cfg env req sc s.reload).state.log ∧
    DACK cfg (rotateKeyKms cfg env req sc s.reload).state.log :=
  Res.state_of (X := fun s => DAC cfg s.log ∧ DACK cfg s.log) (rotateKms_run_facts cfg env req sc s hca hi hf)
    (fun _ _ h => ⟨h.2.1, h.2.2.1⟩) (fun _ h => h.1.2) (fun _ h => h.1.2)

/-- … on the surviving state: the old primary can have stopped being usable (DESTROY_SCHEDULED) only if
    the stored manifest no longer names it. -/
theorem C10_kms_old_destroyed_only_if_replaced (cfg : Cfg) (env : KmsEnv) (req : Req) (sc : Nat → Fault) (s : St)
    (hca : cfg.ca = .gcsca) (hi : InvKms cfg env s) (hf : FreshKms cfg env req s)
    (hgone : lookup (rotateKeyKms cfg env req sc s.reload).state.keys (primaryOf cfg s) = none) :
    primaryOf cfg (rotateKeyKms cfg env req sc s.reload).state ≠ primaryOf cfg s := by
  obtain ⟨m, r, c, path, h⟩ := (C10_kms_primary_live cfg env req sc s hca hi hf).1.gcs (cfg := cfg.kmsView) hca
  intro e
  rw [← e, primaryOf_gcs (s := (rotateKeyKms cfg env req sc s.reload).state) hca h.man] at hgone
  exact absurd (h.kprim.symm.trans hgone) (by simp)

/-- **A rotation that reports success has retired the old version**: whatever the script and the
    environment, when rotate.Key returns normally the previous primary is no longer usable and is
    DESTROY_SCHEDULED, the returned name is the next version name, and it is the recorded primary. -/
theorem C10_kms_success_retires_old (cfg : Cfg) (env : KmsEnv) (req : Req) (sc : Nat → Fault) (s : St)
    (hca : cfg.ca = .gcsca) (hi : InvKms cfg env s) (hf : FreshKms cfg env req s)
    (k : String) (s' : St) (hr : rotateKeyKms cfg env req sc s.reload = .ok k s') :
    k = nextName env s ∧ primaryOf cfg s' = k ∧ lookup s'.keys (primaryOf cfg s) = none ∧
    lookup s'.kdead (primaryOf cfg s) = some .scheduled := by
  have := rotateKms_run_facts cfg env req sc s hca hi hf
  rw [hr] at this
  exact ⟨this.2.2.2.2.1, this.2.2.2.1, this.2.2.2.2.2.1, this.2.2.2.2.2.2.1⟩

/-- a fault-free rotation with overwrite allowed in a benign environment (any generation countdown)
    succeeds from any good state and returns the next version name -/
theorem C10_kms_fault_free_succeeds (cfg : Cfg) (env : KmsEnv) (req : Req) (s : St) (how : cfg.overwrite = true)
    (hben : env.benign = true) (hca : cfg.ca = .gcsca) (hi : InvKms cfg env s) (hf : FreshKms cfg env req s)
    (hu : UnclaimedKms cfg env req s) :
    ∃ k s', rotateKeyKms cfg env req noFault s.reload = .ok k s' ∧ InvKms cfg env s'.reload ∧
      primaryOf cfg s' = k ∧ k = nextName env s := by
  obtain ⟨k, s', hr, h⟩ := Res.ok_of (rotateKms_run_facts cfg env req noFault s hca hi hf)
    (fun _ h => h.2.elim (fun h => h noFault_noFault) fun h => h.elim (fun h => by rw [how] at h; cases h)
      fun h => h.elim (not_claimed_of_unclaimed hu) fun h => by rw [hben] at h; cases h)
    (fun _ h => h.2 noFault_noFault)
  exact ⟨k, s', hr, (InvKms_reload cfg env s').mpr h.1, h.2.2.2.1, h.2.2.2.2.1⟩

/-- **Retry succeeds.**  After a rotation that was hit by any faults in any environment — leaving, e.g., a
    PENDING_GENERATION, DISABLED or unreferenced ENABLED version behind —, a later fault-free rotation in
    a benign environment that is allowed to overwrite succeeds, returns a version name that did not exist
    before, records it as primary, and the invariant holds again. -/
theorem C10_kms_retry_succeeds (cfg : Cfg) (env env' : KmsEnv) (req req' : Req) (sc : Nat → Fault) (s : St)
    (hpar : env'.parent = env.parent) (hben : env'.benign = true)
    (hca : cfg.ca = .gcsca) (hi : InvKms cfg env s) (hf : FreshKms cfg env req s)
    (hf' : FreshKms cfg.allowOverwrite env' req' (rotateKeyKms cfg env req sc s.reload).state.reload)
    (hu' : UnclaimedKms cfg.allowOverwrite env' req' (rotateKeyKms cfg env req sc s.reload).state.reload) :
    ∃ k s', rotateKeyKms cfg.allowOverwrite env' req' noFault (rotateKeyKms cfg env req sc s.reload).state.reload = .ok k s' ∧
      InvKms cfg env' s'.reload ∧ primaryOf cfg s' = k ∧
      k = nextName env' (rotateKeyKms cfg env req sc s.reload).state.reload := by
  have h1 := C10_kms_primary_live cfg env req sc s hca hi hf
  have h1' : InvKms cfg.allowOverwrite env' (rotateKeyKms cfg env req sc s.reload).state.reload := by
    refine (InvKms_allowOverwrite cfg env' _).mpr ⟨h1.1, ?_⟩
    intro n hn
    have := h1.2 n hn
    rw [hpar]; exact this
  obtain ⟨k, s', hr, hinv, hp, hk⟩ := C10_kms_fault_free_succeeds cfg.allowOverwrite env' req' _ rfl hben hca h1' hf' hu'
  exact ⟨k, s', hr, (InvKms_allowOverwrite cfg env' _).mp hinv, hp, hk⟩

/-- **A colliding request is refused, atomically, on the Cloud KMS stack.** -/
theorem C10_kms_collision_refused (cfg : Cfg) (env : KmsEnv) (req : Req) (sc : Nat → Fault) (s : St)
    (hca : cfg.ca = .gcsca) (hi : InvKms cfg env s) (hf : FreshKms cfg env req s) (hc : ClaimedKms cfg env req s) :
    (∀ k s', rotateKeyKms cfg env req sc s.reload ≠ .ok k s') ∧
    InvKms cfg env (rotateKeyKms cfg env req sc s.reload).state.reload := by
  refine ⟨?_, C10_kms_primary_live cfg env req sc s hca hi hf⟩
  intro k s' hr
  have := rotateKms_run_facts cfg env req sc s hca hi hf
  rw [hr] at this
  exact this.2.2.2.2.2.2.2 hc

/-- `FreshKms` / `UnclaimedKms` in the usual situation: the stored manifest does not list the next version
    name (Cloud KMS has never handed it out), so the certificate goes to `<certDir><cn>-<serial>.crt`; that
    object must not be the manifest or the root certificate object (`FreshKms`), and for the rotation to
    succeed no entry of the manifest may name it (`UnclaimedKms`; with the CLI's default serial it is new
    or a leftover). -/
theorem C10_kms_fresh_of_unlisted (cfg : Cfg) (env : KmsEnv) (req : Req) (s : St) (hca : cfg.ca = .gcsca)
    (h : ∀ m, lookup s.store manifestName = some (.manifest m) →
      lookup m.entries (nextName env s) = none ∧ objName cfg req ≠ manifestName ∧ objName cfg req ≠ cfg.rootPath ∧
      ∀ e ∈ m.entries, e.2 ≠ objName cfg req) :
    FreshKms cfg env req s ∧ UnclaimedKms cfg env req s := by
  unfold FreshKms UnclaimedKms Fresh Unclaimed
  rw [show (cfg.withNew (nextName env s)).ca = CAKind.gcsca from hca]
  have ht : ∀ m, lookup m.entries (nextName env s) = none → target (cfg.withNew (nextName env s)) req m = objName cfg req := by
    intro m h1
    unfold target
    show (lookup m.entries (nextName env s)).getD _ = _
    rw [h1]; rfl
  constructor
  · intro m hm
    obtain ⟨h1, h2, h3, _⟩ := h m hm
    rw [ht m h1]
    exact ⟨h2, h3⟩
  · intro m hm
    obtain ⟨h1, _, _, h4⟩ := h m hm
    unfold claimed heldByOther
    rw [ht m h1]
    exact List.any_eq_false.mpr fun e he => by simp [h4 e he]

/-! ### the order matters on this stack too -/

/-- a good durable state of the Cloud KMS stack: root key "root" (material 0), signing cryptoKey "sk" with
    its first version ENABLED (material 1) and certified as sigcn-2, as left by a bootstrap -/
def demoK : St :=
  { St.init with
    keys := [("sk/cryptoKeyVersions/1", 1), ("root", 0)], nextMat := 2, kcount := 1,
    store := [(manifestName, .manifest ⟨[("root", "certs/rootcn-1.crt"), ("sk/cryptoKeyVersions/1", "certs/sigcn-2.crt")],
                "root", "sk/cryptoKeyVersions/1"⟩),
              ("root.crt", .pem ⟨"rootcn", 1, 0, 0⟩),
              ("certs/sigcn-2.crt", .der ⟨"sigcn", 2, 1, 0⟩),
              ("certs/rootcn-1.crt", .der ⟨"rootcn", 1, 0, 0⟩)] }

def demoEnv : KmsEnv := { parent := "sk" }

theorem demoK_inv : InvKms (demoCfg .gcsca) demoEnv demoK := by
  refine ⟨⟨⟨[("root", "certs/rootcn-1.crt"), ("sk/cryptoKeyVersions/1", "certs/sigcn-2.crt")], "root", "sk/cryptoKeyVersions/1"⟩,
      ⟨"rootcn", 1, 0, 0⟩, ⟨"sigcn", 2, 1, 0⟩, "certs/sigcn-2.crt", ?_⟩, ?_⟩
  · constructor
    all_goals simp [lookup, demoK, manifestName, demoCfg, Cfg.kmsView, Cfg.withNew]
  · intro n hn
    have h1 : "sk/cryptoKeyVersions/1" ≠ verName "sk" n := fun e =>
      absurd (verName_inj "sk" 1 n ((by decide +kernel : verName "sk" 1 = "sk/cryptoKeyVersions/1").trans e))
        (Nat.ne_of_lt hn)
    -- the first characters differ; what follows the parent's name is left alone
    have h2 : "root" ≠ verName "sk" n := fun e => by
      unfold verName at e
      rw [String.append_assoc] at e
      generalize "/cryptoKeyVersions/" ++ toString n = t at e
      have := congrArg String.toList e
      simp [String.toList_append] at this
    simp [lookup, demoK, demoEnv, h1, h2]

theorem demoK_fresh_unclaimed :
    FreshKms (demoCfg .gcsca) demoEnv ⟨"sig", 3⟩ demoK ∧ UnclaimedKms (demoCfg .gcsca) demoEnv ⟨"sig", 3⟩ demoK := by
  refine C10_kms_fresh_of_unlisted _ _ _ _ rfl fun m hm => ?_
  have : m = ⟨[("root", "certs/rootcn-1.crt"), ("sk/cryptoKeyVersions/1", "certs/sigcn-2.crt")], "root", "sk/cryptoKeyVersions/1"⟩ := by
    simp [lookup, demoK] at hm
    exact hm.symm
  subst this
  decide +kernel

theorem demoK_fresh : FreshKms (demoCfg .gcsca) demoEnv ⟨"sig", 3⟩ demoK := demoK_fresh_unclaimed.1

/-- **Destroying before Finalize breaks the invariant on the Cloud KMS stack**: with the destroy request
    moved in front of Finalize, ONE failed storage call (position 27: Close of the manifest object) leaves
    the stored manifest naming a version that is already DESTROY_SCHEDULED — from a state that satisfies
    every hypothesis of `C10_kms_primary_live`. -/
theorem C10_kms_early_destroy_breaks :
    InvKms (demoCfg .gcsca) demoEnv demoK ∧ FreshKms (demoCfg .gcsca) demoEnv ⟨"sig", 3⟩ demoK ∧
    ¬ PrimaryOK (demoCfg .gcsca)
      (rotateKeyKmsEarlyDestroy (demoCfg .gcsca) demoEnv ⟨"sig", 3⟩ (failAt 27) demoK.reload).state.reload := by
  exact ⟨demoK_inv, demoK_fresh, by decide +kernel⟩

/-! ### what the response of CreateCryptoKeyVersion says, and what state a version is created in

All theorems above quantify over `env.created` (the version is created PENDING_GENERATION, or directly ENABLED,
DISABLED, GENERATION_FAILED), `env.resp` (what state the response reports, truthfully or not) and
`env.pubDisabled` (whether GetPublicKey answers for a DISABLED version).  They hold because
CreateNewSigningKeyVersion never reads the response's state and always polls: -/

/-- **The response's state is ignored.**  Whatever state CreateCryptoKeyVersion's response reports, every run
    of the rotation (same script, same start state) is the same: only what the polls report matters. -/
theorem C10_kms_create_response_ignored (cfg : Cfg) (env : KmsEnv) (o : Option KObs) (req : Req)
    (sc : Nat → Fault) (s : St) :
    rotateKeyKms cfg { env with resp := o } req sc s = rotateKeyKms cfg env req sc s := by
  rw [rotateKeyKms_resp]

/-- The changed rotation (skip the wait unless the response says PENDING_GENERATION) is the shipped one for
    as long as responses do say PENDING_GENERATION — which is why no test with such a service sees it. -/
theorem C10_kms_trust_response_same_when_pending (cfg : Cfg) (env : KmsEnv) (req : Req) (h : env.respObs = .pending) :
    rotateKeyKmsTrustResponse cfg env req = rotateKeyKms cfg env req := by
  unfold rotateKeyKmsTrustResponse rotateKeyKms
  rw [kmCreateKTrust_pending env h]

/-- Cloud KMS creates versions DISABLED (with key material: GetPublicKey answers) and says so in the response -/
def demoEnvDisabled : KmsEnv := { parent := "sk", created := .disabled, pubDisabled := some 7 }

/-- **Trusting the response breaks the property.**  From a state that satisfies every hypothesis of
    `C10_kms_primary_live`, with NO fault at all: a version created DISABLED whose public key is retrievable
    is certified and recorded as primary without ever having been seen ENABLED, the rotation reports
    success, the old primary is DESTROY_SCHEDULED, and the recorded primary is not a usable key — whereas
    the shipped rotation stops at the first poll with nothing changed. -/
theorem C10_kms_trust_response_breaks :
    InvKms (demoCfg .gcsca) demoEnvDisabled demoK ∧ FreshKms (demoCfg .gcsca) demoEnvDisabled ⟨"sig", 3⟩ demoK ∧
    (let r := rotateKeyKmsTrustResponse (demoCfg .gcsca) demoEnvDisabled ⟨"sig", 3⟩ noFault demoK.reload
     r.tag = "ok" ∧ primaryOf (demoCfg .gcsca) r.state = "sk/cryptoKeyVersions/2" ∧
     lookup r.state.keys "sk/cryptoKeyVersions/2" = none ∧
     lookup r.state.kdead "sk/cryptoKeyVersions/2" = some .disabled ∧
     lookup r.state.keys "sk/cryptoKeyVersions/1" = none ∧
     lookup r.state.kdead "sk/cryptoKeyVersions/1" = some .scheduled ∧
     ¬ PrimaryOK (demoCfg .gcsca) r.state.reload) ∧
    (let r := rotateKeyKms (demoCfg .gcsca) demoEnvDisabled ⟨"sig", 3⟩ noFault demoK.reload
     r.tag = "err" ∧ r.state.log.length = 3 ∧ primaryOf (demoCfg .gcsca) r.state = "sk/cryptoKeyVersions/1" ∧
     lookup r.state.keys "sk/cryptoKeyVersions/1" = some 1) := by
  exact ⟨demoK_inv, demoK_fresh, by decide +kernel, by decide +kernel⟩

/-! ### the hypotheses hold in `demoK`; the shipped rotation under single faults and in environments that misbehave -/

/-- Non-vacuity of `C10_kms_primary_live` / `C10_kms_destroy_after_commit`: the hypotheses hold for `demoK`
    (`demoK_inv`, `demoK_fresh`); the rotation under the single fault that breaks the early-destroy order
    (Close of the manifest fails: position 25 here) ends in an error with BOTH versions ENABLED, the old
    one still recorded, no destroy call in the log; a failed poll (position 2) leaves version 2
    PENDING_GENERATION and the fault-free retry hands out version 3, never reusing the leftover's name. -/
example :
    let r := rotateKeyKms (demoCfg .gcsca) demoEnv ⟨"sig", 3⟩ (failAt 25) demoK.reload
    r.tag = "err" ∧ lookup r.state.keys "sk/cryptoKeyVersions/1" = some 1 ∧
    lookup r.state.keys "sk/cryptoKeyVersions/2" = some 2 ∧
    primaryOf (demoCfg .gcsca) r.state = "sk/cryptoKeyVersions/1" ∧ primaryOKb (demoCfg .gcsca) r.state.reload = true ∧
    r.state.log.length = 26 := by
  decide +kernel

example :
    let r := rotateKeyKms (demoCfg .gcsca) { demoEnv with gen := 1 } ⟨"sig", 3⟩ (failAt 2) demoK.reload
    let r2 := rotateKeyKms (demoCfg .gcsca).allowOverwrite demoEnv ⟨"sig", 3⟩ noFault r.state.reload
    r.tag = "err" ∧ lookup r.state.kdead "sk/cryptoKeyVersions/2" = some (.pending 1) ∧ r.state.kcount = 2 ∧
    r2.tag = "ok" ∧ primaryOf (demoCfg .gcsca) r2.state = "sk/cryptoKeyVersions/3" ∧
    lookup r2.state.keys "sk/cryptoKeyVersions/1" = none ∧
    lookup r2.state.kdead "sk/cryptoKeyVersions/1" = some .scheduled ∧
    lookup r2.state.kdead "sk/cryptoKeyVersions/2" = some (.pending 1) ∧
    primaryOKb (demoCfg .gcsca) r2.state.reload = true := by
  decide +kernel

/-- … a destroy request that fails after the commit (position 27) leaves the OLD version ENABLED beside the
    new primary — allowed by the property (destroyed ONLY after, not necessarily); a corrupted AsymmetricSign
    response and a version that ends up DISABLED stop the rotation before anything durable changed. -/
example :
    let r := rotateKeyKms (demoCfg .gcsca) demoEnv ⟨"sig", 3⟩ (failAt 27) demoK.reload
    r.tag = "err" ∧ primaryOf (demoCfg .gcsca) r.state = "sk/cryptoKeyVersions/2" ∧
    lookup r.state.keys "sk/cryptoKeyVersions/1" = some 1 ∧ primaryOKb (demoCfg .gcsca) r.state.reload = true := by
  decide +kernel

example :
    let r := rotateKeyKms (demoCfg .gcsca) { demoEnv with corrupt := true } ⟨"sig", 3⟩ noFault demoK.reload
    let r' := rotateKeyKms (demoCfg .gcsca) { demoEnv with final := some .disabled } ⟨"sig", 3⟩ noFault demoK.reload
    r.tag = "err" ∧ r.state.log.length = 16 ∧ primaryOKb (demoCfg .gcsca) r.state.reload = true ∧
    r'.tag = "err" ∧ r'.state.log.length = 3 ∧ lookup r'.state.kdead "sk/cryptoKeyVersions/2" = some .disabled ∧
    primaryOKb (demoCfg .gcsca) r'.state.reload = true := by
  decide +kernel

/-- … versions created without a generation phase: created ENABLED, the rotation succeeds after one poll (28
    calls like gen = 0); a crash right after CreateCryptoKeyVersion (position 1) then leaves version 2 ENABLED
    and unreferenced, the recorded primary untouched, and the retry hands out version 3; created DISABLED or
    GENERATION_FAILED, the first poll stops the rotation (3 calls) with the version left as created — also
    when the response claims ENABLED. -/
example :
    let r := rotateKeyKms (demoCfg .gcsca) { demoEnv with created := .enabled } ⟨"sig", 3⟩ noFault demoK.reload
    let c := rotateKeyKms (demoCfg .gcsca) { demoEnv with created := .enabled } ⟨"sig", 3⟩ (crashAt 1) demoK.reload
    let c2 := rotateKeyKms (demoCfg .gcsca).allowOverwrite demoEnv ⟨"sig", 3⟩ noFault c.state.reload
    let d := rotateKeyKms (demoCfg .gcsca) { demoEnv with created := .disabled, resp := some .enabled } ⟨"sig", 3⟩ noFault demoK.reload
    let g := rotateKeyKms (demoCfg .gcsca) { demoEnv with created := .genFailed } ⟨"sig", 3⟩ noFault demoK.reload
    r.tag = "ok" ∧ r.state.log.length = 28 ∧ primaryOKb (demoCfg .gcsca) r.state.reload = true ∧
    c.tag = "crash" ∧ c.state.log.length = 2 ∧ lookup c.state.keys "sk/cryptoKeyVersions/2" = some 2 ∧
    primaryOf (demoCfg .gcsca) c.state = "sk/cryptoKeyVersions/1" ∧ primaryOKb (demoCfg .gcsca) c.state.reload = true ∧
    c2.tag = "ok" ∧ primaryOf (demoCfg .gcsca) c2.state = "sk/cryptoKeyVersions/3" ∧
    d.tag = "err" ∧ d.state.log.length = 3 ∧ lookup d.state.kdead "sk/cryptoKeyVersions/2" = some .disabled ∧
    g.tag = "err" ∧ g.state.log.length = 3 ∧ lookup g.state.kdead "sk/cryptoKeyVersions/2" = some .genFailed ∧
    primaryOKb (demoCfg .gcsca) g.state.reload = true := by
  decide +kernel

/-- … the role of `pubDisabled` and of a response that misreports: when GetPublicKey refuses DISABLED versions the
    changed rotation fails at the subject's public key (4 calls) with nothing durable changed; a response that
    claims ENABLED for a version that is still PENDING_GENERATION makes the changed rotation fail where the
    shipped one (which polls) succeeds. -/
example :
    let t := rotateKeyKmsTrustResponse (demoCfg .gcsca) { demoEnvDisabled with pubDisabled := none } ⟨"sig", 3⟩ noFault demoK.reload
    let l := rotateKeyKmsTrustResponse (demoCfg .gcsca) { demoEnv with gen := 1, resp := some .enabled } ⟨"sig", 3⟩ noFault demoK.reload
    let g := rotateKeyKms (demoCfg .gcsca) { demoEnv with gen := 1, resp := some .enabled } ⟨"sig", 3⟩ noFault demoK.reload
    t.tag = "err" ∧ primaryOKb (demoCfg .gcsca) t.state.reload = true ∧ lookup t.state.keys "sk/cryptoKeyVersions/1" = some 1 ∧
    l.tag = "err" ∧ lookup l.state.kdead "sk/cryptoKeyVersions/2" = some (.pending 1) ∧
    g.tag = "ok" ∧ primaryOf (demoCfg .gcsca) g.state = "sk/cryptoKeyVersions/2" ∧ primaryOKb (demoCfg .gcsca) g.state.reload = true := by
  decide +kernel

end GceTcb.CA
