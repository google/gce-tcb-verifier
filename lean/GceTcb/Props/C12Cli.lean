import GceTcb.Proofs.KeyCli
import GceTcb.Props.C12
import GceTcb.Model.KeyCliSource
import GceTcb.Model.EndorseCli
import GceTcb.Gen.KeyFlags
import GceTcb.Gen.EndorseFlags
/-
C12 at the command line — the chain-of-trust invariants hold over every history of COMMAND LINES of `bootstrap`,
`rotate` and `wipeout`, and every accepted command line hands the library exactly what it names.

`cliStep W pt E s f` (Model/KeyCli.lean) is one command line: the flag values `f` as cobra hands them to the flag
types, the environment `E` (clock, os.Stat of --key_dir), the stored state `s`, the application wiring `W` (which
key manager and certificate authority components cmd.AppComponents.Global composes), `pt` = time.Parse(RFC3339, ·):
`cmdOf` (flag parsing, PersistentPreRunE of Compose(app.Global, core, app.<Command>), InitContext, wipeout's RunE)
yields the context handed to rotate.Bootstrap / rotate.Key / rotate.Wipeout or the rejection; `libStep` is the
library.  The theorems hold for every wiring, `pt`, environment, state / history and command line.
-/
namespace GceTcb.KeyCli
open GceTcb GceTcb.KeyHistory GceTcb.CliFlagTypes GceTcb.Gen

/-! ### obligations on the regenerated command-line facts -/

/-- The model's flag tables are the tables the extractor reads off the `…Var(&dest, "name", default, …)` /
    `AddGoFlag(bigintVar(&dest, "name", "default", …))` calls of BootstrapCommand.AddFlags, RotateCommand.AddFlags,
    wipeoutBase, output.Options.AddFlags, localkm.T / localca.T / gcsca.CertificateAuthority.AddFlags: a new flag, a
    changed default, a flag bound to another field (e.g. `--keep_going` to `opts.Overwrite`) breaks this. -/
theorem C12_cli_flag_tables :
    bootstrapFlagTable = KeyFlags.bootstrapFlags ∧ rotateFlagTable = KeyFlags.rotateFlags ∧
    wipeoutFlagTable = KeyFlags.wipeoutFlags ∧ outputFlagTable = KeyFlags.outputFlags ∧
    wiringFlagTable = KeyFlags.wiringFlags :=
  ⟨rfl, rfl, rfl, rfl, rfl⟩

/-- The defaults the model's command-line record starts from are the defaults of the tables (the three big.Int
    defaults are the strings "1", "2", "0" of the tables, parsed by the model's own parser). -/
theorem C12_cli_defaults :
    (∀ row ∈ renderDefaults { sub := .bootstrap },
      ∃ t ∈ bootstrapFlagTable ++ wipeoutFlagTable ++ outputFlagTable ++ wiringFlagTable, t.1 = row.1 ∧ t.2.2.1 = row.2) ∧
    parseBigDec "1" = some rootSerialDefault ∧ parseBigDec "2" = some signSerialDefault ∧
    parseBigDec "0" = some overrideDefault ∧
    (bootstrapFlagTable.find? (·.1 == "root_key_serial")).map (·.2.2.1) = some "\"1\"" ∧
    (bootstrapFlagTable.find? (·.1 == "initial_signing_key_serial")).map (·.2.2.1) = some "\"2\"" ∧
    (rotateFlagTable.find? (·.1 == "rotated_key_serial_override")).map (·.2.2.1) = some "\"0\"" := by
  decide +kernel

/-- The functions the model was written from still have the statement skeletons it was written from: the
    non-flag statements of the AddFlags functions (context allocation + cmd.SetContext), PersistentPreRunE and
    InitContext of the bootstrap and rotate commands, wipeout's RunE (argument selection), `bigintFlag.Set`,
    `bigintVar`, `timeFlag.Set`, output.AllowOverwrite / AllowRecoverableError, the wiring components' hooks
    (localkm, localca incl. checkCerts, gcsca's root-path derivation and MustBeNonempty ×3), the composition
    functions of cmd/compose.go, the Compose(…) order of the three commands, what ComposeRun runs, and the
    components testing/nonprod.localApp composes. -/
theorem C12_cli_source_skeleton :
    Source.bootstrapOther = KeyFlags.bootstrapOther ∧ Source.bootstrapPreRunSteps = KeyFlags.bootstrapPreRunSteps ∧
    Source.bootstrapInitSteps = KeyFlags.bootstrapInitSteps ∧ Source.rotateOther = KeyFlags.rotateOther ∧
    Source.rotatePreRunSteps = KeyFlags.rotatePreRunSteps ∧ Source.rotateInitSteps = KeyFlags.rotateInitSteps ∧
    Source.wipeoutOther = KeyFlags.wipeoutOther ∧ Source.wipeoutBaseHooks = KeyFlags.wipeoutBaseHooks ∧
    Source.wipeoutRunESteps = KeyFlags.wipeoutRunESteps ∧
    Source.outputAllowOverwriteSteps = KeyFlags.outputAllowOverwriteSteps ∧
    Source.outputAllowRecoverableErrorSteps = KeyFlags.outputAllowRecoverableErrorSteps ∧
    Source.bigintSetSteps = KeyFlags.bigintSetSteps ∧ Source.bigintVarSteps = KeyFlags.bigintVarSteps ∧
    Source.timeSetSteps = KeyFlags.timeSetSteps ∧ Source.timeSetSteps = EndorseFlags.timeSetSteps ∧
    Source.localcaAddFlagsOther = KeyFlags.localcaAddFlagsOther ∧
    Source.localkmPreRunSteps = KeyFlags.localkmPreRunSteps ∧ Source.localkmInitSteps = KeyFlags.localkmInitSteps ∧
    Source.localcaPreRunSteps = KeyFlags.localcaPreRunSteps ∧ Source.localcaInitSteps = KeyFlags.localcaInitSteps ∧
    Source.localcaCheckCertsSteps = KeyFlags.localcaCheckCertsSteps ∧
    Source.gcscaPreRunSteps = KeyFlags.gcscaPreRunSteps ∧
    Source.composedPreRunSteps = KeyFlags.composedPreRunSteps ∧ Source.composedInitSteps = KeyFlags.composedInitSteps ∧
    Source.composeInitContextSteps = KeyFlags.composeInitContextSteps ∧ Source.composeRunSteps = KeyFlags.composeRunSteps ∧
    Source.bootstrapCompose = KeyFlags.bootstrapCompose ∧ Source.bootstrapPersistentPreRunE = KeyFlags.bootstrapPersistentPreRunE ∧
    Source.bootstrapComposeRun = KeyFlags.bootstrapComposeRun ∧
    Source.rotateCompose = KeyFlags.rotateCompose ∧ Source.rotatePersistentPreRunE = KeyFlags.rotatePersistentPreRunE ∧
    Source.rotateComposeRun = KeyFlags.rotateComposeRun ∧ Source.rotateRunFnSteps = KeyFlags.rotateRunFnSteps ∧
    Source.wipeoutCompose = KeyFlags.wipeoutCompose ∧ Source.wipeoutPersistentPreRunE = KeyFlags.wipeoutPersistentPreRunE ∧
    Source.nonprodGlobal = KeyFlags.nonprodGlobal ∧ Source.nonprodComponents = KeyFlags.nonprodComponents :=
  ⟨rfl, rfl, rfl, rfl, rfl, rfl, rfl, rfl, rfl, rfl, rfl, rfl, rfl, rfl, rfl, rfl, rfl, rfl, rfl, rfl, rfl, rfl, rfl, rfl,
   rfl, rfl, rfl, rfl, rfl, rfl, rfl, rfl, rfl, rfl, rfl, rfl, rfl⟩

/-- The time flag of the key-management commands is the time flag of `endorse` (one `timeFlag.Set` in cmd/flags.go,
    two transcriptions): the model of C06 / C15 and this one agree on every list of occurrences. -/
theorem C12_cli_time_flag_shared (P : EndorseCli.Params) (cur : Int × Nat) (vs : List String) :
    EndorseCli.timeSetAll P cur vs = timeSetAll P.parseTime cur vs := by
  induction vs generalizing cur with
  | nil => rfl
  | cons v t ih =>
    have h1 : EndorseCli.timeSet P cur v = timeSet P.parseTime cur v := rfl
    simp only [EndorseCli.timeSetAll, timeSetAll, h1]
    cases timeSet P.parseTime cur v with
    | ok x => exact ih x
    | _ => rfl

/-! ### the big.Int flags -/

/-- `new(big.Int).SetString(text, 10)` as transcribed accepts exactly: an optional sign followed by one or more
    ASCII digits; the value is the decimal value of the digits, negated after `-`. -/
theorem C12_cli_bigint_syntax (s : String) (n : Int) :
    parseBigDec s = some n ↔
      (∃ ds, s.toList = '-' :: ds ∧ allDigits ds = true ∧ n = -(Int.ofNat (digitsToNat ds))) ∨
      (∃ ds, s.toList = '+' :: ds ∧ allDigits ds = true ∧ n = Int.ofNat (digitsToNat ds)) ∨
      (allDigits s.toList = true ∧ n = Int.ofNat (digitsToNat s.toList)) := by
  have hm : allDigits ('-' :: ([] : List Char)) = false ∧ ∀ ds, allDigits ('-' :: ds) = false := by
    refine ⟨by decide, fun ds => ?_⟩
    simp [allDigits, Char.isDigit]
  have hp : ∀ ds, allDigits ('+' :: ds) = false := by
    intro ds; simp [allDigits, Char.isDigit]
  unfold parseBigDec
  constructor
  · intro h
    split at h
    · next ds heq =>
      by_cases hd : allDigits ds = true
      · simp only [hd, if_true, Option.some.injEq] at h; exact Or.inl ⟨ds, heq, hd, h.symm⟩
      · simp [hd] at h
    · next ds heq =>
      by_cases hd : allDigits ds = true
      · simp only [hd, if_true, Option.some.injEq] at h; exact Or.inr (Or.inl ⟨ds, heq, hd, h.symm⟩)
      · simp [hd] at h
    · next ds _ _ =>
      by_cases hd : allDigits s.toList = true
      · simp only [hd, if_true, Option.some.injEq] at h; exact Or.inr (Or.inr ⟨hd, h.symm⟩)
      · simp [hd] at h
  · rintro (⟨ds, heq, hd, hn⟩ | ⟨ds, heq, hd, hn⟩ | ⟨hd, hn⟩)
    · rw [heq]; simp only [hd, if_true, hn]
    · rw [heq]; simp only [hd, if_true, hn]
    · split
      · next ds heq => rw [heq, hm.2] at hd; cases hd
      · next ds heq => rw [heq, hp] at hd; cases hd
      · simp only [hd, if_true, hn]

/-- The value is positional decimal: appending a digit multiplies by ten and adds it. -/
theorem C12_cli_bigint_decimal (ds : List Char) (d : Char) :
    digitsToNat (ds ++ [d]) = digitsToNat ds * 10 + (d.toNat - 48) := by
  simp [digitsToNat, List.foldl_append]

/-- Boundary values: 0, 1, -1, 2^63, 2^64, 2^128, signs and leading zeros are read as written; text, blanks,
    underscores, a base prefix, an exponent, a bare sign and the empty string are refused. -/
theorem C12_cli_bigint_boundaries :
    parseBigDec "0" = some 0 ∧ parseBigDec "1" = some 1 ∧ parseBigDec "-1" = some (-1) ∧
    parseBigDec "9223372036854775808" = some (2 ^ 63) ∧ parseBigDec "18446744073709551616" = some (2 ^ 64) ∧
    parseBigDec "340282366920938463463374607431768211456" = some (2 ^ 128) ∧
    parseBigDec "+5" = some 5 ∧ parseBigDec "007" = some 7 ∧ parseBigDec "-0" = some 0 ∧
    parseBigDec "abc" = none ∧ parseBigDec "" = none ∧ parseBigDec " 1" = none ∧ parseBigDec "1_0" = none ∧
    parseBigDec "0x10" = none ∧ parseBigDec "1e3" = none ∧ parseBigDec "+" = none ∧ parseBigDec "-" = none ∧
    parseBigDec "--1" = none := by decide +kernel

/-- Occurrences of a big.Int flag: none keeps the default; an empty value keeps what is stored; otherwise the value
    must parse and replaces what is stored — so the LAST non-empty occurrence wins and ANY malformed one refuses. -/
theorem C12_cli_bigint_occurrences (cur : Int) (vs : List String) (v : String) :
    bigintSetAll cur [] = .ok cur ∧
    bigintSet cur "" = .ok cur ∧
    (v ≠ "" → bigintSet cur v = match parseBigDec v with | some n => .ok n | none => .err "parse:bigint") ∧
    bigintSetAll cur (vs ++ [v]) =
      (match bigintSetAll cur vs with
       | .ok n => bigintSet n v
       | .err e => .err e
       | .panic x => .panic x) :=
  ⟨rfl, rfl, fun h => by unfold bigintSet; rw [if_neg h]; cases parseBigDec v <;> rfl, bigintSetAll_append cur vs v⟩

/-! ### the timestamp -/

/-- `--timestamp`: not given → the stored time stays zero; one non-empty value → it must parse; once a non-zero
    time is stored every further occurrence (even an empty one) refuses; an empty value before that is ignored. -/
theorem C12_cli_timestamp (pt : String → Option (Int × Nat)) (v w : String) (t : Int × Nat) (vs : List String) :
    timeSetAll pt zeroTime [] = .ok zeroTime ∧
    timeSetAll pt zeroTime ("" :: vs) = timeSetAll pt zeroTime vs ∧
    (v ≠ "" → pt v = none → timeSetAll pt zeroTime (v :: vs) = .err "parse:timestamp") ∧
    (v ≠ "" → pt v = some t → t ≠ zeroTime → timeSetAll pt zeroTime [v] = .ok t ∧
      timeSetAll pt zeroTime (v :: w :: vs) = .err "parse:time-already-set") := by
  refine ⟨rfl, by simp [timeSetAll, timeSet], fun hv hp => by simp [timeSetAll, timeSet, hv, hp], fun hv hp ht => ?_⟩
  constructor
  · simp [timeSetAll, timeSet, hv, hp]
  · simp [timeSetAll, timeSet, hv, hp, ht]

/-- Observation: the zero time cannot be named.  `--timestamp 0001-01-01T00:00:00Z` (or any spelling of that
    instant with an offset) parses, is stored — and is then taken for "not given": the certificates get the clock. -/
theorem C12_cli_zero_timestamp_is_unset (pt : String → Option (Int × Nat)) (E : Env) (v : String)
    (hv : v ≠ "") (hp : pt v = some zeroTime) :
    timeSetAll pt zeroTime [v] = .ok zeroTime ∧ nowOf E zeroTime = E.now := by
  constructor
  · simp [timeSetAll, timeSet, hv, hp]
  · simp [nowOf]

/-! ### what an accepted command line hands to the library -/

/-- **bootstrap**: the library is handed the common names of `--root_key_cn` / `--signing_key_cn` as written, the
    serials the `--root_key_serial` / `--initial_signing_key_serial` occurrences parse to (defaults 1 and 2), the
    creation time `--timestamp` parses to (the clock of the run when none, or the zero time, is given), and the
    `--overwrite` / `--keep_going` of the command line. -/
theorem C12_cli_bootstrap_names (W : Wiring) (pt : String → Option (Int × Nat)) (E : Env) (s : State) (f : CliFlags)
    (h : Handed) (hs : f.sub = .bootstrap) (hc : cmdOf W pt E s f = .ok h) :
    ∃ rs ss ts, bigintSetAll 1 f.rootKeySerial = .ok rs ∧ bigintSetAll 2 f.initialSigningKeySerial = .ok ss ∧
      timeSetAll pt zeroTime f.timestamp = .ok ts ∧
      h.cmd = .bootstrap ⟨f.overwrite, f.keepGoing⟩
        ⟨f.rootKeyCn, f.signingKeyCn, rs, ss, if ts = zeroTime then E.now else ts⟩ := by
  obtain ⟨p, h1, _, _, h4, _⟩ := cmdOf_ok_iff.mp hc
  have h4 := initCtx_ok_iff.mp h4
  rw [hs] at h4
  unfold parseFlags at h1
  rw [hs] at h1
  cases hr : bigintSetAll rootSerialDefault f.rootKeySerial with
  | ok rs =>
    cases hss : bigintSetAll signSerialDefault f.initialSigningKeySerial with
    | ok ss =>
      cases ht : timeSetAll pt zeroTime f.timestamp with
      | ok ts =>
        simp only [hr, hss, ht, Outcome.ok.injEq] at h1
        subst h1
        exact ⟨rs, ss, ts, hr, hss, rfl, h4⟩
      | _ => simp only [hr, hss, ht] at h1; cases h1
    | _ => simp only [hr, hss] at h1; cases h1
  | _ => simp only [hr] at h1; cases h1

/-- **rotate**: the common name of `--signing_key_cn`, the creation time as for bootstrap, the flags — and the
    serial: a non-zero `--rotated_key_serial_override` as written; otherwise (no override, or one that parses to
    0: "0", "-0", "+0", "000") the subject serial of the current primary signing certificate plus one. -/
theorem C12_cli_rotate_names (W : Wiring) (pt : String → Option (Int × Nat)) (E : Env) (s : State) (f : CliFlags)
    (h : Handed) (hs : f.sub = .rotate) (hc : cmdOf W pt E s f = .ok h) :
    ∃ ov ts n, bigintSetAll 0 f.rotatedKeySerialOverride = .ok ov ∧ timeSetAll pt zeroTime f.timestamp = .ok ts ∧
      h.cmd = .rotate ⟨f.overwrite, f.keepGoing⟩ ⟨f.signingKeyCn, n, if ts = zeroTime then E.now else ts⟩ ∧
      (ov ≠ 0 → n = ov) ∧
      (ov = 0 → ∃ p, certificate s.ca s.ca.primarySigning = some p ∧ n = Int.ofNat p.subjSerial + 1) := by
  obtain ⟨p, h1, _, _, h4, _⟩ := cmdOf_ok_iff.mp hc
  have h4 := initCtx_ok_iff.mp h4
  rw [hs] at h4
  obtain ⟨_, n, hn, hcmd⟩ := h4
  unfold parseFlags at h1
  rw [hs] at h1
  cases hr : bigintSetAll overrideDefault f.rotatedKeySerialOverride with
  | ok ov =>
    cases ht : timeSetAll pt zeroTime f.timestamp with
    | ok ts =>
      simp only [hr, ht, Outcome.ok.injEq] at h1
      subst h1
      refine ⟨ov, ts, n, hr, rfl, hcmd, fun hov => ?_, fun hov => ?_⟩
      · rw [rotateSerial, if_neg hov] at hn; exact (Option.some.inj hn).symm
      · rw [rotateSerial, if_pos hov] at hn
        cases hp : resolveSerial s.ca none with
        | none => rw [hp] at hn; cases hn
        | some m =>
          rw [hp] at hn
          obtain ⟨q, hq, hm⟩ := resolveSerial_none hp
          exact ⟨q, hq, by rw [← Option.some.inj hn, hm]; rfl⟩
    | _ => simp only [hr, ht] at h1; cases h1
  | _ => simp only [hr] at h1; cases h1

/-- **wipeout**: no argument selects the certificate authority AND the keys; a first argument `ca` only the
    authority, `keys` only the keys; any other first argument selects NOTHING (further arguments are ignored);
    `--force_prod_wipeout` and the output flags pass through. -/
theorem C12_cli_wipeout_selection (W : Wiring) (pt : String → Option (Int × Nat)) (E : Env) (s : State) (f : CliFlags)
    (h : Handed) (hs : f.sub = .wipeout) (hc : cmdOf W pt E s f = .ok h) :
    ∃ ca keys, h.cmd = .wipeout ⟨f.overwrite, f.keepGoing⟩ ⟨f.forceProdWipeout, ca, keys⟩ ∧
      (f.args = [] → ca = true ∧ keys = true) ∧
      (∀ a rest, f.args = a :: rest → ca = (a == "ca") ∧ keys = (a == "keys")) := by
  obtain ⟨p, _, _, _, h4, _⟩ := cmdOf_ok_iff.mp hc
  have h4 := initCtx_ok_iff.mp h4
  rw [hs] at h4
  refine ⟨wipeSel f.args "ca", wipeSel f.args "keys", h4.2, ?_, ?_⟩
  · intro ha; rw [ha]; exact ⟨rfl, rfl⟩
  · intro a rest ha; rw [ha]; exact ⟨rfl, rfl⟩

/-- The store and the key directory the library works on are the ones the command line names: `--key_dir`,
    `--bucket_root`, `--bucket`, `--cert_dir` as written; `--root_path` as written, or — only for bootstrap, only
    when it is empty — the root common name with ".crt" appended. -/
theorem C12_cli_store_names (W : Wiring) (pt : String → Option (Int × Nat)) (E : Env) (s : State) (f : CliFlags)
    (h : Handed) (hc : cmdOf W pt E s f = .ok h) :
    h.keyDir = f.keyDir ∧
    (W.ca = .memca → h.site = none) ∧
    (W.ca = .gcsca → h.site = some ⟨f.bucketRoot, f.bucket, f.certDir, resolvedRootPath f⟩ ∧
      (f.rootPath ≠ "" → resolvedRootPath f = f.rootPath) ∧
      (f.rootPath = "" → f.sub = .bootstrap ∧ resolvedRootPath f = f.rootKeyCn ++ ".crt")) := by
  obtain ⟨p, _, _, h3, _, h6⟩ := cmdOf_ok_iff.mp hc
  have h3 := siteCheck_ok_iff.mp h3
  refine ⟨h6, fun hm => by rw [hm] at h3; exact h3, fun hg => ?_⟩
  rw [hg] at h3
  obtain ⟨⟨_, hne, _⟩, h3⟩ := h3
  refine ⟨h3, fun hr => by simp [resolvedRootPath, hr], fun hr => ?_⟩
  unfold resolvedRootPath at hne ⊢
  rw [if_neg (fun h => h hr)] at hne ⊢
  by_cases hb : f.sub = .bootstrap ∧ f.rootKeyCn ≠ ""
  · rw [if_pos hb]; exact ⟨hb.1, rfl⟩
  · rw [if_neg hb] at hne; exact absurd rfl hne

/-! ### rejections -/

/-- **A command line is accepted exactly when** every occurrence of its big.Int and time flags is well-formed,
    `--key_dir` is a directory (localkm), `--bucket`, `--cert_dir` and the (possibly derived) root path are not
    empty (localca / gcsca), and — for rotate and wipeout — localca's checkCerts passes on the stored state and
    (rotate with no / a zero override) the current primary signing key has a certificate to take the serial from. -/
theorem C12_cli_accept_iff (W : Wiring) (pt : String → Option (Int × Nat)) (E : Env) (s : State) (f : CliFlags) :
    (cmdOf W pt E s f).isOk = true ↔
      ∃ p, parseFlags pt f = .ok p ∧
        (W.km = .localkm → E.statDir f.keyDir = some true) ∧
        (W.ca = .gcsca → f.bucket ≠ "" ∧ resolvedRootPath f ≠ "" ∧ f.certDir ≠ "") ∧
        (f.sub ≠ .bootstrap → cliBlocked W.cfg s.ca = false) ∧
        (f.sub = .rotate → (rotateSerial s.ca p.override).isSome = true) := by
  constructor
  · intro h
    cases hc : cmdOf W pt E s f with
    | ok hd =>
      obtain ⟨p, h1, h2, h3, h4, _⟩ := cmdOf_ok_iff.mp hc
      have h3 := siteCheck_ok_iff.mp h3
      have h4 := initCtx_ok_iff.mp h4
      refine ⟨p, h1, keyDirCheck_ok_iff.mp h2, fun hg => by rw [hg] at h3; exact h3.1, fun hb => ?_, fun hr => ?_⟩
      · cases hsub : f.sub with
        | bootstrap => exact absurd hsub hb
        | rotate => rw [hsub] at h4; exact h4.1
        | wipeout => rw [hsub] at h4; exact h4.1
      · rw [hr] at h4
        obtain ⟨_, n, hn, _⟩ := h4
        rw [hn]; rfl
    | _ => rw [hc] at h; cases h
  · rintro ⟨p, h1, h2, h3, h4, h5⟩
    have k3 : ∃ site, siteCheck W f = .ok site := by
      cases hg : W.ca with
      | memca => exact ⟨none, siteCheck_ok_iff.mpr (by rw [hg])⟩
      | gcsca => exact ⟨_, siteCheck_ok_iff.mpr (by rw [hg]; exact ⟨h3 hg, rfl⟩)⟩
    have k4 : ∃ c, initCtx W s f p (nowOf E p.ts) = .ok c := by
      simp only [initCtx_ok_iff]
      cases hsub : f.sub with
      | bootstrap => exact ⟨_, rfl⟩
      | rotate =>
        obtain ⟨n, hn⟩ := Option.isSome_iff_exists.mp (h5 hsub)
        exact ⟨_, h4 (by rw [hsub]; decide), n, hn, rfl⟩
      | wipeout => exact ⟨_, h4 (by rw [hsub]; decide), rfl⟩
    obtain ⟨site, k3⟩ := k3
    obtain ⟨c, k4⟩ := k4
    rw [(cmdOf_ok_iff (h := ⟨c, site, f.keyDir⟩)).mpr ⟨p, h1, keyDirCheck_ok_iff.mpr h2, k3, k4, rfl⟩]; rfl

/-- **The rejections, exactly**: a command line that is not accepted is refused with one of the classes of
    `rejectionClasses` — a malformed big.Int value; a malformed timestamp; a second timestamp; `--key_dir` missing /
    not a directory; an empty `--bucket` / root path / `--cert_dir` (the three digits say which); localca's pre-check
    of the stored certificates (rotate, wipeout); no current certificate to take the next serial from (rotate) —
    never with a panic, and in none of these cases is the library entered: keys and certificates are unchanged. -/
theorem C12_cli_rejections (W : Wiring) (pt : String → Option (Int × Nat)) (E : Env) (s : State) (f : CliFlags)
    (h : (cmdOf W pt E s f).isOk = false) :
    (∃ e, cmdOf W pt E s f = .err e ∧ e ∈ rejectionClasses) ∧ cliStep W pt E s f = (s, false) := by
  have hr := cmdOf_refuses W pt E s f
  unfold cliStep
  cases hc : cmdOf W pt E s f with
  | ok hd => rw [hc] at h; cases h
  | err e => rw [hc] at hr; exact ⟨⟨e, rfl, hr⟩, rfl⟩
  | panic x => rw [hc] at hr; exact hr.elim

/-! ### composition with the KeyHistory model -/

/-- **cliStep = KeyHistory.step ∘ cmdOf.**  For every accepted command line whose context the certificate library
    can represent (serial numbers not negative, creation time with a UTC year of 0 … 9999 − 25), the command line
    does to keys and certificates exactly what the KeyHistory model's `step` does for the command `toCmd` reads off
    the context: bootstrap with the four names / serials and the time, rotate with the resolved serial, wipeout with
    the selection. -/
theorem C12_cli_compose (W : Wiring) (pt : String → Option (Int × Nat)) (E : Env) (s : State) (f : CliFlags) (h : Handed)
    (hc : cmdOf W pt E s f = .ok h) (hr : representable h.cmd = true) :
    cliStep W pt E s f = step W.cfg s (toCmd h.cmd) := by
  unfold cliStep
  rw [hc]
  exact libStep_eq_step W.cfg s h.cmd hr (cmdOf_cmd hc).2.2.1

/-- Observation: a context crypto/x509 refuses is NOT rejected by the command line.  `bootstrap` with a negative
    `--root_key_serial` is accepted, creates (and, with localkm, stores) the root key and the first signing key, and
    only then fails in x509.CreateCertificate; the certificate store of gcsca is untouched, the keys stay: the next
    `bootstrap` without `--overwrite` is refused because the keys exist. -/
theorem C12_cli_negative_serial_keeps_keys (W : Wiring) (pt : String → Option (Int × Nat)) (E : Env) (s : State)
    (f : CliFlags) (o : Flags) (c : BootCtx) (h : Handed) (hc : cmdOf W pt E s f = .ok h)
    (hcmd : h.cmd = .bootstrap o c) (hneg : c.rootSerial < 0)
    (hk1 : keyExists o s.km rootName = false) (hk2 : keyExists o (s.km.gen rootName) firstName = false) :
    (cliStep W pt E s f).2 = false ∧ (cliStep W pt E s f).1.km = (s.km.gen rootName).gen firstName ∧
    (W.ca = .gcsca → (cliStep W pt E s f).1.ca = s.ca) ∧
    keyExists ⟨false, o.keepGoing⟩ (cliStep W pt E s f).1.km rootName = true := by
  have hstep : cliStep W pt E s f = bootstrapX W.cfg o c s := by
    unfold cliStep; rw [hc]; show libStep W.cfg s h.cmd = _; rw [hcmd]; rfl
  have hcerts : bootCertsX W.cfg o c ((s.km.gen rootName).gen firstName) s.km.next (s.km.next + 1) s.ca =
      (bootView W.cfg s.ca, false) := by
    unfold bootCertsX
    cases hrt : rootTemplate W.cfg (bootView W.cfg s.ca) (.boot (bootArgs c)) s.km.next with
    | none => rfl
    | some rt =>
      have : refused c.rootSerial c.now rt = true := by simp [refused, hneg]
      simp only [this, if_true]
  rw [hstep]
  simp only [bootstrapX, hk1, hk2, Bool.false_eq_true, if_false, hcerts]
  refine ⟨trivial, trivial, fun hg => by simp [bootView, Wiring.cfg, hg], ?_⟩
  have hne : rootName ≠ firstName := fun e => firstName_ne_root e.symm
  simp [keyExists, KM.gen, get_put, hne]

/-! ### the invariants over every history of command lines -/

/-- **Root profile, all histories of command lines** (any wiring, flags, values — also the ones crypto/x509 refuses):
    the root certificate the authority serves is a self-signed CA certificate with certificate-signing usage and
    the 25-year lifetime. -/
theorem C12_cli_root_profile (W : Wiring) (pt : String → Option (Int × Nat)) (h : List (Env × CliFlags)) (r : Cert)
    (hb : bundle W.cfg (cliRun W pt State.init h).ca = some r) : RootProfile r :=
  RootInv_bundle (RootInv_cliRun W pt h State.init (RootInv_empty W.cfg)) hb

/-- FULL STATEMENT (fails today, see C12_cli_finding_rebootstrap): after any history of command lines every
    certificate the authority records, other than the root's entry, has the signing profile and is issued by the
    served root. -/
def C12_cli_signing_profile : Prop :=
  ∀ (W : Wiring), W.guard = true → ∀ (pt : String → Option (Int × Nat)) (h : List (Env × CliFlags)) (n : KName) (c : Cert),
    certificate (cliRun W pt State.init h).ca n = some c → n ≠ (cliRun W pt State.init h).ca.primaryRoot →
    SignProfile c ∧ ∃ r, bundle W.cfg (cliRun W pt State.init h).ca = some r ∧ IssuedBy r c

/-- Proved part: histories of command lines whose ACCEPTED bootstrap lines all run on a clean store — with any
    common names, serial texts (also negative: refused by crypto/x509 after the keys exist), timestamps, overwrite
    and keep_going flags, selectors, rejected lines in between.  Missing for the full statement: bootstrap over a
    populated store (known findings C12-K1…K4). -/
theorem C12_cli_signing_profile_partial (W : Wiring) (hg : W.guard = true) (pt : String → Option (Int × Nat))
    (h : List (Env × CliFlags)) (hc : CliCleanRun W pt State.init h) (n : KName) (c : Cert)
    (hn : certificate (cliRun W pt State.init h).ca n = some c)
    (hroot : n ≠ (cliRun W pt State.init h).ca.primaryRoot) :
    SignProfile c ∧ ∃ r, bundle W.cfg (cliRun W pt State.init h).ca = some r ∧ IssuedBy r c :=
  ((Inv_cliRun hg pt h State.init (Inv_init W.cfg) hc).served hn hroot).1

/-- Among the key versions the authority records, only the current primary can sign — after every history of
    command lines whose accepted bootstraps run on a clean store. -/
theorem C12_cli_only_primary_signs_partial (W : Wiring) (hg : W.guard = true) (pt : String → Option (Int × Nat))
    (h : List (Env × CliFlags)) (hc : CliCleanRun W pt State.init h) (n : KName) (c : Cert) (k : Nat)
    (hn : certificate (cliRun W pt State.init h).ca n = some c)
    (hroot : n ≠ (cliRun W pt State.init h).ca.primaryRoot)
    (hl : KeyHistory.get (cliRun W pt State.init h).km.live n = some k) :
    n = (cliRun W pt State.init h).ca.primarySigning :=
  ((Inv_cliRun hg pt h State.init (Inv_init W.cfg) hc).served hn hroot).2 k hl

/-- The name the next rotation would create was neither certified nor destroyed since the last key wipeout. -/
theorem C12_cli_names_fresh_partial (W : Wiring) (hg : W.guard = true) (pt : String → Option (Int × Nat))
    (h : List (Env × CliFlags)) (hc : CliCleanRun W pt State.init h) :
    certificate (cliRun W pt State.init h).ca (bump (cliRun W pt State.init h).ca.primarySigning) = none ∧
    bump (cliRun W pt State.init h).ca.primarySigning ∉ (cliRun W pt State.init h).km.destroyed :=
  (Inv_cliRun hg pt h State.init (Inv_init W.cfg) hc).next_fresh

/-- gcsca, after every history of command lines: a bootstrap or rotate LINE without `--overwrite` — accepted,
    rejected, or refused by crypto/x509 half-way — leaves every existing certificate object and the root object as
    they were. -/
theorem C12_cli_no_clobber (W : Wiring) (hg : W.ca = .gcsca) (pt : String → Option (Int × Nat))
    (h : List (Env × CliFlags)) (E : Env) (f : CliFlags) (hw : f.sub ≠ .wipeout) (hf : f.overwrite = false) :
    (∀ p x, KeyHistory.get (cliRun W pt State.init h).ca.objects p = some x →
      KeyHistory.get (cliStep W pt E (cliRun W pt State.init h) f).1.ca.objects p = some x) ∧
    (∀ r, (cliRun W pt State.init h).ca.rootObj = some r →
      (cliStep W pt E (cliRun W pt State.init h) f).1.ca.rootObj = some r) := by
  generalize cliRun W pt State.init h = s
  unfold cliStep
  cases hc : cmdOf W pt E s f with
  | ok hd =>
    obtain ⟨k1, k2, _⟩ := cmdOf_cmd hc
    exact libStep_keeps (cfg := W.cfg) hg s hd.cmd (Bool.eq_false_iff.mpr fun hq => hw (k2.mp hq)) (by rw [k1]; exact hf)
  | _ => exact Keeps.refl s.ca

/-- **C12 over histories of command lines.**  For every wiring (memkm | localkm × memca | localca→gcsca, both
    sequencings of rotate.Key, the repaired gcsca.upload), every `time.Parse`, every history of command lines with
    their environments: the served root has the root profile; and when the accepted bootstrap lines run on a clean
    store, every recorded signing certificate has the signing profile and is issued by the served root, only the
    primary of the recorded key versions can sign, and the next rotation's name is fresh. -/
theorem C12_cli_history (W : Wiring) (hg : W.guard = true) (pt : String → Option (Int × Nat)) (h : List (Env × CliFlags)) :
    (∀ r, bundle W.cfg (cliRun W pt State.init h).ca = some r → RootProfile r) ∧
    (CliCleanRun W pt State.init h →
      (∀ n c, certificate (cliRun W pt State.init h).ca n = some c → n ≠ (cliRun W pt State.init h).ca.primaryRoot →
        SignProfile c ∧ ∃ r, bundle W.cfg (cliRun W pt State.init h).ca = some r ∧ IssuedBy r c) ∧
      (∀ n c k, certificate (cliRun W pt State.init h).ca n = some c → n ≠ (cliRun W pt State.init h).ca.primaryRoot →
        KeyHistory.get (cliRun W pt State.init h).km.live n = some k → n = (cliRun W pt State.init h).ca.primarySigning) ∧
      certificate (cliRun W pt State.init h).ca (bump (cliRun W pt State.init h).ca.primarySigning) = none ∧
      bump (cliRun W pt State.init h).ca.primarySigning ∉ (cliRun W pt State.init h).km.destroyed) :=
  ⟨fun r hb => C12_cli_root_profile W pt h r hb,
   fun hc => ⟨fun n c => C12_cli_signing_profile_partial W hg pt h hc n c,
     fun n c k => C12_cli_only_primary_signs_partial W hg pt h hc n c k,
     C12_cli_names_fresh_partial W hg pt h hc⟩⟩

/-! ### serial numbers through the command line -/

/-- **A rotation without override gets predecessor + 1 — through the command line.**  After any history of
    command lines, a successful `rotate` line whose `--rotated_key_serial_override` occurrences parse to 0 (none
    given, "0", "-0", "+0", "000", an empty value), without `--keep_going`, records for the new primary
    `BumpName(previous primary)` a certificate whose subject serial is the previous primary certificate's subject
    serial plus one, whose certificate serial equals its subject serial and whose common name is `--signing_key_cn`. -/
theorem C12_cli_serial_default (W : Wiring) (pt : String → Option (Int × Nat)) (h : List (Env × CliFlags)) (E : Env)
    (f : CliFlags) (hs : f.sub = .rotate) (hov : bigintSetAll 0 f.rotatedKeySerialOverride = .ok 0)
    (hk : f.keepGoing = false) (hok : (cliStep W pt E (cliRun W pt State.init h) f).2 = true) :
    ∃ p c, certificate (cliRun W pt State.init h).ca (cliRun W pt State.init h).ca.primarySigning = some p ∧
      (cliStep W pt E (cliRun W pt State.init h) f).1.ca.primarySigning = bump (cliRun W pt State.init h).ca.primarySigning ∧
      certificate (cliStep W pt E (cliRun W pt State.init h) f).1.ca
        (cliStep W pt E (cliRun W pt State.init h) f).1.ca.primarySigning = some c ∧
      c.subjSerial = p.subjSerial + 1 ∧ c.certSerial = c.subjSerial ∧ c.cn = f.signingKeyCn := by
  generalize cliRun W pt State.init h = s at hok ⊢
  obtain ⟨hd, hc, hst⟩ := cliStep_ok hok
  obtain ⟨ov, ts, n, h1, _, h3, _, h5⟩ := C12_cli_rotate_names W pt E s f hd hs hc
  rw [hov] at h1
  simp only [Outcome.ok.injEq] at h1
  obtain ⟨p, hp, hn⟩ := h5 h1.symm
  rw [hst, h3] at hok ⊢
  simp only [libStep] at hok ⊢
  obtain ⟨x, x1, x2, x3, x4, x5, _⟩ := rotateKeyX_ok_fields (by exact hk) hok
  refine ⟨p, x, hp, x1, by rw [x1]; exact x2, ?_, x4, x5⟩
  simp only [] at x3
  rw [hn] at x3
  exact Int.ofNat.inj (by simpa using x3)

/-- With an override that is not 0 the recorded subject serial (and certificate serial) is the override as written
    — 1, 2^63, 2^64, 2^128 alike. -/
theorem C12_cli_serial_override (W : Wiring) (pt : String → Option (Int × Nat)) (h : List (Env × CliFlags)) (E : Env)
    (f : CliFlags) (ov : Int) (hs : f.sub = .rotate) (hov : bigintSetAll 0 f.rotatedKeySerialOverride = .ok ov)
    (hne : ov ≠ 0) (hk : f.keepGoing = false) (hok : (cliStep W pt E (cliRun W pt State.init h) f).2 = true) :
    ∃ c, certificate (cliStep W pt E (cliRun W pt State.init h) f).1.ca
        (cliStep W pt E (cliRun W pt State.init h) f).1.ca.primarySigning = some c ∧
      Int.ofNat c.subjSerial = ov ∧ c.certSerial = c.subjSerial ∧ c.cn = f.signingKeyCn := by
  generalize cliRun W pt State.init h = s at hok ⊢
  obtain ⟨hd, hc, hst⟩ := cliStep_ok hok
  obtain ⟨ov', ts, n, h1, _, h3, h4, _⟩ := C12_cli_rotate_names W pt E s f hd hs hc
  rw [hov] at h1
  simp only [Outcome.ok.injEq] at h1
  subst h1
  have hn := h4 hne
  rw [hst, h3] at hok ⊢
  simp only [libStep] at hok ⊢
  obtain ⟨x, x1, x2, x3, x4, x5, _⟩ := rotateKeyX_ok_fields (by exact hk) hok
  refine ⟨x, by rw [x1]; exact x2, ?_, x4, x5⟩
  simp only [] at x3
  rw [hn] at x3; exact x3

/-! ### wipeout through the command line -/

/-- `wipeout` without an argument, when it succeeds, after any history: no key version can sign, no certificate is
    recorded, stored or served. -/
theorem C12_cli_wipeout_total (W : Wiring) (pt : String → Option (Int × Nat)) (h : List (Env × CliFlags)) (E : Env)
    (f : CliFlags) (hs : f.sub = .wipeout) (ha : f.args = [])
    (hok : (cliStep W pt E (cliRun W pt State.init h) f).2 = true) :
    (cliStep W pt E (cliRun W pt State.init h) f).1.km.live = [] ∧
    (∀ n, certificate (cliStep W pt E (cliRun W pt State.init h) f).1.ca n = none) ∧
    bundle W.cfg (cliStep W pt E (cliRun W pt State.init h) f).1.ca = none ∧
    (cliStep W pt E (cliRun W pt State.init h) f).1.ca.objects = [] := by
  generalize cliRun W pt State.init h = s at hok ⊢
  obtain ⟨hd, hc, hst⟩ := cliStep_ok hok
  obtain ⟨ca, keys, h1, h2, _⟩ := C12_cli_wipeout_selection W pt E s f hd hs hc
  obtain ⟨e1, e2⟩ := h2 ha
  subst e1; subst e2
  rw [hst, h1]
  simp only [libStep, wipeout, if_true]
  refine ⟨rfl, fun n => rfl, ?_, rfl⟩
  unfold bundle; cases W.cfg.ca <;> rfl

/-- `wipeout ca` leaves the keys alone and the authority empty; `wipeout keys` leaves the authority alone and no
    key able to sign; and — observation — `wipeout <anything else>` (a typo such as `key`, `CA`, `all`, an empty
    argument) is ACCEPTED, selects nothing, changes nothing and reports success. -/
theorem C12_cli_wipeout_parts (W : Wiring) (pt : String → Option (Int × Nat)) (E : Env) (s : State) (f : CliFlags)
    (a : String) (rest : List String) (hs : f.sub = .wipeout) (ha : f.args = a :: rest)
    (hacc : (cmdOf W pt E s f).isOk = true) :
    (cliStep W pt E s f).2 = true ∧
    (a = "ca" → (cliStep W pt E s f).1.ca = CA.empty ∧ (cliStep W pt E s f).1.km = s.km) ∧
    (a = "keys" → (cliStep W pt E s f).1.km.live = [] ∧ (cliStep W pt E s f).1.ca = s.ca) ∧
    (a ≠ "ca" → a ≠ "keys" → (cliStep W pt E s f).1 = s) := by
  cases hc : cmdOf W pt E s f with
  | ok hd =>
    obtain ⟨ca, keys, h1, _, h3⟩ := C12_cli_wipeout_selection W pt E s f hd hs hc
    obtain ⟨e1, e2⟩ := h3 a rest ha
    have hst : cliStep W pt E s f = libStep W.cfg s hd.cmd := by unfold cliStep; rw [hc]
    rw [hst, h1, e1, e2]
    simp only [libStep, wipeout]
    refine ⟨trivial, fun e => ?_, fun e => ?_, fun n1 n2 => ?_⟩
    · subst e; exact ⟨rfl, rfl⟩
    · subst e; exact ⟨rfl, rfl⟩
    · have b1 : (a == "ca") = false := by simpa using n1
      have b2 : (a == "keys") = false := by simpa using n2
      simp [b1, b2]
  | _ => rw [hc] at hacc; cases hacc

/-! ### witnesses and non-vacuity: concrete command lines -/

/-- time.Parse(RFC3339, ·) on the timestamps of the examples -/
def exPt : String → Option (Int × Nat) := fun t =>
  if t = "2024-09-01T00:00:00Z" then some (1725148800, 0)
  else if t = "2024-10-01T12:00:00+02:00" then some (1727776800, 0)
  else if t = "2025-01-01T00:00:00-08:00" then some (1735718400, 0)
  else if t = "0001-01-01T00:00:00Z" then some zeroTime
  else none

def exEnv : Env := ⟨(1790000000, 250000000), fun p => if p = "keys" then some true else none⟩

/-- the shipped wiring: localkm × localca (gcsca), sequential rotate.Key, repaired upload -/
def exW : Wiring := ⟨.gcsca, .localkm, true, true⟩
def exMem : Wiring := ⟨.memca, .memkm, true, true⟩

def exB (ts : String) : CliFlags :=
  { sub := .bootstrap, keyDir := "keys", bucket := "bkt", certDir := "certs", rootPath := "root.crt", timestamp := [ts] }
def exR (ts : String) (ov : List String) : CliFlags :=
  { sub := .rotate, keyDir := "keys", bucket := "bkt", certDir := "certs", rootPath := "root.crt", timestamp := [ts],
    rotatedKeySerialOverride := ov }
def exWipe (args : List String) : CliFlags :=
  { sub := .wipeout, keyDir := "keys", bucket := "bkt", certDir := "certs", rootPath := "root.crt", args := args }

/-- `bootstrap; rotate; bootstrap --overwrite --root_key_cn rootB` as command lines -/
def exReboot : List (Env × CliFlags) :=
  [(exEnv, exB "2024-09-01T00:00:00Z"), (exEnv, exR "2024-10-01T12:00:00+02:00" []),
   (exEnv, { exB "2025-01-01T00:00:00-08:00" with overwrite := true, rootKeyCn := "rootB" })]

/-- D18 at the command line: after `bootstrap; rotate; bootstrap --overwrite` (three accepted command lines of the
    shipped wiring) the entry of the rotated key still carries the certificate issued by the previous root. -/
theorem C12_cli_finding_rebootstrap : ¬ C12_cli_signing_profile := by
  intro hfull
  -- one evaluation of the history for the three facts
  have key : certificate (cliRun exW exPt State.init exReboot).ca ⟨"primarySigningKey", 1⟩ =
        some ⟨3, 3, "GCE-uefi-signer", "GCE-cc-tcb-root", 1, 2, 0, 0, false, 1, 13, 1727776800 + 62167219200,
          1727776800 + 62167219200 + signLifetime⟩ ∧
      ⟨"primarySigningKey", 1⟩ ≠ (cliRun exW exPt State.init exReboot).ca.primaryRoot ∧
      bundle exW.cfg (cliRun exW exPt State.init exReboot).ca =
        some ⟨1, 1, "rootB", "rootB", 1, 3, 3, 3, true, 96, 13, 1735718400 + 62167219200,
          1735718400 + 62167219200 + rootLifetime⟩ := by decide +kernel
  obtain ⟨_, r, hr, hi, _⟩ := hfull exW rfl exPt exReboot _ _ key.1 key.2.1
  rw [key.2.2] at hr
  cases hr
  revert hi; decide

/-- `bootstrap; rotate; rotate --rotated_key_serial_override 9223372036854775808;
    rotate --timestamp 0001-01-01T00:00:00Z --rotated_key_serial_override -0` -/
def exGood : List (Env × CliFlags) :=
  [(exEnv, exB "2024-09-01T00:00:00Z"), (exEnv, exR "2024-10-01T12:00:00+02:00" []),
   (exEnv, exR "2025-01-01T00:00:00-08:00" ["9223372036854775808"]), (exEnv, exR "0001-01-01T00:00:00Z" ["-0"])]

/-- The hypotheses of the theorems above are met by concrete command lines: the good history is a clean run on both
    wirings, every line is accepted and succeeds, the serials recorded are 2, 3, 2^63, 2^63 + 1, the last
    certificate (zero `--timestamp` = not given) is dated by the clock of the run, only the last key can sign. -/
example :
    CliCleanRun exW exPt State.init exGood ∧
    ((cliRun exW exPt State.init exGood).ca.objects.map (·.2.subjSerial)) = [1, 2, 3, 2 ^ 63, 2 ^ 63 + 1] ∧
    ((cliRun exW exPt State.init exGood).ca.objects.map (·.2.notBefore)).getLast? = some (1790000000 + 62167219200) ∧
    ((cliRun exW exPt State.init exGood).km.live.map (·.1.show)) = ["root", "primarySigningKey_3"] ∧
    (cliStep exW exPt exEnv (cliRun exW exPt State.init exGood) (exR "2024-09-01T00:00:00Z" [])).2 = true ∧
    (cliStep exW exPt exEnv (cliRun exW exPt State.init exGood) (exWipe [])).2 = true ∧
    ((cliRun exMem exPt State.init exGood).ca.entries.map (·.1.show)) =
      ["root", "primarySigningKey", "primarySigningKey_1", "primarySigningKey_2", "primarySigningKey_3"] := by
  refine ⟨⟨fun _ _ => ⟨rfl, rfl, rfl⟩, ⟨fun h => by simp [exR] at h, ⟨fun h => by simp [exR] at h, ⟨fun h => by simp [exR] at h, trivial⟩⟩⟩⟩, ?_⟩
  decide +kernel

/-- the class of an outcome: "ok", the refusal class, or "panic" -/
def rejClass (o : Outcome Handed) : String :=
  match o with
  | .ok _ => "ok"
  | .err e => e
  | .panic _ => "panic"

/-- Rejections are reachable, one per class family, and the x509 refusal is not a rejection: a negative root serial
    is accepted, fails in the library and leaves the two keys; the next plain bootstrap is then refused by the key
    manager (library), `--overwrite` recovers. -/
example :
    rejClass (cmdOf exW exPt exEnv State.init { exB "2024-09-01T00:00:00Z" with rootKeySerial := ["abc"] }) = "parse:bigint" ∧
    rejClass (cmdOf exW exPt exEnv State.init (exB "2024-09-01 00:00:00")) = "parse:timestamp" ∧
    rejClass (cmdOf exW exPt exEnv State.init { exB "2024-09-01T00:00:00Z" with timestamp := ["2024-09-01T00:00:00Z", ""] }) = "parse:time-already-set" ∧
    rejClass (cmdOf exW exPt exEnv State.init { exB "2024-09-01T00:00:00Z" with keyDir := "nowhere" }) = "prerun:key_dir-stat" ∧
    rejClass (cmdOf exW exPt exEnv State.init { exB "2024-09-01T00:00:00Z" with rootPath := "", rootKeyCn := "", certDir := "" }) = "prerun:nonempty-011" ∧
    rejClass (cmdOf exW exPt exEnv State.init (exR "2024-09-01T00:00:00Z" [])) = "init:check-certs" ∧
    rejClass (cmdOf exMem exPt exEnv State.init (exR "2024-09-01T00:00:00Z" [])) = "init:next-serial" ∧
    (cmdOf exW exPt exEnv State.init { exB "2024-09-01T00:00:00Z" with rootPath := "", rootKeyCn := "rootA" }).isOk = true ∧
    (cliStep exW exPt exEnv State.init { exB "2024-09-01T00:00:00Z" with rootKeySerial := ["-1"] }).2 = false ∧
    ((cliStep exW exPt exEnv State.init { exB "2024-09-01T00:00:00Z" with rootKeySerial := ["-1"] }).1.km.live.map (·.1.show))
      = ["root", "primarySigningKey"] ∧
    (cliStep exW exPt exEnv (cliStep exW exPt exEnv State.init { exB "2024-09-01T00:00:00Z" with rootKeySerial := ["-1"] }).1
      (exB "2024-09-01T00:00:00Z")).2 = false ∧
    (cliStep exW exPt exEnv (cliStep exW exPt exEnv State.init { exB "2024-09-01T00:00:00Z" with rootKeySerial := ["-1"] }).1
      { exB "2024-09-01T00:00:00Z" with overwrite := true }).2 = true := by
  decide +kernel

/-- wipeout selectors on a bootstrapped store: `ca` then `keys` — the second is refused by localca's pre-check (the
    store is empty), the keys stay; `key` (a typo) succeeds and wipes nothing. -/
example :
    (cliStep exW exPt exEnv (cliRun exW exPt State.init [(exEnv, exB "2024-09-01T00:00:00Z")]) (exWipe ["key"])).2 = true ∧
    (cliStep exW exPt exEnv (cliRun exW exPt State.init [(exEnv, exB "2024-09-01T00:00:00Z")]) (exWipe ["key"])).1.ca =
      (cliRun exW exPt State.init [(exEnv, exB "2024-09-01T00:00:00Z")]).ca ∧
    ((cliStep exW exPt exEnv (cliRun exW exPt State.init [(exEnv, exB "2024-09-01T00:00:00Z")]) (exWipe ["key"])).1.km.live.map (·.1.show))
      = ["root", "primarySigningKey"] ∧
    rejClass (cmdOf exW exPt exEnv (cliRun exW exPt State.init [(exEnv, exB "2024-09-01T00:00:00Z"), (exEnv, exWipe ["ca"])]) (exWipe ["keys"])) = "init:check-certs" ∧
    ((cliRun exW exPt State.init [(exEnv, exB "2024-09-01T00:00:00Z"), (exEnv, exWipe ["ca"]), (exEnv, exWipe ["keys"])]).km.live.map (·.1.show))
      = ["root", "primarySigningKey"] := by
  decide +kernel

end GceTcb.KeyCli
