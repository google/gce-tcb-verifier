import GceTcb.Proofs.KeyHistory
import GceTcb.Proofs.KeyHistoryKms
import GceTcb.Proofs.RotateKms
/-
C12 — Chain-of-trust invariants hold over every key-management history.
Property theorems only (model: Model/KeyHistory.lean, documented profiles: Spec/KeyHistory.lean,
lemmas and the invariants: Proofs/KeyHistory.lean).

All theorems quantify over every configuration `cfg` (memca | gcsca authority, memkm | localkm manager,
both step sequencings of rotate.Key, library or CLI entry) and over every command history `h`
(unbounded list; `run cfg State.init h` is the state after the history).

`cfg.guard = true` is gcsca.upload as it is after its two "fix:" commits (an object recorded for another
key version is refused; an existing object that keep_going left unwritten is not recorded); `guard = false`
is the upload of before, kept for the witness `C12_old_keep_going_records_root_cert`.

Full-strength and proved for ALL histories (both values of `guard`): C12_root_profile, C12_serial_succ,
C12_no_clobber (gcsca), C12_wipeout_total.  Four clauses fail on the current code for histories that
bootstrap over a populated store (D18 = known findings C12-K1…K4) — and only for those: their full
statements are the `def … : Prop` below, each with a proved witness `C12_finding_…` of its negation and a
proved `…_partial` theorem whose ONLY extra hypothesis is `CleanRun` (every bootstrap of the history runs
on an empty store).  Common names are not restricted (a signing key may be given the root's; finding
C12-K5 / D19): the repaired upload refuses the colliding object, and the invariant does not distinguish
certificate objects by their common name.
-/
namespace GceTcb.KeyHistory
open GceTcb.Gen

/-- The regenerated constants are the documented ones: 25-year root (25 × 365.24 days), five years
    plus one day for signing keys, certificate-signing / digital-signature usages, RSA-PSS with
    SHA-256, certificate serial = subject serial in both template paths, serial and name increments of 1. -/
theorem C12_consts :
    CertConsts.rootValidDays = 9131 ∧ CertConsts.signValidDays = 5 * 365 + 1 ∧ CertConsts.hoursPerDay = 24 ∧
    CertConsts.googleRootDays = CertConsts.rootValidDays ∧ CertConsts.googleSignDays = CertConsts.signValidDays ∧
    CertConsts.fromCertRootDays = CertConsts.rootValidDays ∧ CertConsts.fromCertSignDays = CertConsts.signValidDays ∧
    CertConsts.googleRootIsCA = true ∧ CertConsts.googleSignIsCA = false ∧
    CertConsts.kuCertSign = 32 ∧ CertConsts.kuDigitalSignature = 1 ∧ CertConsts.sigSHA256WithRSAPSS = 13 ∧
    CertConsts.googleRootKeyUsage &&& CertConsts.kuCertSign = CertConsts.kuCertSign ∧
    CertConsts.googleSignKeyUsage = CertConsts.kuDigitalSignature ∧
    CertConsts.googleSigAlg = CertConsts.sigSHA256WithRSAPSS ∧
    CertConsts.googleSerialIsSubject = true ∧ CertConsts.fromCertSerialIsSubject = true ∧
    CertConsts.nextSerialIncrement = 1 ∧ CertConsts.rotateDefaultIncrement = 1 ∧ CertConsts.bumpIncrement = 1 := by
  decide +kernel

/-! ### root certificate -/

/-- After any history, the root certificate the authority serves is a self-signed CA certificate with
    certificate-signing usage and the documented 25-year lifetime. -/
theorem C12_root_profile (cfg : Cfg) (h : List Cmd) (r : Cert)
    (hb : bundle cfg (run cfg State.init h).ca = some r) : RootProfile r :=
  RootInv_bundle (RootInv_run cfg h State.init (RootInv_empty cfg)) hb

/-! ### signing certificates -/

/-- FULL STATEMENT (fails today, see C12_finding_rebootstrap): after any history every certificate the
    authority records, other than the root's entry, has the signing profile and is issued by the served root. -/
def C12_signing_profile : Prop :=
  ∀ (cfg : Cfg), cfg.guard = true → ∀ (h : List Cmd) (n : KName) (c : Cert),
    certificate (run cfg State.init h).ca n = some c → n ≠ (run cfg State.init h).ca.primaryRoot →
    SignProfile c ∧ ∃ r, bundle cfg (run cfg State.init h).ca = some r ∧ IssuedBy r c

/-- Proved part: histories that never bootstrap over a populated store — with ANY common names, serial
    overrides, overwrite and keep_going flags.  Missing for the full statement: bootstrap over a populated
    store leaves the previous root's signing certificates recorded (D18). -/
theorem C12_signing_profile_partial (cfg : Cfg) (hg : cfg.guard = true) (h : List Cmd)
    (hc : CleanRun cfg State.init h) (n : KName) (c : Cert)
    (hn : certificate (run cfg State.init h).ca n = some c)
    (hroot : n ≠ (run cfg State.init h).ca.primaryRoot) :
    SignProfile c ∧ ∃ r, bundle cfg (run cfg State.init h).ca = some r ∧ IssuedBy r c :=
  ((Inv_run cfg hg h State.init (Inv_init cfg) hc).served hn hroot).1

def memCfg : Cfg := ⟨.memca, .memkm, false, false, true⟩
def gcsCfg : Cfg := ⟨.gcsca, .memkm, true, false, true⟩
/-- gcsca with upload as it was before its two "fix:" commits -/
def gcsCfgOld : Cfg := ⟨.gcsca, .memkm, true, false, false⟩
def noFlags : Flags := ⟨false, false⟩
def owFlags : Flags := ⟨true, false⟩

/-- bootstrap; rotate; bootstrap --overwrite -/
def rebootHistory : List Cmd :=
  [.bootstrap noFlags ⟨"rootA", "signA", 1, 2, 1000⟩, .rotate noFlags ⟨"signA", none, 2000⟩,
   .bootstrap owFlags ⟨"rootB", "signB", 1, 2, 3000⟩]

/-- D18 witness: after `bootstrap; rotate; bootstrap --overwrite` the entry of the rotated key still
    carries the certificate issued by the previous root (signer key 0; the served root has key 3). -/
theorem C12_finding_rebootstrap : ¬ C12_signing_profile := by
  intro hfull
  have key : certificate (run memCfg State.init rebootHistory).ca ⟨"primarySigningKey", 1⟩ =
        some ⟨3, 3, "signA", "rootA", 1, 2, 0, 0, false, 1, 13, 2000, 2000 + signLifetime⟩ ∧
      (⟨"primarySigningKey", 1⟩ : KName) ≠ (run memCfg State.init rebootHistory).ca.primaryRoot ∧
      (bundle memCfg (run memCfg State.init rebootHistory).ca).map (·.subjectKey) = some 3 := by decide +kernel
  obtain ⟨_, r, hr, hi, _⟩ := hfull memCfg rfl rebootHistory _ _ key.1 key.2.1
  rw [hr] at key
  exact absurd (hi.trans (Option.some.inj key.2.2)) (by decide)

/-- bootstrap; rotate --keep_going with the root's common name and serial (gcsca) -/
def keepGoingHistory : List Cmd :=
  [.bootstrap noFlags ⟨"rootA", "signA", 1, 2, 1000⟩, .rotate ⟨false, true⟩ ⟨"rootA", some 1, 2000⟩]

/-- the clause of `C12_signing_profile` on one configuration and history -/
def SigningProfileOn (cfg : Cfg) (h : List Cmd) : Prop :=
  ∀ (n : KName) (c : Cert), certificate (run cfg State.init h).ca n = some c → n ≠ (run cfg State.init h).ca.primaryRoot →
    SignProfile c ∧ ∃ r, bundle cfg (run cfg State.init h).ca = some r ∧ IssuedBy r c

/-- **The old upload records the root certificate as a signing certificate** (finding C12-K5 / D19, repaired):
    on gcsca as it was BEFORE the fix, a rotation with keep_going, without overwrite, whose certificate would get
    the object name of the root's certificate is recorded WITHOUT being written — the new primary's entry then
    serves the root certificate, a CA certificate — although the history is a clean run.  On the repaired
    upload the same history satisfies the clause (instance of `C12_signing_profile_partial`), the rotation is
    refused and the primary stays `primarySigningKey`. -/
theorem C12_old_keep_going_records_root_cert :
    CleanRun gcsCfgOld State.init keepGoingHistory ∧ ¬ SigningProfileOn gcsCfgOld keepGoingHistory ∧
    CleanRun gcsCfg State.init keepGoingHistory ∧ SigningProfileOn gcsCfg keepGoingHistory ∧
    (run gcsCfg State.init keepGoingHistory).ca.primarySigning = firstName := by
  have hc : CleanRun gcsCfg State.init keepGoingHistory := ⟨fun _ => ⟨rfl, rfl, rfl⟩, nofun, trivial⟩
  refine ⟨⟨fun _ => ⟨rfl, rfl, rfl⟩, nofun, trivial⟩, ?_, hc,
    C12_signing_profile_partial gcsCfg rfl keepGoingHistory hc, by decide +kernel⟩
  · intro hfull
    have key : certificate (run gcsCfgOld State.init keepGoingHistory).ca ⟨"primarySigningKey", 1⟩ =
          some ⟨1, 1, "rootA", "rootA", 1, 0, 0, 0, true, 96, 13, 1000, 1000 + rootLifetime⟩ ∧
        (⟨"primarySigningKey", 1⟩ : KName) ≠ (run gcsCfgOld State.init keepGoingHistory).ca.primaryRoot := by
      decide +kernel
    exact absurd (hfull _ _ key.1 key.2).1.1 (by decide)

/-- … and the same object with `--overwrite` (the input class of C10's finding D22, here on the root's
    certificate object): before the fix the root key version's entry ends up serving a signing certificate;
    the repaired upload refuses, the root's entry keeps serving the root certificate. -/
theorem C12_old_overwrite_clobbers_root_entry :
    (certificate (run gcsCfgOld State.init
      [.bootstrap noFlags ⟨"rootA", "signA", 1, 2, 1000⟩, .rotate owFlags ⟨"rootA", some 1, 2000⟩]).ca rootName).map (·.isCA) = some false ∧
    (certificate (run gcsCfg State.init
      [.bootstrap noFlags ⟨"rootA", "signA", 1, 2, 1000⟩, .rotate owFlags ⟨"rootA", some 1, 2000⟩]).ca rootName).map (·.isCA) = some true ∧
    (step gcsCfg (run gcsCfg State.init [.bootstrap noFlags ⟨"rootA", "signA", 1, 2, 1000⟩])
      (.rotate owFlags ⟨"rootA", some 1, 2000⟩)).2 = false := by
  decide +kernel

/-! ### serial numbers -/

/-- Unless overridden (and unless keep_going lets Finalize skip the write), a successful rotation
    records for the new primary key version `BumpName(previous primary)` a certificate whose subject
    serial is one greater than its predecessor's and whose certificate serial equals its subject serial.
    Holds after every history. -/
theorem C12_serial_succ (cfg : Cfg) (h : List Cmd) (f : Flags) (a : RotArgs)
    (hs : a.serial = none) (hk : f.keepGoing = false)
    (hok : (step cfg (run cfg State.init h) (.rotate f a)).2 = true) :
    ∃ p c, certificate (run cfg State.init h).ca (run cfg State.init h).ca.primarySigning = some p ∧
      (step cfg (run cfg State.init h) (.rotate f a)).1.ca.primarySigning = bump (run cfg State.init h).ca.primarySigning ∧
      certificate (step cfg (run cfg State.init h) (.rotate f a)).1.ca
        (step cfg (run cfg State.init h) (.rotate f a)).1.ca.primarySigning = some c ∧
      c.subjSerial = p.subjSerial + 1 ∧ c.certSerial = c.subjSerial := by
  obtain ⟨n, c, hn, h1, h2, h3, h4⟩ := step_rotate_records hk hok
  rw [hs] at hn
  obtain ⟨p, hp, e⟩ := resolveSerial_none hn
  exact ⟨p, c, hp, h1, h2, h3.trans e, h4.trans h3.symm⟩

/-- With an override the recorded subject serial (and certificate serial) is the override. -/
theorem C12_serial_override (cfg : Cfg) (h : List Cmd) (f : Flags) (a : RotArgs) (n : Nat)
    (hs : a.serial = some n) (hk : f.keepGoing = false)
    (hok : (step cfg (run cfg State.init h) (.rotate f a)).2 = true) :
    ∃ c, certificate (step cfg (run cfg State.init h) (.rotate f a)).1.ca
        (step cfg (run cfg State.init h) (.rotate f a)).1.ca.primarySigning = some c ∧
      c.subjSerial = n ∧ c.certSerial = n := by
  obtain ⟨n', c, hn, _, h2, h3, h4⟩ := step_rotate_records hk hok
  rw [hs] at hn
  cases hn
  exact ⟨c, h2, h3, h4⟩

/-! ### only the primary signing key can sign -/

/-- FULL STATEMENT (fails today, see C12_finding_rebootstrap_old_key): among the key versions the
    authority records a signing certificate for, only the current primary can sign. -/
def C12_only_primary_signs : Prop :=
  ∀ (cfg : Cfg), cfg.guard = true → ∀ (h : List Cmd) (n : KName) (c : Cert) (k : Nat),
    certificate (run cfg State.init h).ca n = some c → n ≠ (run cfg State.init h).ca.primaryRoot →
    get (run cfg State.init h).km.live n = some k → n = (run cfg State.init h).ca.primarySigning

/-- Proved part: histories that never bootstrap over a populated store — every recorded signing key
    version other than the primary was destroyed.  Missing: bootstrap over a populated store leaves
    the previous primary alive and recorded. -/
theorem C12_only_primary_signs_partial (cfg : Cfg) (hg : cfg.guard = true) (h : List Cmd)
    (hc : CleanRun cfg State.init h) (n : KName) (c : Cert) (k : Nat)
    (hn : certificate (run cfg State.init h).ca n = some c)
    (hroot : n ≠ (run cfg State.init h).ca.primaryRoot)
    (hl : get (run cfg State.init h).km.live n = some k) :
    n = (run cfg State.init h).ca.primarySigning :=
  ((Inv_run cfg hg h State.init (Inv_init cfg) hc).served hn hroot).2 k hl

/-- D18 witness: after `bootstrap; rotate; bootstrap --overwrite` the old primary `primarySigningKey_1`
    is still recorded and can still sign, while the primary is `primarySigningKey`. -/
theorem C12_finding_rebootstrap_old_key : ¬ C12_only_primary_signs := by
  intro hfull
  exact absurd (hfull memCfg rfl rebootHistory ⟨"primarySigningKey", 1⟩
    ⟨3, 3, "signA", "rootA", 1, 2, 0, 0, false, 1, 13, 2000, 2000 + signLifetime⟩ 2) (by decide +kernel)

/-! ### key-version names -/

/-- BumpName keeps the prefix and strictly increases the numeric suffix. -/
theorem C12_bump_increases (k : KName) : (bump k).base = k.base ∧ k.idx < (bump k).idx :=
  ⟨rfl, by simp [bump_idx]⟩

/-- FULL STATEMENT (fails today, see C12_finding_rebootstrap_name_reuse): the name a rotation creates
    was neither certified by the authority nor destroyed since the last key wipeout. -/
def C12_names_fresh_between_wipeouts : Prop :=
  ∀ (cfg : Cfg), cfg.guard = true → ∀ (h : List Cmd) (f : Flags) (a : RotArgs),
    (step cfg (run cfg State.init h) (.rotate f a)).2 = true →
    certificate (run cfg State.init h).ca (bump (run cfg State.init h).ca.primarySigning) = none ∧
    bump (run cfg State.init h).ca.primarySigning ∉ (run cfg State.init h).km.destroyed

/-- Proved part (even for failing rotations): histories that never bootstrap over a populated store. -/
theorem C12_names_fresh_between_wipeouts_partial (cfg : Cfg) (hg : cfg.guard = true) (h : List Cmd)
    (hc : CleanRun cfg State.init h) :
    certificate (run cfg State.init h).ca (bump (run cfg State.init h).ca.primarySigning) = none ∧
    bump (run cfg State.init h).ca.primarySigning ∉ (run cfg State.init h).km.destroyed :=
  (Inv_run cfg hg h State.init (Inv_init cfg) hc).next_fresh

/-- D18 witness: `bootstrap; rotate; bootstrap --overwrite; rotate` creates `primarySigningKey_1` a second
    time without any wipeout in between. -/
theorem C12_finding_rebootstrap_name_reuse : ¬ C12_names_fresh_between_wipeouts := by
  intro hfull
  exact absurd (hfull memCfg rfl rebootHistory noFlags ⟨"signB", none, 4000⟩) (by decide +kernel)

/-! ### no certificate object changes without overwrite -/

/-- gcsca (the authority with stored objects), after every history: a bootstrap or rotation without
    overwrite leaves every existing certificate object and the root object as they were. -/
theorem C12_no_clobber (cfg : Cfg) (hg : cfg.ca = .gcsca) (h : List Cmd) (c : Cmd)
    (hw : isWipeout c = false) (hf : c.flags.overwrite = false) :
    (∀ p x, get (run cfg State.init h).ca.objects p = some x → get (step cfg (run cfg State.init h) c).1.ca.objects p = some x) ∧
    (∀ r, (run cfg State.init h).ca.rootObj = some r → (step cfg (run cfg State.init h) c).1.ca.rootObj = some r) :=
  keeps_of_caStep hg hw hf (step_ca cfg (run cfg State.init h) c)

/-- FULL STATEMENT for memca (fails today, see C12_finding_rebootstrap_memca_clobber): memca has no
    overwrite check of its own. -/
def C12_no_clobber_memca : Prop :=
  ∀ (cfg : Cfg), cfg.guard = true → cfg.ca = .memca → ∀ (h : List Cmd) (c : Cmd), isWipeout c = false → c.flags.overwrite = false →
    ∀ p x, get (run cfg State.init h).ca.objects p = some x → get (step cfg (run cfg State.init h) c).1.ca.objects p = some x

/-- Proved part: histories (including the last command) that never bootstrap over a populated store:
    the rotated key's name is fresh, so its certificate replaces nothing. -/
theorem C12_no_clobber_memca_partial (cfg : Cfg) (hg : cfg.guard = true) (hm : cfg.ca = .memca) (h : List Cmd) (c : Cmd)
    (hc : CleanRun cfg State.init (h ++ [c])) (hw : isWipeout c = false)
    (p : ObjKey) (x : Cert) (hp : get (run cfg State.init h).ca.objects p = some x) :
    get (step cfg (run cfg State.init h) c).1.ca.objects p = some x := by
  obtain ⟨hc', hcl, _⟩ := (CleanRun_append cfg h [c] State.init).1 hc
  obtain ⟨hca, _⟩ := Inv_run cfg hg h State.init (Inv_init cfg) hc'
  generalize run cfg State.init h = s at hp hcl hca ⊢
  rcases step_ca cfg s c with e | hcc
  · rw [e]; exact hp
  · cases c with
    | wipeout f a b => cases hw
    | bootstrap f a => rw [(hcl rfl).2.2] at hp; cases hp
    | rotate f a =>
      obtain ⟨oc, e⟩ := hcc
      rw [e]
      simp only [caAfterRotate, hm]
      cases oc with
      | none => exact hp
      | some c =>
        -- memca stores an object only under a recorded name, and the new name is not recorded
        have hne : p ≠ .byName (bump s.ca.primarySigning) := by
          intro e2
          have := hca.memObj hm (bump s.ca.primarySigning) (by rw [← e2, hp]; rfl)
          rw [hca.kver_fresh] at this; cases this
        show get (put s.ca.objects _ c) p = some x
        rw [get_put_ne _ _ _ _ hne]; exact hp

/-- D18 witness on memca: `bootstrap; wipeout keys; bootstrap` (no overwrite anywhere) replaces the
    recorded certificates. -/
theorem C12_finding_rebootstrap_memca_clobber : ¬ C12_no_clobber_memca := by
  intro hfull
  exact absurd (hfull memCfg rfl rfl
    [.bootstrap noFlags ⟨"rootA", "signA", 1, 2, 1000⟩, .wipeout noFlags false true]
    (.bootstrap noFlags ⟨"rootA", "signA", 1, 2, 5000⟩) rfl rfl
    (.byName rootName) ⟨1, 1, "rootA", "rootA", 1, 0, 0, 0, true, 96, 13, 1000, 1000 + rootLifetime⟩) (by decide +kernel)

/-! ### wipeout -/

/-- After a successful `wipeout` of both the authority and the keys, from any history: no key version
    can sign, no certificate is recorded, stored or served. -/
theorem C12_wipeout_total (cfg : Cfg) (h : List Cmd) (f : Flags)
    (hok : (step cfg (run cfg State.init h) (.wipeout f true true)).2 = true) :
    (step cfg (run cfg State.init h) (.wipeout f true true)).1.km.live = [] ∧
    (∀ n, certificate (step cfg (run cfg State.init h) (.wipeout f true true)).1.ca n = none) ∧
    bundle cfg (step cfg (run cfg State.init h) (.wipeout f true true)).1.ca = none ∧
    (step cfg (run cfg State.init h) (.wipeout f true true)).1.ca.objects = [] := by
  generalize run cfg State.init h = s at hok ⊢
  simp only [step] at hok ⊢
  by_cases hb : cliBlocked cfg s.ca = true
  · simp [hb] at hok
  · simp only [hb]
    refine ⟨rfl, fun n => rfl, ?_, rfl⟩
    unfold bundle; cases cfg.ca <;> rfl

/-- `wipeout keys` alone leaves no key able to sign; `wipeout ca` alone leaves no certificate served. -/
theorem C12_wipeout_parts (cfg : Cfg) (h : List Cmd) (f : Flags) (c k : Bool)
    (hok : (step cfg (run cfg State.init h) (.wipeout f c k)).2 = true) :
    (k = true → (step cfg (run cfg State.init h) (.wipeout f c k)).1.km.live = []) ∧
    (c = true → (step cfg (run cfg State.init h) (.wipeout f c k)).1.ca = CA.empty) := by
  generalize run cfg State.init h = s at hok ⊢
  simp only [step] at hok ⊢
  by_cases hb : cliBlocked cfg s.ca = true
  · simp [hb] at hok
  · simp only [hb]
    exact ⟨fun e => by simp [wipeout, e, KM.wipe], fun e => by simp [wipeout, e]⟩

/-! ### non-vacuity -/

/-- bootstrap; rotate; rotate with the default names -/
def goodHistory : List Cmd :=
  [.bootstrap noFlags ⟨"GCE-cc-tcb-root", "GCE-uefi-signer", 1, 2, 1000⟩,
   .rotate noFlags ⟨"GCE-uefi-signer", none, 2000⟩, .rotate noFlags ⟨"GCE-uefi-signer", none, 3000⟩]

/-- The concrete history `bootstrap; rotate; rotate` meets every hypothesis used above (clean run,
    successful rotations, a served root, three recorded signing certificates with serials 2, 3, 4
    of which only the last key can sign) on both authorities and both sequencings. -/
example : CleanRun memCfg State.init goodHistory ∧ CleanRun gcsCfg State.init goodHistory := by
  exact ⟨⟨fun _ => ⟨rfl, rfl, rfl⟩, nofun, nofun, trivial⟩,
    ⟨fun _ => ⟨rfl, rfl, rfl⟩, nofun, nofun, trivial⟩⟩

example :
    (run memCfg State.init goodHistory).ca.primarySigning = ⟨"primarySigningKey", 2⟩ ∧
    ((run memCfg State.init goodHistory).ca.entries.map (·.1.show)) = ["root", "primarySigningKey", "primarySigningKey_1", "primarySigningKey_2"] ∧
    ((run gcsCfg State.init goodHistory).ca.objects.map (·.2.subjSerial)) = [1, 2, 3, 4] ∧
    ((run gcsCfg State.init goodHistory).km.live.map (·.1.show)) = ["root", "primarySigningKey_2"] ∧
    (run gcsCfg State.init goodHistory).km.destroyed.map (·.show) = ["primarySigningKey_1", "primarySigningKey"] ∧
    (bundle gcsCfg (run gcsCfg State.init goodHistory).ca).isSome = true ∧
    (step memCfg (run memCfg State.init goodHistory) (.rotate noFlags ⟨"GCE-uefi-signer", none, 4000⟩)).2 = true ∧
    (step gcsCfg (run gcsCfg State.init goodHistory) (.rotate noFlags ⟨"GCE-uefi-signer", some 9, 4000⟩)).2 = true ∧
    (step gcsCfg (run gcsCfg State.init goodHistory) (.wipeout noFlags true true)).2 = true := by
  decide +kernel

/-- C12_no_clobber is not vacuous: a rotation without overwrite onto an existing object name is refused
    and changes nothing; with overwrite it is refused as well when the object is the recorded certificate of
    another key version (here the first signing key's, serial 2); what overwrite does replace is a key
    version's OWN recorded object (a second bootstrap with overwrite replaces both certificates, without it
    is refused). -/
example :
    (step gcsCfg (run gcsCfg State.init goodHistory) (.rotate noFlags ⟨"GCE-uefi-signer", some 2, 4000⟩)).2 = false ∧
    (step gcsCfg (run gcsCfg State.init goodHistory) (.rotate owFlags ⟨"GCE-uefi-signer", some 2, 4000⟩)).2 = false ∧
    (step gcsCfgOld (run gcsCfgOld State.init goodHistory) (.rotate owFlags ⟨"GCE-uefi-signer", some 2, 4000⟩)).2 = true ∧
    (step gcsCfg (run gcsCfg State.init goodHistory) (.bootstrap noFlags ⟨"GCE-cc-tcb-root", "GCE-uefi-signer", 1, 2, 9000⟩)).2 = false ∧
    (step gcsCfg (run gcsCfg State.init goodHistory) (.bootstrap owFlags ⟨"GCE-cc-tcb-root", "GCE-uefi-signer", 1, 2, 9000⟩)).2 = true ∧
    ((step gcsCfg (run gcsCfg State.init goodHistory) (.bootstrap owFlags ⟨"GCE-cc-tcb-root", "GCE-uefi-signer", 1, 2, 9000⟩)).1.ca.objects.map (·.2.notBefore))
      = [9000, 9000, 2000, 3000] := by
  decide +kernel

/-- The partial theorems do not need distinct common names: a clean run in which a
    rotated key is given the ROOT's common name (with a serial of its own) and a bootstrap uses one common
    name for both certificates. -/
example :
    CleanRun gcsCfg State.init
      [.bootstrap noFlags ⟨"same", "same", 1, 2, 1000⟩, .rotate noFlags ⟨"same", none, 2000⟩, .rotate ⟨false, true⟩ ⟨"same", some 1, 3000⟩] ∧
    (run gcsCfg State.init
      [.bootstrap noFlags ⟨"same", "same", 1, 2, 1000⟩, .rotate noFlags ⟨"same", none, 2000⟩, .rotate ⟨false, true⟩ ⟨"same", some 1, 3000⟩]).ca.primarySigning
      = ⟨"primarySigningKey", 1⟩ := by
  refine ⟨⟨fun _ => ⟨rfl, rfl, rfl⟩, nofun, nofun, trivial⟩, by decide +kernel⟩


/-! ## The Cloud KMS key manager (keys/gcpkms) with gcsca

Model: Model/KeyHistoryKms.lean (`kStep`, `kRun`); the certificate authority, the certificate records and
sops.GoogleCertificateTemplate are those of the theorems above (`caCfg` = gcsca with the repaired upload).
All theorems quantify over every pair of cryptoKey ids `cfg` (root ≠ signing where stated), every history `h`
of commands — each with its own Cloud KMS environment (generation delay, expiring context) and, for
bootstrap, either visiting order of gcsca.Finalize's certificate map — and external events (generation
completes, a version is disabled, destroy-scheduled versions are destroyed).

Proved for ALL histories: C12_kms_root_profile, C12_kms_serial_succ / _override, C12_kms_rotation_retires_previous,
C12_kms_names_fresh (version numbers are never handed out twice: stronger than "between wipeouts"),
C12_kms_no_clobber.  Signing profile and only-the-primary-signs fail for histories that bootstrap over a
NON-EMPTY CERTIFICATE STORE (C12-K7 and the Cloud KMS forms of K1 / K2) and only for those: `CleanRunK`.  Wipeout
totality fails for a version that is PENDING_GENERATION during the wipeout (C12-K6) and only for those:
`NoPending`, which every history without an expiring context has (`C12_kms_no_deadline_no_pending`).

What "can sign" means on Cloud KMS: `Svc.signer? n` — GetPublicKey / AsymmetricSign answer for version `n`, i.e. the
version is ENABLED.  Cloud KMS does not consult the manifest: an ENABLED version signs whether or not the
authority records it.  The clause "only the current primary signing key can sign" is read, as for the nonprod
managers, over the key versions the authority RECORDS (a signature of an unrecorded version has no certificate
and so no chain to the root): `C12_kms_only_primary_signs_partial`.  Against DestroyKeyVersion it says: a
successful rotation leaves the previous primary DESTROY_SCHEDULED (`C12_kms_rotation_retires_previous`, all
histories).  A rotation that fails after CreateCryptoKeyVersion leaves its new version behind — ENABLED or
PENDING_GENERATION — and nothing but `wipeout keys` ever destroys it (`C12_kms_leftover_enabled`); such a version is
never recorded (`C12_kms_enabled_nonprimary_unrecorded`), the nonprod managers behave the same way, and it is
not a violation of the property as read; it is a live-key leak worth a cleanup step in rotate.Key.
-/
open KmsH

/-- The regenerated facts the Cloud KMS theorems rest on: rotate.Key runs its steps in sequence (Finalize before
    DestroyKeyVersion), and gcpkms.destroyableState sends exactly ENABLED and DISABLED to DestroyCryptoKeyVersion. -/
theorem C12_kms_consts :
    CertConsts.rotateSequential = true ∧
    GceTcb.Kms.destroyableState VSt.enabled.code = some true ∧
    GceTcb.Kms.destroyableState VSt.disabled.code = some true ∧
    GceTcb.Kms.destroyableState VSt.scheduled.code = some false ∧
    GceTcb.Kms.destroyableState VSt.destroyed.code = some false ∧
    (∀ g, GceTcb.Kms.destroyableState (VSt.pending g).code = some false) := by
  refine ⟨by decide +kernel, by decide +kernel, by decide +kernel, by decide +kernel, by decide +kernel, fun _ => ?_⟩
  show GceTcb.Kms.destroyableState Gen.Kms.stPendingGeneration = some false
  decide +kernel

/-- **Root profile, all histories.**  The root certificate the authority serves is a self-signed CA certificate
    with certificate-signing usage and the 25-year lifetime. -/
theorem C12_kms_root_profile (cfg : KCfg) (h : List KCmd) (r : Cert)
    (hb : bundle caCfg (kRun cfg KState.init h).ca = some r) : RootProfile r :=
  (InvU_run cfg h _ InvU_init).root r hb

/-- FULL STATEMENT (fails today, see C12_kms_finding_stale_root_entry): every certificate the authority records
    other than the primary root's has the signing profile and is issued by the served root. -/
def C12_kms_signing_profile : Prop :=
  ∀ (cfg : KCfg), cfg.rootKey ≠ cfg.signKey → ∀ (h : List KCmd) (n : KName) (c : Cert),
    certificate (kRun cfg KState.init h).ca n = some c → n ≠ (kRun cfg KState.init h).ca.primaryRoot →
    SignProfile c ∧ ∃ r, bundle caCfg (kRun cfg KState.init h).ca = some r ∧ IssuedBy r c

/-- Proved part: histories whose bootstraps all start from an empty certificate store — whatever Cloud KMS holds
    (versions of earlier lives, leftovers), with any names, serials, flags, environments, events.  Missing:
    a bootstrap over a populated store leaves entries of the previous chain recorded (C12-K7, K1). -/
theorem C12_kms_signing_profile_partial (cfg : KCfg) (hne : cfg.rootKey ≠ cfg.signKey) (h : List KCmd)
    (hc : CleanRunK cfg KState.init h) (n : KName) (c : Cert)
    (hn : certificate (kRun cfg KState.init h).ca n = some c)
    (hroot : n ≠ (kRun cfg KState.init h).ca.primaryRoot) :
    SignProfile c ∧ ∃ r, bundle caCfg (kRun cfg KState.init h).ca = some r ∧ IssuedBy r c := by
  obtain ⟨_, hk⟩ := InvK_run cfg hne h _ InvU_init InvK_init hc
  obtain ⟨p, he, hp⟩ := certificate_some hn
  exact hk.good n p c he hroot hp

def kmsCfg : KCfg := ⟨"rk", "sk"⟩
def env0 : Env := { gen := 0, deadline := false }
def kgFlags : Flags := ⟨false, true⟩

/-- bootstrap; wipeout keys; bootstrap --keep_going -/
def kmsRebootHistory : List KCmd :=
  [.bootstrap noFlags ⟨"rootA", "signA", 1, 2, 1000⟩ env0 false, .wipeout noFlags false true,
   .bootstrap kgFlags ⟨"rootA", "signA", 7, 8, 2000⟩ env0 false]

/-- C12-K7 witness: after `bootstrap; wipeout keys; bootstrap --keep_going` the root cryptoKey has version 2,
    which is the primary root, and the entry of version 1 — a CA certificate — is still recorded. -/
theorem C12_kms_finding_stale_root_entry : ¬ C12_kms_signing_profile := by
  intro hfull
  have key : certificate (kRun kmsCfg KState.init kmsRebootHistory).ca ⟨"rk", 1⟩ =
        some ⟨1, 1, "rootA", "rootA", 1, 0, 0, 0, true, 96, 13, 1000, 1000 + rootLifetime⟩ ∧
      (⟨"rk", 1⟩ : KName) ≠ (kRun kmsCfg KState.init kmsRebootHistory).ca.primaryRoot := by decide +kernel
  exact absurd (hfull kmsCfg (by decide) kmsRebootHistory _ _ key.1 key.2).1.1 (by decide)

/-! ### serial numbers -/

/-- Unless overridden (and unless keep_going lets Finalize skip the write), a successful rotation records for
    the new primary — the version Cloud KMS just numbered — a certificate whose subject serial is one greater
    than its predecessor's and whose certificate serial equals its subject serial.  All histories. -/
theorem C12_kms_serial_succ (cfg : KCfg) (h : List KCmd) (f : Flags) (a : RotArgs) (e : Env)
    (hs : a.serial = none) (hk : f.keepGoing = false)
    (hok : (kStep cfg (kRun cfg KState.init h) (.rotate f a e)).2 = true) :
    ∃ p c, certificate (kRun cfg KState.init h).ca (kRun cfg KState.init h).ca.primarySigning = some p ∧
      (kStep cfg (kRun cfg KState.init h) (.rotate f a e)).1.ca.primarySigning =
        (kRun cfg KState.init h).svc.nextName cfg.signKey ∧
      certificate (kStep cfg (kRun cfg KState.init h) (.rotate f a e)).1.ca
        (kStep cfg (kRun cfg KState.init h) (.rotate f a e)).1.ca.primarySigning = some c ∧
      c.subjSerial = p.subjSerial + 1 ∧ c.certSerial = c.subjSerial := by
  obtain ⟨n, c, hn, r⟩ := kStep_rotate_ok hok
  rw [hs] at hn
  obtain ⟨p, hp, e⟩ := resolveSerial_none hn
  exact ⟨p, c, hp, (r.records hk).1, (r.records hk).2, r.serials.1.trans e, r.serials.2.trans r.serials.1.symm⟩

/-- With an override the recorded subject serial (and certificate serial) is the override. -/
theorem C12_kms_serial_override (cfg : KCfg) (h : List KCmd) (f : Flags) (a : RotArgs) (e : Env) (n : Nat)
    (hs : a.serial = some n) (hk : f.keepGoing = false)
    (hok : (kStep cfg (kRun cfg KState.init h) (.rotate f a e)).2 = true) :
    ∃ c, certificate (kStep cfg (kRun cfg KState.init h) (.rotate f a e)).1.ca
        (kStep cfg (kRun cfg KState.init h) (.rotate f a e)).1.ca.primarySigning = some c ∧
      c.subjSerial = n ∧ c.certSerial = n := by
  obtain ⟨n', c, hn, r⟩ := kStep_rotate_ok hok
  rw [hs] at hn
  cases hn
  exact ⟨c, (r.records hk).2, r.serials⟩

/-! ### only the primary signing key can sign -/

/-- FULL STATEMENT (fails today, see C12_kms_finding_rebootstrap_old_key): among the key versions the authority
    records, other than the primary root, only the primary signing key version is ENABLED. -/
def C12_kms_only_primary_signs : Prop :=
  ∀ (cfg : KCfg), cfg.rootKey ≠ cfg.signKey → ∀ (h : List KCmd) (n : KName) (c : Cert) (k : Nat),
    certificate (kRun cfg KState.init h).ca n = some c → n ≠ (kRun cfg KState.init h).ca.primaryRoot →
    (kRun cfg KState.init h).svc.signer? n = some k → n = (kRun cfg KState.init h).ca.primarySigning

/-- Proved part: histories whose bootstraps all start from an empty certificate store: every recorded
    signing-key version other than the primary is neither ENABLED nor PENDING_GENERATION — it went through
    DestroyCryptoKeyVersion, or was disabled and never re-enabled. -/
theorem C12_kms_only_primary_signs_partial (cfg : KCfg) (hne : cfg.rootKey ≠ cfg.signKey) (h : List KCmd)
    (hc : CleanRunK cfg KState.init h) (n : KName) (c : Cert) (k : Nat)
    (hn : certificate (kRun cfg KState.init h).ca n = some c)
    (hroot : n ≠ (kRun cfg KState.init h).ca.primaryRoot)
    (hl : (kRun cfg KState.init h).svc.signer? n = some k) :
    n = (kRun cfg KState.init h).ca.primarySigning := by
  obtain ⟨_, hk⟩ := InvK_run cfg hne h _ InvU_init InvK_init hc
  obtain ⟨p, he, _⟩ := certificate_some hn
  by_cases e : n = (kRun cfg KState.init h).ca.primarySigning
  · exact e
  · have := hk.onlyPrimary n (by rw [Recorded, he]; rfl) hroot e
    rw [(signer?_enabled hl).2] at this
    exact absurd this (by decide)

/-- … equivalently: an ENABLED version other than the two primaries has no certificate on record. -/
theorem C12_kms_enabled_nonprimary_unrecorded (cfg : KCfg) (hne : cfg.rootKey ≠ cfg.signKey) (h : List KCmd)
    (hc : CleanRunK cfg KState.init h) (n : KName) (k : Nat)
    (hl : (kRun cfg KState.init h).svc.signer? n = some k)
    (hroot : n ≠ (kRun cfg KState.init h).ca.primaryRoot) (hps : n ≠ (kRun cfg KState.init h).ca.primarySigning) :
    certificate (kRun cfg KState.init h).ca n = none := by
  cases hcert : certificate (kRun cfg KState.init h).ca n with
  | none => rfl
  | some c => exact absurd (C12_kms_only_primary_signs_partial cfg hne h hc n c k hcert hroot hl) hps

/-- bootstrap; a rotation refused by Finalize (its serial is the first signing key's: version 2 stays ENABLED,
    unrecorded); a rotation (version 3 primary, version 1 destroyed); bootstrap --keep_going over the populated
    store: it adopts the FIRST enabled version, 2, and version 3 stays recorded and ENABLED. -/
def kmsOldKeyHistory : List KCmd :=
  [.bootstrap noFlags ⟨"rootA", "signA", 1, 2, 1000⟩ env0 false, .rotate noFlags ⟨"signA", some 2, 2000⟩ env0,
   .rotate noFlags ⟨"signA", none, 3000⟩ env0, .bootstrap kgFlags ⟨"rootA", "signA", 1, 9, 4000⟩ env0 false]

/-- Witness (the Cloud KMS form of C12-K2): a bootstrap over a populated store leaves the previous primary
    recorded and ENABLED beside the new one. -/
theorem C12_kms_finding_rebootstrap_old_key : ¬ C12_kms_only_primary_signs := by
  intro hfull
  exact absurd (hfull kmsCfg (by decide) kmsOldKeyHistory ⟨"sk", 3⟩
    ⟨3, 3, "signA", "rootA", 1, 3, 0, 0, false, 1, 13, 3000, 3000 + signLifetime⟩ 3) (by decide +kernel)

/-- **A successful rotation retires the previous primary — all histories.**  When rotate.Key returns without
    error and there was a primary signing key version, that version is DESTROY_SCHEDULED afterwards (it was
    ENABLED or DISABLED and DestroyCryptoKeyVersion accepted it) and cannot sign. -/
theorem C12_kms_rotation_retires_previous (cfg : KCfg) (h : List KCmd) (f : Flags) (a : RotArgs) (e : Env)
    (hok : (kStep cfg (kRun cfg KState.init h) (.rotate f a e)).2 = true)
    (hps : (kRun cfg KState.init h).ca.primarySigning ≠ noName) :
    ((kStep cfg (kRun cfg KState.init h) (.rotate f a e)).1.svc.ver? (kRun cfg KState.init h).ca.primarySigning).map (·.st)
      = some .scheduled ∧
    (kStep cfg (kRun cfg KState.init h) (.rotate f a e)).1.svc.signer? (kRun cfg KState.init h).ca.primarySigning = none := by
  obtain ⟨_, _, _, r⟩ := kStep_rotate_ok hok
  obtain ⟨d1, d2⟩ := r.ok hok hps
  rw [Svc.signer?, ver?_of_has d1]
  cases hx : (kStep cfg (kRun cfg KState.init h) (.rotate f a e)).1.svc.ver (kRun cfg KState.init h).ca.primarySigning with
  | mk st m => rw [hx] at d2; cases d2; exact ⟨rfl, rfl⟩

/-- bootstrap; a rotation whose serial collides with the first signing certificate: Finalize refuses -/
def kmsLeftoverHistory : List KCmd :=
  [.bootstrap noFlags ⟨"rootA", "signA", 1, 2, 1000⟩ env0 false, .rotate noFlags ⟨"signA", some 2, 2000⟩ env0]

/-- **Leftovers of failed attempts stay ENABLED** (not a violation as the clause is read; a live-key leak): the
    refused rotation of a clean run leaves version 2 of the signing cryptoKey ENABLED, able to sign, unrecorded;
    the primary is still version 1; a later successful rotation creates version 3, retires version 1 and leaves
    version 2 as it is; `wipeout keys` destroys it. -/
theorem C12_kms_leftover_enabled :
    CleanRunK kmsCfg KState.init kmsLeftoverHistory ∧
    (kRun kmsCfg KState.init kmsLeftoverHistory).svc.signer? ⟨"sk", 2⟩ = some 2 ∧
    certificate (kRun kmsCfg KState.init kmsLeftoverHistory).ca ⟨"sk", 2⟩ = none ∧
    (kRun kmsCfg KState.init kmsLeftoverHistory).ca.primarySigning = ⟨"sk", 1⟩ ∧
    (kRun kmsCfg KState.init (kmsLeftoverHistory ++ [.rotate noFlags ⟨"signA", none, 3000⟩ env0])).svc.signer? ⟨"sk", 2⟩ = some 2 ∧
    (kRun kmsCfg KState.init (kmsLeftoverHistory ++ [.rotate noFlags ⟨"signA", none, 3000⟩ env0])).ca.primarySigning = ⟨"sk", 3⟩ ∧
    (kRun kmsCfg KState.init (kmsLeftoverHistory ++ [.wipeout noFlags false true])).svc.signer? ⟨"sk", 2⟩ = none := by
  exact ⟨⟨fun _ => rfl, nofun, trivial⟩, by decide +kernel⟩

/-! ### key-version names -/

/-- **Version numbers are never handed out twice — all histories** (stronger than "not reused between
    wipeouts": Cloud KMS keeps counting across wipeouts).  Before any command: the name the next
    CreateCryptoKeyVersion hands out under a cryptoKey does not exist and is not recorded by the authority. -/
theorem C12_kms_names_fresh (cfg : KCfg) (h : List KCmd) (k : String) :
    (kRun cfg KState.init h).svc.has ((kRun cfg KState.init h).svc.nextName k) = false ∧
    certificate (kRun cfg KState.init h).ca ((kRun cfg KState.init h).svc.nextName k) = none := by
  have hu := InvU_run cfg h _ InvU_init
  exact ⟨nextName_not_has _ _, by simp [certificate, hu.next_fresh k]⟩

/-- … and a successful rotation's new primary is that name: a version that did not exist before, ENABLED now. -/
theorem C12_kms_rotation_new_version (cfg : KCfg) (h : List KCmd) (f : Flags) (a : RotArgs) (e : Env)
    (hk : f.keepGoing = false)
    (hok : (kStep cfg (kRun cfg KState.init h) (.rotate f a e)).2 = true) :
    (kStep cfg (kRun cfg KState.init h) (.rotate f a e)).1.ca.primarySigning = (kRun cfg KState.init h).svc.nextName cfg.signKey ∧
    (kRun cfg KState.init h).svc.has ((kRun cfg KState.init h).svc.nextName cfg.signKey) = false ∧
    (kStep cfg (kRun cfg KState.init h) (.rotate f a e)).1.svc.has ((kRun cfg KState.init h).svc.nextName cfg.signKey) = true := by
  obtain ⟨_, _, _, r⟩ := kStep_rotate_ok hok
  exact ⟨(r.records hk).1, nextName_not_has _ _, r.has⟩

/-- No command takes a version away, renumbers one, gives a version other key material or brings one back:
    every existing version still exists afterwards, in the same or a LATER state (nothing re-enables, nothing
    returns to PENDING_GENERATION), and version counts do not decrease. -/
theorem C12_kms_versions_only_move_forward (cfg : KCfg) (s : KState) (c : KCmd) (n : KName) (hn : s.svc.has n = true) :
    (kStep cfg s c).1.svc.has n = true ∧ ((kStep cfg s c).1.svc.ver n).mat = (s.svc.ver n).mat ∧
    (((kStep cfg s c).1.svc.ver n).st = .enabled → (s.svc.ver n).st = .enabled ∨ (s.svc.ver n).st.isPending = true) ∧
    s.svc.count n.base ≤ (kStep cfg s c).1.svc.count n.base := by
  obtain ⟨h1, h2⟩ := (kStep_effect cfg s c).1.1
  obtain ⟨a1, a2, a3⟩ := h1 n hn
  exact ⟨a1, a3, enabled_of_le a2, (h2 n.base ((has_iff _ _).mp hn).1).2⟩

/-- C10's naming scheme `<cryptoKey>/cryptoKeyVersions/<n>`: distinct numbers are distinct resource names. -/
theorem C12_kms_version_names_injective (parent : String) (a b : Nat)
    (h : GceTcb.CA.verName parent a = GceTcb.CA.verName parent b) : a = b :=
  GceTcb.CA.verName_inj parent a b h

/-! ### no certificate object changes without overwrite -/

/-- All histories: a bootstrap or rotation without overwrite leaves every existing certificate object and the
    root object as they were. -/
theorem C12_kms_no_clobber (cfg : KCfg) (h : List KCmd) (c : KCmd)
    (hi : isIssuingK c = true) (hf : c.flags.overwrite = false) :
    (∀ p x, get (kRun cfg KState.init h).ca.objects p = some x → get (kStep cfg (kRun cfg KState.init h) c).1.ca.objects p = some x) ∧
    (∀ r, (kRun cfg KState.init h).ca.rootObj = some r → (kStep cfg (kRun cfg KState.init h) c).1.ca.rootObj = some r) := by
  cases (kStep_effect cfg (kRun cfg KState.init h) c).2 with
  | same e => rw [e]; exact Keeps.refl _
  | wiped _ => cases hi
  | boot b => rw [b.ca]; exact gcsFinalize_keeps true hf _ _
  | rot _ r => rw [r.ca]; exact gcsFinalize_keeps true hf _ _


/-! ### wipeout -/

/-- All histories: `wipeout ca` leaves no certificate recorded, stored or served. -/
theorem C12_kms_wipeout_ca (cfg : KCfg) (h : List KCmd) (f : Flags) (k : Bool) :
    (kStep cfg (kRun cfg KState.init h) (.wipeout f true k)).1.ca = CA.empty ∧
    (∀ n, certificate (kStep cfg (kRun cfg KState.init h) (.wipeout f true k)).1.ca n = none) ∧
    bundle caCfg (kStep cfg (kRun cfg KState.init h) (.wipeout f true k)).1.ca = none :=
  ⟨rfl, fun _ => rfl, rfl⟩

/-- FULL STATEMENT (fails today, see C12_kms_finding_pending_survives): after a successful `wipeout keys` no key
    version can sign — now, or after whatever Cloud KMS does on its own (pending generations completing, versions
    disabled, destroy-scheduled versions destroyed). -/
def C12_kms_wipeout_total : Prop :=
  ∀ (cfg : KCfg) (h : List KCmd) (f : Flags) (c : Bool),
    (kStep cfg (kRun cfg KState.init h) (.wipeout f c true)).2 = true →
    ∀ (t : List KmsH.Ext) (n : KName),
      (kRun cfg (kStep cfg (kRun cfg KState.init h) (.wipeout f c true)).1 (t.map .ext)).svc.signer? n = none

/-- Proved part: no key version is PENDING_GENERATION when the wipeout runs.  Then every version is
    DESTROY_SCHEDULED or DESTROYED afterwards and stays unable to sign under every sequence of external events.
    Missing: Manager.wipeoutKey skips PENDING_GENERATION versions (Cloud KMS refuses to destroy them) — C12-K6. -/
theorem C12_kms_wipeout_total_partial (cfg : KCfg) (h : List KCmd) (f : Flags) (c : Bool)
    (hnp : NoPending (kRun cfg KState.init h).svc)
    (_hok : (kStep cfg (kRun cfg KState.init h) (.wipeout f c true)).2 = true)
    (t : List KmsH.Ext) (n : KName) :
    (kRun cfg (kStep cfg (kRun cfg KState.init h) (.wipeout f c true)).1 (t.map .ext)).svc.signer? n = none :=
  have h3 : AtLeast 3 (kStep cfg (kRun cfg KState.init h) (.wipeout f c true)).1.svc :=
    wipeKeys_gone ((atLeast_one_iff _).mpr hnp)
  AtLeast.no_signer (fun m hm => Nat.le_of_succ_le (atLeast_exts cfg t _ h3 m hm)) n

/-- … and more: with no version PENDING_GENERATION, `wipeout keys` reports success and every key version that
    exists is DESTROY_SCHEDULED or DESTROYED afterwards — none is left DISABLED, which an operator could enable again. -/
theorem C12_kms_wipeout_retires_all (cfg : KCfg) (h : List KCmd) (f : Flags) (c : Bool)
    (hnp : NoPending (kRun cfg KState.init h).svc) :
    (kStep cfg (kRun cfg KState.init h) (.wipeout f c true)).2 = true ∧
    ∀ n, (kRun cfg KState.init h).svc.has n = true →
      ((kStep cfg (kRun cfg KState.init h) (.wipeout f c true)).1.svc.ver n).st = .scheduled ∨
      ((kStep cfg (kRun cfg KState.init h) (.wipeout f c true)).1.svc.ver n).st = .destroyed :=
  ⟨wipeKeys_ok _, fun n hn => scheduled_of_le (wipeKeys_gone ((atLeast_one_iff _).mpr hnp) n hn)⟩

/-- Every history in which no command's context expires during a wait (no "timeout waiting for key generation")
    has no PENDING_GENERATION version at any command boundary — so wipeout is total in all of them. -/
theorem C12_kms_no_deadline_no_pending (cfg : KCfg) (h : List KCmd) (hd : NoDeadline h) :
    NoPending (kRun cfg KState.init h).svc :=
  (atLeast_one_iff _).mp (atLeast_one_run cfg h _ hd (fun n hn => by simp [KState.init, Svc.init, Svc.has] at hn))

theorem C12_kms_wipeout_total_no_deadline (cfg : KCfg) (h : List KCmd) (hd : NoDeadline h) (f : Flags) (c : Bool)
    (hok : (kStep cfg (kRun cfg KState.init h) (.wipeout f c true)).2 = true) (t : List KmsH.Ext) (n : KName) :
    (kRun cfg (kStep cfg (kRun cfg KState.init h) (.wipeout f c true)).1 (t.map .ext)).svc.signer? n = none :=
  C12_kms_wipeout_total_partial cfg h f c (C12_kms_no_deadline_no_pending cfg h hd) hok t n

/-- bootstrap; a rotation whose context expires while version 2 of the signing cryptoKey is being generated -/
def kmsPendingHistory : List KCmd :=
  [.bootstrap noFlags ⟨"rootA", "signA", 1, 2, 1000⟩ env0 false, .rotate noFlags ⟨"signA", none, 2000⟩ { gen := 1, deadline := true }]

/-- C12-K6 witness: the version left PENDING_GENERATION by the timed-out rotation is skipped by `wipeout keys`
    (which reports success), its generation completes afterwards, and it can sign. -/
theorem C12_kms_finding_pending_survives : ¬ C12_kms_wipeout_total := by
  intro hfull
  exact absurd (fun hok => hfull kmsCfg kmsPendingHistory noFlags false hok [.settle] ⟨"sk", 2⟩) (by decide +kernel)

/-! ### the state a version is created in, and what the response of CreateCryptoKeyVersion says

Every `C12_kms_*` theorem above quantifies over the environments of the commands, which include the state
CreateCryptoKeyVersion creates versions in (`Env.created`: PENDING_GENERATION with any countdown, ENABLED at once,
DISABLED, …).  rotate.go never reads the state in the response (C10: `C10_kms_create_response_ignored`);
bootstrap.go's waitForKeyGen does — it returns without polling when the response says ENABLED: -/

/-- **bootstrap's shortcut on the response is sound** for a Cloud KMS whose response reports the state the new
    version is in: creating a version and returning at once when the response says ENABLED gives the same state
    and the same answer as creating it and polling (waitForKeyVersionGen returns at the first poll of an ENABLED
    version; in every other created state the shortcut is not taken). -/
theorem C12_kms_create_shortcut_is_poll (e : KmsH.Env) (s : Svc) (k : String) (hk : s.keys.contains k = true) :
    createAndWait e s k =
      ((waitGen e (s.create e k) (s.nextName k)).1,
       if (waitGen e (s.create e k) (s.nextName k)).2 then some (s.nextName k) else none) :=
  createAndWait_eq e s k hk

/-- a version returned by the create-and-wait path of bootstrap exists and is ENABLED, whatever state it was
    created in (a version created DISABLED, DESTROYED, … is never returned) -/
theorem C12_kms_created_version_enabled (e : KmsH.Env) (s : Svc) (k : String) (hk : s.keys.contains k = true)
    (n : KName) (h : (createAndWait e s k).2 = some n) :
    n = s.nextName k ∧ (createAndWait e s k).1.has n = true ∧ ((createAndWait e s k).1.ver n).st = .enabled := by
  rw [createAndWait_eq e s k hk] at h ⊢
  obtain ⟨_, w2, _⟩ := waitGen_spec e (s.create e k) (s.nextName k)
  by_cases hw : (waitGen e (s.create e k) (s.nextName k)).2 = true
  · simp only [hw, if_true, Option.some.injEq] at h
    subst h
    exact ⟨rfl, w2 hw⟩
  · simp [hw] at h

def envE : KmsH.Env := { gen := 0, deadline := false, created := some .enabled }
def envD : KmsH.Env := { gen := 0, deadline := false, created := some .disabled }

/-- bootstrap; a rotation whose version is created ENABLED; one whose version is created DISABLED (refused at
    the first poll, the version stays DISABLED); keys wiped; bootstrap --keep_going with versions created
    DISABLED (fails: rk/2 is left DISABLED), then with versions created ENABLED (rk/3, sk/4 adopted at once). -/
def kmsCreatedHistory : List KCmd :=
  [.bootstrap noFlags ⟨"rootA", "signA", 1, 2, 1000⟩ env0 false,
   .rotate noFlags ⟨"signA", none, 2000⟩ envE, .rotate noFlags ⟨"signA", none, 3000⟩ envD,
   .wipeout noFlags false true,
   .bootstrap kgFlags ⟨"rootA", "signA", 7, 8, 4000⟩ envD false,
   .bootstrap kgFlags ⟨"rootA", "signA", 7, 8, 5000⟩ envE false]

example :
    (kRun kmsCfg KState.init (kmsCreatedHistory.take 2)).ca.primarySigning = ⟨"sk", 2⟩ ∧
    (kStep kmsCfg (kRun kmsCfg KState.init (kmsCreatedHistory.take 2)) (.rotate noFlags ⟨"signA", none, 3000⟩ envD)).2 = false ∧
    ((kRun kmsCfg KState.init (kmsCreatedHistory.take 3)).svc.ver? ⟨"sk", 3⟩).map (·.st) = some .disabled ∧
    (kRun kmsCfg KState.init (kmsCreatedHistory.take 3)).ca.primarySigning = ⟨"sk", 2⟩ ∧
    (kStep kmsCfg (kRun kmsCfg KState.init (kmsCreatedHistory.take 4)) (.bootstrap kgFlags ⟨"rootA", "signA", 7, 8, 4000⟩ envD false)).2 = false ∧
    ((kRun kmsCfg KState.init (kmsCreatedHistory.take 5)).svc.ver? ⟨"rk", 2⟩).map (·.st) = some .disabled ∧
    (kStep kmsCfg (kRun kmsCfg KState.init (kmsCreatedHistory.take 5)) (.bootstrap kgFlags ⟨"rootA", "signA", 7, 8, 5000⟩ envE false)).2 = true ∧
    (kRun kmsCfg KState.init kmsCreatedHistory).ca.primaryRoot = ⟨"rk", 3⟩ ∧
    (kRun kmsCfg KState.init kmsCreatedHistory).ca.primarySigning = ⟨"sk", 4⟩ ∧
    (kRun kmsCfg KState.init kmsCreatedHistory).svc.live = [⟨"rk", 3⟩, ⟨"sk", 4⟩] := by
  decide +kernel

/-! ### the listing scan of bootstrap is C20's -/

/-- Manager.getEnabledOrPendingKeyVersion as modelled here (`scan`: first ENABLED version, else the last
    PENDING_GENERATION one, else none) is C20's `Kms.scanPage` over the listing of the cryptoKey's versions under
    their resource names — so C20's theorems on paging, selection and termination of that loop speak about the
    bootstrap of this model. -/
theorem C12_kms_scan_is_C20_scanPage (s : Svc) (ring k : String) :
    GceTcb.Kms.scanPage ((List.range' 1 (s.count k)).map fun j =>
        (⟨GceTcb.CA.verName (ring ++ "/cryptoKeys/" ++ k) j, (s.ver ⟨k, j⟩).st.code⟩ : GceTcb.Kms.Ver)) none =
      (match scan s k with
       | .ret j => GceTcb.Kms.Scan.ret ⟨GceTcb.CA.verName (ring ++ "/cryptoKeys/" ++ k) j, (s.ver ⟨k, j⟩).st.code⟩
       | .cont p => GceTcb.Kms.Scan.cont (p.map fun j =>
           ⟨GceTcb.CA.verName (ring ++ "/cryptoKeys/" ++ k) j, (s.ver ⟨k, j⟩).st.code⟩)) :=
  scanFrom_eq_scanPage (fun i => (s.ver ⟨k, i⟩).st) (fun j => GceTcb.CA.verName (ring ++ "/cryptoKeys/" ++ k) j)
    (s.count k) 1 none

/-! ### non-vacuity (Cloud KMS) -/

/-- bootstrap; rotate; rotate (the second with a generation delay); everything wiped; a second life with
    keep_going (the key ring and the cryptoKeys are still there); rotate -/
def kmsGoodHistory : List KCmd :=
  [.bootstrap noFlags ⟨"GCE-cc-tcb-root", "GCE-uefi-signer", 1, 2, 1000⟩ env0 false,
   .rotate noFlags ⟨"GCE-uefi-signer", none, 2000⟩ env0, .rotate noFlags ⟨"GCE-uefi-signer", none, 3000⟩ { gen := 2, deadline := false },
   .ext .expire, .wipeout noFlags true true,
   .bootstrap kgFlags ⟨"GCE-cc-tcb-root", "GCE-uefi-signer", 1, 2, 5000⟩ env0 true,
   .rotate noFlags ⟨"GCE-uefi-signer", none, 6000⟩ env0]

/-- The history meets every hypothesis used above: a clean run without expiring contexts; after it the primary
    root is version 2 of the root cryptoKey, the primary signing key version 5 of the signing cryptoKey (numbers
    1–3 belong to the first life, 4 to the second bootstrap), two signing certificates with serials 2 and 3 are
    recorded, only versions rk/2 and sk/5 can sign, a further default rotation and one with an override succeed,
    and so does the wipeout. -/
example : CleanRunK kmsCfg KState.init kmsGoodHistory ∧ NoDeadline kmsGoodHistory := by
  exact ⟨⟨fun _ => rfl, nofun, nofun, nofun, nofun,
      fun _ => by decide +kernel, nofun, trivial⟩,
    ⟨rfl, rfl, rfl, rfl, rfl, trivial⟩⟩

example :
    (kRun kmsCfg KState.init kmsGoodHistory).ca.primaryRoot = ⟨"rk", 2⟩ ∧
    (kRun kmsCfg KState.init kmsGoodHistory).ca.primarySigning = ⟨"sk", 5⟩ ∧
    ((kRun kmsCfg KState.init kmsGoodHistory).ca.objects.map (·.2.subjSerial)) = [2, 1, 3] ∧
    (kRun kmsCfg KState.init kmsGoodHistory).svc.live = [⟨"rk", 2⟩, ⟨"sk", 5⟩] ∧
    ((kRun kmsCfg KState.init kmsGoodHistory).svc.ver? ⟨"sk", 4⟩).map (·.st) = some .scheduled ∧
    ((kRun kmsCfg KState.init kmsGoodHistory).svc.ver? ⟨"sk", 1⟩).map (·.st) = some .destroyed ∧
    (bundle caCfg (kRun kmsCfg KState.init kmsGoodHistory).ca).isSome = true ∧
    (kStep kmsCfg (kRun kmsCfg KState.init kmsGoodHistory) (.rotate noFlags ⟨"GCE-uefi-signer", none, 7000⟩ env0)).2 = true ∧
    (kStep kmsCfg (kRun kmsCfg KState.init kmsGoodHistory) (.rotate noFlags ⟨"GCE-uefi-signer", some 9, 7000⟩ env0)).2 = true ∧
    (kStep kmsCfg (kRun kmsCfg KState.init kmsGoodHistory) (.wipeout noFlags false true)).2 = true := by
  decide +kernel

/-- C12_kms_no_clobber is not vacuous: a rotation without overwrite onto the recorded object of another key
    version is refused and changes nothing; so is a bootstrap without keep_going over the existing key ring. -/
example :
    (kStep kmsCfg (kRun kmsCfg KState.init kmsGoodHistory) (.rotate noFlags ⟨"GCE-uefi-signer", some 2, 7000⟩ env0)).2 = false ∧
    (kStep kmsCfg (kRun kmsCfg KState.init kmsGoodHistory) (.rotate owFlags ⟨"GCE-uefi-signer", some 2, 7000⟩ env0)).2 = false ∧
    (kStep kmsCfg (kRun kmsCfg KState.init kmsGoodHistory)
      (.bootstrap noFlags ⟨"GCE-cc-tcb-root", "GCE-uefi-signer", 1, 2, 9000⟩ env0 false)).2 = false := by
  decide +kernel

end GceTcb.KeyHistory
