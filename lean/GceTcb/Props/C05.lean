import GceTcb.Model.Mrtd
import GceTcb.Spec.Mrtd
import GceTcb.Gen.TdxConsts
import GceTcb.Proofs.TdxIntervals
import GceTcb.Proofs.TdxShapes
import GceTcb.Proofs.TdxHob
import GceTcb.Proofs.TdxMain
import GceTcb.Proofs.TdxExample
/-
C05 — TDX golden MRTD equals the TDX build-time measurement of the TDVF layout.
-/
namespace GceTcb.Props.C05
open GceTcb GceTcb.Intervals GceTcb.Mrtd GceTcb.Spec.Intervals GceTcb.TdxHob GceTcb.TdxMeta

/-! ## regenerated constants -/

/-- The constants the models and specifications use are the ones in the Go source now. -/
theorem C05_consts :
    Gen.TdxConsts.extensionBufferSize = 128 ∧ Gen.TdxConsts.mrExtendChunkSize = 256 ∧
    Gen.TdxConsts.PageSize = 4096 ∧
    Gen.TdxConsts.pageAddName = "MEM.PAGE.ADD" ∧ Gen.TdxConsts.pageAddNameRange = (0, 12) ∧
    Gen.TdxConsts.pageAddGpaRange = (16, 24) ∧ Gen.TdxConsts.pageAddExtends = ["buf[:]"] ∧
    Gen.TdxConsts.mrExtendName = "MR.EXTEND" ∧ Gen.TdxConsts.mrExtendNameRange = (0, 9) ∧
    Gen.TdxConsts.mrExtendGpaRange = (16, 24) ∧
    Gen.TdxConsts.mrExtendExtends = ["buf[:]", "data[0:extensionBufferSize]", "data[extensionBufferSize:]"] ∧
    Gen.TdxConsts.initLoopCond = "i < region.GPR.Length" ∧ Gen.TdxConsts.initLoopPost = "i += mrExtendChunkSize" ∧
    Gen.TdxConsts.initLoopBody = ["i%abi.PageSize == 0 => m.pageAdd(gpa + i)",
      "measureBytes => m.mrExtend(gpa+i, data[i:i+mrExtendChunkSize])"] :=
  ⟨rfl, rfl, rfl, rfl, rfl, rfl, rfl, rfl, rfl, rfl, rfl, rfl, rfl, rfl⟩

/-! ## RAM minus declared sections -/

/-- `unacceptedMemRanges` on ANY start-sorted arrangement of its two inputs (the Go sort is unstable),
    for lists of any length.  Hypotheses: no region reaches 2^64 (`NoOverflow`) and the regions of each
    list are pairwise disjoint.  For the private ranges both are ESTABLISHED by the code before the call
    (validateTDXMetadataSections bounds every section by 2^52, validateMetadataSectionGpr refuses
    overlapping sections); for the RAM banks they are ASSUMED of the caller (and hold for every machine
    shape, `C05_shapes`).  Then: the result is the specification's difference; pointwise it is RAM minus
    private; it is ascending, pairwise disjoint and has no empty range. -/
theorem C05_unaccepted_correct (ps rs ps' rs' : List Gpr)
    (hpp : ps'.Perm ps) (hsp : SortedByStart ps') (hrp : rs'.Perm rs) (hsr : SortedByStart rs')
    (hnp : NoOverflow ps) (hnr : NoOverflow rs) (hdp : DisjointL ps) (hdr : DisjointL rs) :
    unacceptedCore ps' rs' = (difference (rs.map toIv) (ps.map toIv)).map ofIv ∧
    (∀ x, Covered x (unacceptedCore ps' rs') ↔ (Covered x rs ∧ ¬ Covered x ps)) ∧
    (∀ a ∈ unacceptedCore ps' rs', a.len ≠ 0) ∧
    (unacceptedCore ps' rs').Pairwise (fun a b => a.start + a.len ≤ b.start) := by
  refine ⟨unacceptedCore_eq_difference ps rs ps' rs' hpp hsp hrp hsr hnp hnr hdp hdr,
    unacceptedCore_pointwise ps rs ps' rs' hpp hsp hrp hsr hnp hnr hdp hdr, ?_⟩
  exact unacceptedCore_sorted ps' rs' hsp hsr (noOverflow_perm hpp.symm hnp) (noOverflow_perm hrp.symm hnr)
    (disjoint_perm hpp.symm hdp) (disjoint_perm hrp.symm hdr)

/-- The same for the model's own (stable) sort, i.e. for `ovmf.unacceptedMemRanges` as modelled. -/
theorem C05_unaccepted_correct_model (ps rs : List Gpr)
    (hnp : NoOverflow ps) (hnr : NoOverflow rs) (hdp : DisjointL ps) (hdr : DisjointL rs) :
    unacceptedMemRanges ps rs = (difference (rs.map toIv) (ps.map toIv)).map ofIv :=
  unaccepted_model_eq ps rs hnp hnr hdp hdr

/-- The literal Go loop (which re-examines the same private range after shrinking the bank) equals the
    structurally recursive `scan` of DESIGN Appendix B.1 whenever nothing overflows. -/
theorem C05_literal_loop_eq_scan (ps : List Gpr) (r : Gpr) (h : r.len % 2 ^ 64 ≠ 0)
    (hps : NoOverflow ps) (hr : r.start + r.len < 2 ^ 64) :
    (inner ps r h).rest = (scan r ps).1 ∧ (inner ps r h).ram = (scan r ps).2.1 ∧
    (inner ps r h).out = (scan r ps).2.2 :=
  inner_eq_scan ps r h hps hr

/-- The specification itself, pointwise: a bank minus the private ranges (no assumption on the private
    ranges at all) — so the executable `Spec.difference` means what its name says. -/
theorem C05_spec_difference_pointwise (b : Iv) (priv : List Iv) (x : Nat) :
    CoveredIv x (subtract b priv) ↔ b.mem x ∧ ∀ p ∈ priv, ¬ p.mem x :=
  subtract_mem b priv x

-- non-vacuity: the design's example, unsorted, with an empty private range and an empty bank
example :
    unacceptedMemRanges [⟨20, 5⟩, ⟨7, 0⟩, ⟨10, 5⟩] [⟨40, 3⟩, ⟨0, 12⟩, ⟨50, 0⟩, ⟨12, 20⟩]
      = [⟨0, 10⟩, ⟨15, 5⟩, ⟨25, 7⟩, ⟨40, 3⟩] := by
  rw [C05_unaccepted_correct_model]
  · decide
  · intro g hg; simp only [List.mem_cons, List.not_mem_nil, or_false] at hg; rcases hg with rfl | rfl | rfl <;> decide
  · intro g hg; simp only [List.mem_cons, List.not_mem_nil, or_false] at hg; rcases hg with rfl | rfl | rfl | rfl <;> decide
  · simp only [DisjointL, List.pairwise_cons, List.mem_cons, List.not_mem_nil, or_false, Gpr.mem, forall_eq_or_imp, forall_eq]
    repeat' apply And.intro
    all_goals first | (intro x; omega) | exact List.Pairwise.nil | (intro _ hf; exact absurd hf id)
  · simp only [DisjointL, List.pairwise_cons, List.mem_cons, List.not_mem_nil, or_false, Gpr.mem, forall_eq_or_imp, forall_eq]
    repeat' apply And.intro
    all_goals first | (intro x; omega) | exact List.Pairwise.nil | (intro _ hf; exact absurd hf id)

/-! ## machine shapes -/

/-- Every machine shape of the regenerated table: `regionsForShape` does not panic and its banks are
    ascending and pairwise disjoint, do not overflow, avoid [3 GiB, 4 GiB) except for the 2 MiB
    firmware window below 4 GiB, respect the per-node maximum and sum to the shape's RAM (plus that
    window).  `decide` over the regenerated table. -/
theorem C05_shapes : ∀ e ∈ Gen.TdxConsts.shapes, ShapeOK (shapeOfEntry e) := by
  decide

/-- Lifted: the banks selected for a known machine type satisfy the preconditions that
    `C05_unaccepted_correct` assumes of the RAM banks. -/
theorem C05_shape_banks_preconditions (name : String) (s : Shape)
    (hs : findShape Gen.TdxConsts.shapes name = some s) :
    ∃ banks, machineTypeToRAMBanks Gen.TdxConsts.shapes name = .ok banks ∧ BanksWellFormed s banks ∧
      NoOverflow banks ∧ DisjointL banks ∧ SortedByStart banks := by
  obtain ⟨banks, h1, h2⟩ := shapeOK_of_table Gen.TdxConsts.shapes C05_shapes name s hs
  exact ⟨banks, h1, h2, banks_preconditions h2⟩

-- non-vacuity: the largest shape has the six banks the repository's test pins
example : machineTypeToRAMBanks Gen.TdxConsts.shapes "c3-standard-176" =
    .ok [⟨0, 0xc0000000⟩, ⟨0xffe00000, 0x200000⟩, ⟨0x100000000, 0x2b40000000⟩, ⟨0x2c40000000, 0x2c00000000⟩,
         ⟨0x5840000000, 0x2c00000000⟩, ⟨0x8440000000, 0x2c00000000⟩] := by decide

/-! ## the TD hand-off block -/

/-- Side conditions under which the uint32/uint64 arithmetic of getTDHOBList does not wrap: fewer than
    2^26 descriptors, the end-of-list address below 2^64, a section shorter than 2^63 (the validated cap
    is 2^32) and unaccepted ranges that do not overflow (they come out of `C05_unaccepted_correct`). -/
def HobSide (hob : Gpr) (priv un : List Gpr) : Prop :=
  48 * (un.length + priv.length) + 56 < 2 ^ 32 ∧ hob.start + 56 + 48 * (un.length + priv.length) < 2 ^ 64 ∧
  hob.len < 2 ^ 63 ∧ NoOverflow un

/-- getTDHOBList writes exactly the PI-specification block: 56-byte hand-off table whose EfiEndOfHobList
    is the address of the end marker, one system-memory descriptor per declared section in declared
    order, the unaccepted ranges in the given order with the early-accept attribute when they end at or
    below 4 GiB or early accept is not disabled, the 8-byte end marker, zero padding to the section
    size; and it is refused exactly when the specification's block does not fit. -/
theorem C05_hob_eq_spec (hob : Gpr) (priv un : List Gpr) (dea : Bool) (h : HobSide hob priv un) :
    (∀ b, Spec.TdHob.tdHob hob.start hob.len (priv.map pair) (un.map pair) dea = some b →
      ∃ buf, getTDHOBList hob priv un dea = .ok buf ∧ buf.toBytes = b) ∧
    (Spec.TdHob.tdHob hob.start hob.len (priv.map pair) (un.map pair) dea = none →
      getTDHOBList hob priv un dea = .err "hoboverflow") := by
  obtain ⟨h1, h2, h3, h4⟩ := h
  rw [tdHob_eq hob priv un dea h3 h4 (fun _ => ⟨h1, h2⟩), getTDHOBList_eq hob priv un dea h3]
  by_cases hfit : 64 + 48 * (priv.length + un.length) > hob.len
  · rw [if_pos hfit]; exact ⟨(fun b hb => nomatch hb), fun _ => rfl⟩
  · rw [if_neg hfit]; exact ⟨fun b hb => ⟨_, rfl, Option.some.inj hb⟩, fun hn => nomatch hn⟩

/-- Size: an accepted hand-off block has exactly the section's memory size; it is refused exactly when
    64 + 48·(sections + unaccepted ranges) exceeds that size (no wrap assumption needed beyond a
    section size below 2^63, i.e. no panic). -/
theorem C05_hob_size (hob : Gpr) (priv un : List Gpr) (dea : Bool) (h : hob.len < 2 ^ 63) :
    (∀ buf, getTDHOBList hob priv un dea = .ok buf → buf.length = hob.len) ∧
    (getTDHOBList hob priv un dea = .err "hoboverflow" ↔ 64 + 48 * (priv.length + un.length) > hob.len) := by
  refine ⟨fun buf hb => getTDHOBList_ok_length hob priv un dea buf h hb, ?_⟩
  rw [getTDHOBList_eq hob priv un dea h]
  by_cases hfit : 64 + 48 * (priv.length + un.length) > hob.len
  · rw [if_pos hfit]; exact ⟨fun _ => hfit, fun _ => rfl⟩
  · rw [if_neg hfit]; exact ⟨(fun hb => nomatch hb), fun hc => absurd hc hfit⟩

-- non-vacuity: the repository's own test vector (TD HOB at 4 GiB, 0xe0 bytes, two sections, no banks)
example : HobSide ⟨0x100000000, 0xe0⟩ [⟨0x100000000, 0xe0⟩, ⟨0xffe00000, 168⟩] [] :=
  ⟨by decide, by decide, by decide, fun g hg => by simp at hg⟩
example : getTDHOBList ⟨0x100000000, 0xe0⟩ [⟨0x100000000, 0xe0⟩, ⟨0xffe00000, 168⟩] [] true ≠ .err "hoboverflow" := by
  intro h
  have := (C05_hob_size ⟨0x100000000, 0xe0⟩ [⟨0x100000000, 0xe0⟩, ⟨0xffe00000, 168⟩] [] true (by decide)).2.mp h
  simp at this

/-! ## the record stream -/

/-- The launch-mode plumbing regenerated from the source is the one the model implements: which parser
    fields each exported entry point sets and whether it passes the caller's banks on; which entry point
    tdx.MRTD selects for which option; which Measurement constructor it uses. -/
theorem C05_modes :
    Gen.TdxConsts.parserModes =
      [("ExtractMaterialGuestPhysicalRegionsNoUnacceptedMemory", ["MeasureAllRegions"], true),
       ("ExtractMaterialGuestPhysicalRegionsTDHOBBug", ["DisableEarlyAccept", "MeasureAllRegions"], true),
       ("ExtractMaterialGuestPhysicalRegions", ["DisableEarlyAccept"], false)] ∧
    Gen.TdxConsts.mrtdExtractSel =
      [("opts.DisableUnacceptedMemory", "ExtractMaterialGuestPhysicalRegionsNoUnacceptedMemory"),
       ("opts.MeasureAllRegions", "ExtractMaterialGuestPhysicalRegionsTDHOBBug"),
       ("", "ExtractMaterialGuestPhysicalRegions")] ∧
    Gen.TdxConsts.mrtdMeasurementSel = ("NewMeasurementTDHOBBug", "NewMeasurement") ∧
    Gen.TdxConsts.earlyAcceptBelow = 4 * 1024 * 1024 * 1024 ∧
    Gen.TdxConsts.earlyAcceptCond = "(unacceptedGpr.end() <= 4*gib) || !p.DisableEarlyAccept" ∧
    Gen.TdxConsts.tdhobBaseAttributes = 7 ∧ Gen.TdxConsts.EFIResourceAttributeNeedsEarlyAccept = 0x10000000 ∧
    Gen.TdxConsts.EFIResourceSystemMemory = 0 ∧ Gen.TdxConsts.EFIResourceMemoryUnaccepted = 7 ∧
    Gen.TdxConsts.TDXMetadataAttributeExtendMR = 1 ∧
    [Gen.TdxConsts.TDXMetadataSectionTypeBFV, Gen.TdxConsts.TDXMetadataSectionTypeCFV,
     Gen.TdxConsts.TDXMetadataSectionTypeTDHOB, Gen.TdxConsts.TDXMetadataSectionTypeTempMem] = [0, 1, 2, 3] :=
  ⟨rfl, rfl, rfl, rfl, rfl, rfl, rfl, rfl, rfl, rfl, rfl⟩

/-- The two 128-byte extension buffers of the code are the ones of the TDX module specification
    (every GPA): ASCII name at offset 0, GPA little-endian at 16..24, zeros elsewhere; MR.EXTEND is
    followed by the 256-byte chunk as two further 128-byte blocks. -/
theorem C05_records (gpa : Nat) (chunk : Bytes) :
    Mrtd.pageAdd gpa = Spec.Mrtd.pageAddRec gpa ∧ Mrtd.mrExtend gpa chunk = Spec.Mrtd.mrExtendRec gpa chunk :=
  ⟨pageAdd_eq gpa, mrExtend_eq gpa chunk⟩

/-- InitMemoryRegion, every region whose range does not wrap (ranges of accepted metadata end below
    2^52): the bytes written to the digest are the specification's records of the section — per 4 KiB
    page one PAGE.ADD, then, when the section is measured, sixteen MR.EXTEND records with the page's
    256-byte chunks. -/
theorem C05_region_stream_eq_spec (measureAll : Bool) (r : Region) (s : Bytes)
    (hr : r.gpr.start + r.gpr.len ≤ 2 ^ 64) (hs : r.gpr.start < 2 ^ 64) (hl : r.gpr.len < 2 ^ 64)
    (h : initMemoryRegion measureAll r = .ok s) :
    s = Spec.Mrtd.sectionRecs (specSectionOf measureAll r) :=
  initMemoryRegion_eq_spec measureAll r s hr hs hl h

/-- Sections not flagged for extension contribute page-add records only, unless measure-all: when
    neither the region's attribute bit 0 nor the measure-all mode is set, the bytes written for the
    region are exactly one PAGE.ADD buffer per page, independent of any contents. -/
theorem C05_non_extended_sections (r : Region) (s : Bytes)
    (hr : r.gpr.start + r.gpr.len ≤ 2 ^ 64) (hs : r.gpr.start < 2 ^ 64) (hl : r.gpr.len < 2 ^ 64)
    (hattr : r.attrs &&& 1 = 0) (h : initMemoryRegion false r = .ok s) :
    s = (List.range (r.gpr.len / 4096)).flatMap (fun k => Spec.Mrtd.pageAddRec (r.gpr.start + 4096 * k)) := by
  have := initMemoryRegion_eq_spec false r s hr hs hl h
  have hm : measureOf false r = false := by simp [measureOf, hattr]
  rw [this]
  simp only [hm]
  exact sectionRecs_not_extended _ _ _

/-- … and in the legacy measure-all modes the extend bit is forced on every region by the parser. -/
theorem C05_measure_all_forces_extend (fw : Bytes) (s : Codecs.TdxSection) (st st' : PState)
    (h : parseStep true fw s st = .ok st') : ∀ r ∈ st'.regions, r ∉ st.regions → r.attrs &&& 1 = 1 := by
  intro r hr hn
  unfold parseStep at h
  simp only [if_true] at h
  repeat' (split at h)
  all_goals try (simp at h; done)
  all_goals (injection h with h; subst h; simp only [List.mem_append, List.mem_singleton] at hr)
  all_goals (rcases hr with hr | hr; exact absurd hr hn; subst hr; simp only []; exact or_one_and_one _)

/-! ## the end-to-end theorem -/

/-- What validateTDXMetadataSections / extractTDXMetadata accept, in both directions: `md` is returned
    exactly when the image carries it at the place the GUIDed table advertises (`readTDXMetadata`: the
    code path up to and including abi.TDXMetadataFromBytes) and it is declaratively valid (`MetaValid`:
    magic, version, length field; every section with memory size ≤ 4 GiB, range inside the 52-bit
    space and a known type, firmware volumes with non-empty raw data inside the image and memory
    size = raw size; at most 4 GiB declared in total; exactly one TD_HOB; a BFV; the firmware volumes'
    raw sizes adding up, as uint32, to the image length). -/
theorem C05_valid_metadata (fw : Bytes) (md : Codecs.TdxMetadata) :
    extractTDXMetadata fw = .ok md ↔ readTDXMetadata fw = .ok md ∧ MetaValid (fw.length % 2 ^ 32) md :=
  extract_iff_valid fw md

/-- **Gluing lemma.**  For every image (no
    size bound), parser configuration and bank list: ExtractMaterialGuestPhysicalRegions* returns
    `regions` exactly when the image's metadata passes validation, the declared memory ranges are
    pairwise disjoint, the TD_HOB section `h` is among the first 2^31 entries and the generated hand-off
    block fits it; and then `regions` is the declared section list IN DECLARED ORDER, each region with
    the section's memory range and attributes (extend bit forced in the measure-all modes), buffer
    `image[DataOffset, +size)` for BFV / CFV, the hand-off block built from the declared ranges in
    declared order and `unacceptedMemRanges declared banks` for `h`, and for temporary memory a
    zero-filled buffer of the section's size (measure-all) or no buffer (default). -/
theorem C05_regions_are_sections (o : ParserOpts) (fw : Bytes) (banks : List Gpr) (regions : List Region) :
    parse o fw banks = .ok regions ↔
      ∃ md h b, extractTDXMetadata fw = .ok md ∧ DisjointL (md.sections.map gprOf) ∧
        md.sections.find? isHob = some h ∧ md.sections.findIdx isHob < 2 ^ 31 ∧
        getTDHOBList (gprOf h) (md.sections.map gprOf) (unacceptedMemRanges (md.sections.map gprOf) banks)
          o.disableEarlyAccept = .ok b ∧
        regions = md.sections.map (finalRegion o.measureAll fw b) :=
  parse_iff o fw banks regions

/-- … with the buffers spelled out. -/
theorem C05_region_of_section (ma : Bool) (fw : Bytes) (b : HostBuf) (s : Codecs.TdxSection) :
    (finalRegion ma fw b s).gpr = ⟨s.memoryBase, s.memorySize⟩ ∧
    (finalRegion ma fw b s).attrs = (if ma then s.attributes ||| 1 else s.attributes) ∧
    (finalRegion ma fw b s).buf =
      if s.sectionType = 2 then b
      else if s.sectionType = 0 ∨ s.sectionType = 1 then
        ⟨(fw.drop s.dataOffset).take (s.dataOffset + s.dataSize - s.dataOffset), 0⟩
      else ⟨[], if ma then s.memorySize else 0⟩ :=
  ⟨finalRegion_gpr ma fw b s, finalRegion_attrs ma fw b s, finalRegion_buf ma fw b s⟩

/-- **C05, end to end.**  For every hash `H`, every image `fw` (no size bound), every option
    combination (the three launch modes: `modeOf o` is `.default`, `.measureAll` — legacy measure-all —
    or `.measureAllEarly` — legacy measure-all with early accept; DisableUnacceptedMemory wins) and
    every bank list that, in the two modes that use it, is pairwise disjoint and does not reach 2^64
    (true of every machine shape: `C05_shape_banks_preconditions`):

    tdx.MRTD returns the digest `d`  ⟺  the image has VALID TDVF metadata `md` (`Valid`: located and
    decoded from the image, `MetaValid`, pairwise disjoint page-aligned memory ranges, TD_HOB among the
    first 2^31 entries, and — unless everything is measured — no non-empty temporary-memory section
    flagged for extension) and `d` is `H` of the specification's stream (`Spec.Mrtd.mrtdOf`): for the
    sections in declared order, page by page, TDH.MEM.PAGE.ADD then, if the section is flagged for
    extension or the mode measures everything, sixteen TDH.MR.EXTEND records; contents `image[DataOffset,
    +size)` for firmware volumes, zeros for temporary memory, and for the TD_HOB section the
    specification's hand-off block (`Spec.TdHob.tdHob`: hand-off table, one system-memory descriptor
    per declared section in declared order, `Spec.Intervals.difference banks sections` as unaccepted
    memory in ascending order with the mode's early-accept attribute, end marker, zero padding) — the
    stream exists exactly when that block fits its section.

    In particular: never a digest for invalid metadata, never a digest different from the
    specification's, and a digest for every valid image whose hand-off block fits. -/
theorem C05_mrtd_eq_spec (H : Bytes → Bytes) (o : LaunchOptions) (fw d : Bytes)
    (hb : modeOf o ≠ .default → NoOverflow o.banks ∧ DisjointL o.banks) :
    mrtd H o fw = .ok d ↔
      ∃ md, Valid (modeOf o) fw md ∧
        Spec.Mrtd.mrtdOf H (modeOf o) fw (o.banks.map pair) (md.sections.map metaOf) = some d :=
  mrtd_iff H o fw d hb

/-- … and for every GCE machine shape of the regenerated table the bank precondition is discharged: with
    the banks `machineTypeToRAMBanks` selects for a known machine type (what LaunchOptionsDefaultTDHOBBug
    and generateAllPossibleMRTDs pass), in the legacy measure-all mode (`early = false`) and the legacy
    measure-all mode with early accept (`early = true`), the equivalence holds with no hypothesis left. -/
theorem C05_mrtd_eq_spec_shapes (H : Bytes → Bytes) (name : String) (s : Shape)
    (hs : findShape Gen.TdxConsts.shapes name = some s) (early : Bool) (fw d : Bytes) :
    ∃ banks, machineTypeToRAMBanks Gen.TdxConsts.shapes name = .ok banks ∧
      (mrtd H { banks := banks, disableUnacceptedMemory := early, measureAllRegions := true } fw = .ok d ↔
        ∃ md, Valid (if early then .measureAllEarly else .measureAll) fw md ∧
          Spec.Mrtd.mrtdOf H (if early then .measureAllEarly else .measureAll) fw (banks.map pair)
            (md.sections.map metaOf) = some d) := by
  obtain ⟨banks, h1, _, h3, h4, _⟩ := C05_shape_banks_preconditions name s hs
  refine ⟨banks, h1, ?_⟩
  have hm : modeOf { banks := banks, disableUnacceptedMemory := early, measureAllRegions := true } =
      (if early then .measureAllEarly else .measureAll) := by cases early <;> rfl
  have := C05_mrtd_eq_spec H { banks := banks, disableUnacceptedMemory := early, measureAllRegions := true } fw d
    (fun _ => ⟨h3, h4⟩)
  rw [hm] at this
  exact this

-- non-vacuity of `C05_mrtd_eq_spec`: a concrete 4 KiB image (Proofs/TdxExample.lean: BFV = the image,
-- a TD_HOB page, two temporary-memory pages, metadata found through the GUIDed table) is `Valid`, the
-- specification's stream exists for it, and tdx.MRTD returns its hash — default mode and legacy
-- measure-all mode with a bank; and the empty image is not valid, so it never yields a digest
example (mode : Spec.Mrtd.Mode) : Valid mode TdxExample.exFw TdxExample.exMd := TdxExample.ex_valid mode
example (H : Bytes → Bytes) : ∃ d, mrtd H {} TdxExample.exFw = .ok d ∧
    Spec.Mrtd.mrtdOf H .default TdxExample.exFw [] (TdxExample.exMd.sections.map metaOf) = some d := by
  obtain ⟨s, hs, hm⟩ := TdxExample.ex_mrtd_default H
  exact ⟨H s, hm, by unfold Spec.Mrtd.mrtdOf; rw [hs]; rfl⟩
example (H : Bytes → Bytes) :
    ∃ d, mrtd H { banks := TdxExample.exBanks, measureAllRegions := true } TdxExample.exFw = .ok d := by
  obtain ⟨s, _, hm⟩ := TdxExample.ex_mrtd_all H
  exact ⟨H s, hm⟩

/-- The form the driver evaluates on every correspondence case: whenever tdx.MRTD returns a digest and
    `md` is the metadata extractTDXMetadata returns for the image, the specification's digest over
    `md`'s sections exists and is that digest. -/
theorem C05_mrtd_digest_is_spec (H : Bytes → Bytes) (o : LaunchOptions) (fw d : Bytes) (md : Codecs.TdxMetadata)
    (hb : modeOf o ≠ .default → NoOverflow o.banks ∧ DisjointL o.banks)
    (hmd : extractTDXMetadata fw = .ok md) (h : mrtd H o fw = .ok d) :
    Spec.Mrtd.mrtdOf H (modeOf o) fw (o.banks.map pair) (md.sections.map metaOf) = some d := by
  obtain ⟨md', hv, hd⟩ := (C05_mrtd_eq_spec H o fw d hb).mp h
  obtain rfl : md' = md := Outcome.ok.inj (hv.located.symm.trans ((C05_valid_metadata fw md).mp hmd).1)
  exact hd

/-- Invalid TDVF metadata never yields a digest (one clause per way `Valid` can fail is an instance). -/
theorem C05_rejects_invalid (H : Bytes → Bytes) (o : LaunchOptions) (fw : Bytes)
    (hb : modeOf o ≠ .default → NoOverflow o.banks ∧ DisjointL o.banks)
    (hinv : ∀ md, ¬ Valid (modeOf o) fw md) : ∀ d, mrtd H o fw ≠ .ok d := by
  intro d h
  obtain ⟨md, hv, _⟩ := (C05_mrtd_eq_spec H o fw d hb).mp h
  exact hinv md hv

-- non-vacuity: the empty image has no valid metadata
example (H : Bytes → Bytes) (d : Bytes) : mrtd H {} [] ≠ .ok d :=
  C05_rejects_invalid H {} [] (fun h => absurd rfl h)
    (fun md hv => by have := hv.located; simp [readTDXMetadata, GuidTable.getFwGUIDToBlockMap, GuidTable.getFwGUIDTable] at this) d

/-- The records hashed are those of the regions in order (the form C08's cost bounds use): MRTD = H over
    the specification's record stream of the returned regions. -/
theorem C05_mrtd_region_stream (H : Bytes → Bytes) (o : LaunchOptions) (fw d : Bytes)
    (h : mrtd H o fw = .ok d) :
    ∃ regions, mrtdRegions o fw = .ok regions ∧
      d = H (regions.flatMap (fun r => Spec.Mrtd.sectionRecs (specSectionOf o.measureAllRegions r))) :=
  mrtd_eq_region_stream H o fw d h

-- non-vacuity: a measured one-page region yields 128 + 16·384 bytes, an unmeasured one 128
example : (initMemoryRegion false ⟨⟨0x1000, 0x1000⟩, ⟨[], 4096⟩, 1⟩).isOk = true := by decide
example : initChecks false ⟨⟨0x1000, 0x2000⟩, ⟨[], 0⟩, 0⟩ = .ok false := by decide

end GceTcb.Props.C05
