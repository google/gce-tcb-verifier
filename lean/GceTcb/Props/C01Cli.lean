import GceTcb.Proofs.RpCli
import GceTcb.Gen.RpFlags
/-
C01 at the command line — a command line of `gcetcbendorsement verify | sev validate | tdx validate` that exits 0
names an authentic endorsement, under the roots and at the time it names.

`run W E cl` (Model/RpCli.lean) is one run of the tool: the command cobra resolves, the flag occurrences and the
positional arguments `cl`; files, getter and clock `E`; `callOf` (flag scoping, pflag's ranges, the chain of
PersistentPreRunE hooks, RunE up to the library call) then `exec` (the library models of Model/Verify.lean).  The
theorems hold for every command line, every file system / getter / clock and every choice of the primitives
(protobuf, X.509, RSA-PSS, PEM, third-party validators, attestation format detection, numeral syntax).

What the command line can name: the endorsement (positional file of `verify`; `--endorsement` file of the validate
commands, else what the library extracts from the attestation), the root data (`--root_cert` file, else the object the
getter returns for the pinned DefaultRootURL).  It can NOT name the verification time (there is no such flag): the
time is the Backend's clock.
-/
namespace GceTcb.RpCli
open GceTcb

variable {Cert Roots Time R Q : Type}

/-! ### obligations on the regenerated command-line facts -/

/-- The model's flag table — which command each flag is DEFINED on, persistent or local, type, default, Go
    destination — is the table the extractor reads off the `cmd.PersistentFlags()` / `cmd.Flags()` registrations of
    the constructors MakeRoot reaches. -/
theorem C01_cli_flag_table : flagTable = Gen.RpFlags.flags := rfl

/-- The command tree (path, parent, constructor, PersistentPreRunE and RunE bindings) is the one MakeRoot builds, and
    MakeRoot switches cobra to running every PersistentPreRunE from the root down. -/
theorem C01_cli_command_tree :
    commands = Gen.RpFlags.commands ∧ traverseRunHooks = Gen.RpFlags.traverseRunHooks := ⟨rfl, rfl⟩

/-- The defaults the model's flag record starts from are the defaults of the table (row by destination). -/
theorem C01_cli_defaults :
    ∀ row ∈ renderDefaults (parsed ⟨fun _ => none, fun _ => none⟩ { cmd := "" }),
      ∃ t ∈ flagTable, t.2.2.2.2.2 = row.1 ∧ t.2.2.2.2.1 = row.2 := by decide +kernel

/-- The functions the model was written from still have the statement skeleton it was written from (options
    literals in full): ReadProto, rootOfTrust, and PersistentPreRunE / RunE of verify, sev, sev validate, tdx,
    tdx validate; the pinned root URL is the linked constant. -/
theorem C01_cli_source_skeleton :
    Skeleton.readProtoSteps = Gen.RpFlags.readProtoSteps ∧ Skeleton.rootOfTrustSteps = Gen.RpFlags.rootOfTrustSteps ∧
    Skeleton.verifyPreRunSteps = Gen.RpFlags.verifyPreRunSteps ∧ Skeleton.verifyRunSteps = Gen.RpFlags.verifyRunSteps ∧
    Skeleton.sevPreRunSteps = Gen.RpFlags.sevPreRunSteps ∧
    Skeleton.sevValidatePreRunSteps = Gen.RpFlags.sevValidatePreRunSteps ∧
    Skeleton.sevValidateRunSteps = Gen.RpFlags.sevValidateRunSteps ∧
    Skeleton.tdxPreRunSteps = Gen.RpFlags.tdxPreRunSteps ∧
    Skeleton.tdxValidatePreRunSteps = Gen.RpFlags.tdxValidatePreRunSteps ∧
    Skeleton.tdxValidateRunSteps = Gen.RpFlags.tdxValidateRunSteps ∧
    Verify.defaultRootURL = Gen.RpFlags.defaultRootURL ∧ defaultRootCmd = Gen.RpFlags.defaultRootCmd :=
  ⟨rfl, rfl, rfl, rfl, rfl, rfl, rfl, rfl, rfl, rfl, rfl, rfl⟩

/-- How the three verifying commands fill roots, time, getter and endorsement of the options record. -/
theorem C01_cli_wiring :
    Skeleton.wiringOf Gen.RpFlags.wiring "verifyCommand.runE" =
      [("Now", "backend.Now"), ("Getter", "backend.Getter"), ("RootsOfTrust", "rot")] ∧
    (∀ fn ∈ ["sevValidateCommand.runE", "tdxValidateCommand.runE"],
      ∀ row ∈ [("Now", "backend.Now"), ("Getter", "backend.Getter"), ("Endorsement", "c.endorsement"),
               ("RootsOfTrust", "rot")], row ∈ Skeleton.wiringOf Gen.RpFlags.wiring fn) := by decide +kernel

/-! ### roots -/

/-- `rootOfTrust` succeeds exactly with the pool of the certificates of the root data the `--root_cert` value names
    (the file; absent or empty: what the getter returns for the pinned URL), and there is at least one: never an
    empty pool, never a nil pool (which `x509` would read as "the system roots"). -/
theorem C01_cli_roots_named (P : Prims Cert Roots Time R Q) (E : Env Time) (root : String) (r : Roots)
    (h : Verify.rootOfTrust P.vp E.backend root = .ok r) :
    ∃ data, rootData E root = some data ∧ certsIn P data ≠ [] ∧ r = P.poolOf (certsIn P data) :=
  rootOfTrust_ok P E root r h

/-- What `certsIn` is: the certificates of the PEM bundle when it has any; otherwise the data as one DER
    certificate; otherwise nothing.  In particular the empty file holds no certificate whatever the primitives
    say about non-empty data, given only that empty input is neither a PEM certificate nor a DER certificate. -/
theorem C01_cli_certs_in (P : Prims Cert Roots Time R Q) (data : Bytes) :
    (P.pemCerts data ≠ [] → certsIn P data = P.pemCerts data) ∧
    (P.pemCerts data = [] → ∀ c, P.v.parseCert data = some c → certsIn P data = [c]) ∧
    (P.pemCerts data = [] → P.v.parseCert data = none → certsIn P data = []) :=
  ⟨fun h => by simp [certsIn, h], fun h c hc => by simp [certsIn, h, hc], fun h hc => by simp [certsIn, h, hc]⟩

/-! ### a command line that exits 0 -/

/-- A verifying call that the library models accept decides about an endorsement that is authentic for the roots
    and the time in the call's options. -/
theorem C01_cli_call_accept_authentic (W : World Cert Roots Time R Q) (E : Env Time) (c : Call Roots Time R Q)
    (hv : c.verifying = true) (h : (exec W E c).result = Verify.accept) :
    ∃ e r, callEndorsement W c = some e ∧ callRoots c = some r ∧ Verify.Authentic W.P.vp e r (callNow E.now c) := by
  cases c with
  | verify e o =>
    obtain ⟨r, hr, ha⟩ := Verify.endorsementProto_accept W.P.vp e o h
    exact ⟨e, r, rfl, hr, ha⟩
  | sevValidate content o =>
    simp only [exec] at h
    cases hp : W.P.parseAttestation content with
    | none => simp [hp] at h
    | some t =>
      cases t with
      | sevSnp sa =>
        simp only [hp] at h
        obtain ⟨e, r, he, hr, ha⟩ := Verify.sevValidate_accept W.P.vp _ _ h
        exact ⟨e, r, by simp [callEndorsement, hp, he, Verify.exceptToOption], hr, ha⟩
      | _ => simp [hp] at h
  | tdxValidate content o =>
    obtain ⟨e, r, he, hr, ha⟩ := Verify.tdxValidate_accept W.P.vp _ _ _ h
    exact ⟨e, r, by simp [callEndorsement, he, Verify.exceptToOption], hr, ha⟩
  | _ => cases hv

/-- What a command line of a verifying command amounts to: usage (`--help`), the openssl text (`verify --show`), or
    a verifying call whose roots are the pool of the certificates of the root data `--root_cert` names — at least
    one certificate — and whose time is the Backend's clock.  No other flag or flag combination changes this. -/
theorem C01_cli_options (W : World Cert Roots Time R Q) (E : Env Time) (cl : CmdLine) (c : Call Roots Time R Q)
    (hv : cl.cmd = "verify" ∨ cl.cmd = "sev validate" ∨ cl.cmd = "tdx validate")
    (h : callOf W.P W.L E cl = .ok c) :
    (helpFlag cl = true ∧ c = .help) ∨
    (cl.cmd = "verify" ∧ namedShow cl = true ∧ ∃ path, cl.args = [path] ∧
      c = .showCmds path (if namedRoot cl == "" then defaultRootCmd else namedRoot cl)) ∨
    (helpFlag cl = false ∧ (cl.cmd = "verify" → namedShow cl = false) ∧ c.verifying = true ∧
      callNow E.now c = E.now ∧
      ∃ data, rootData E (namedRoot cl) = some data ∧ certsIn W.P data ≠ [] ∧
        callRoots c = some (W.P.poolOf (certsIn W.P data))) := by
  have roots : ∀ rot, Verify.rootOfTrust W.P.vp E.backend (namedRoot cl) = .ok rot →
      ∃ data, rootData E (namedRoot cl) = some data ∧ certsIn W.P data ≠ [] ∧
        some rot = some (W.P.poolOf (certsIn W.P data)) := fun rot hrot =>
    (rootOfTrust_ok _ _ _ _ hrot).imp fun _ ⟨hd, hne, hr⟩ => ⟨hd, hne, congrArg some hr⟩
  rcases hv with hv | hv | hv
  · rcases callOf_verify_ok h hv with hc | ⟨hh, path, hargs, ⟨hs, hc⟩ | ⟨hs, e, rot, _, hrot, hc⟩⟩
    · exact Or.inl hc
    · exact Or.inr (Or.inl ⟨hv, hs, path, hargs, hc⟩)
    · subst hc
      exact Or.inr (Or.inr ⟨hh, fun _ => hs, rfl, rfl, roots rot hrot⟩)
  · rcases callOf_sevValidate_ok h hv with hc | ⟨hh, _, base, att, content, oe, rot, _, _, _, hrot, hc⟩
    · exact Or.inl hc
    · subst hc
      exact Or.inr (Or.inr ⟨hh, fun hv' => by simp [hv] at hv', rfl, rfl, roots rot hrot⟩)
  · rcases callOf_tdxValidate_ok h hv with hc | ⟨hh, base, att, content, oe, rot, _, _, _, hrot, hc⟩
    · exact Or.inl hc
    · subst hc
      exact Or.inr (Or.inr ⟨hh, fun hv' => by simp [hv] at hv', rfl, rfl, roots rot hrot⟩)

/-- C01 through the command line.  A `verify` / `sev validate` / `tdx validate` command line that exits 0 either
    carries `--help` (usage is printed), or is `verify --show` (the openssl commands are printed) — both verify
    NOTHING — or amounts to a library call about an endorsement that is authentic for exactly the certificates of the
    root data its `--root_cert` names (file; else the pinned URL through the getter), of which there is at least one,
    at the Backend's time. -/
theorem C01_cli_exit0_authentic (W : World Cert Roots Time R Q) (E : Env Time) (cl : CmdLine)
    (hv : cl.cmd = "verify" ∨ cl.cmd = "sev validate" ∨ cl.cmd = "tdx validate")
    (h : (run W E cl).result = Verify.accept) :
    helpFlag cl = true ∨ (cl.cmd = "verify" ∧ namedShow cl = true) ∨
    ∃ c e data, callOf W.P W.L E cl = .ok c ∧ callEndorsement W c = some e ∧
      rootData E (namedRoot cl) = some data ∧ certsIn W.P data ≠ [] ∧
      Verify.Authentic W.P.vp e (W.P.poolOf (certsIn W.P data)) E.now := by
  unfold run at h
  cases hc : callOf W.P W.L E cl with
  | err c => simp [hc] at h
  | panic s => simp [hc] at h
  | ok c =>
    simp only [hc] at h
    rcases C01_cli_options W E cl c hv hc with ⟨hh, _⟩ | ⟨hv', hs, _⟩ | ⟨_, _, hver, hnow, data, hd, hne, hr⟩
    · exact Or.inl hh
    · exact Or.inr (Or.inl ⟨hv', hs⟩)
    · obtain ⟨e, r, he, hr', ha⟩ := C01_cli_call_accept_authentic W E c hver h
      rw [hr] at hr'
      cases hr'
      rw [hnow] at ha
      exact Or.inr (Or.inr ⟨c, e, data, rfl, he, hd, hne, ha⟩)

/-- "A missing or empty roots flag does not mean trust everything": whenever the root data the command line names
    does not exist (no file; flag absent and no getter, or the getter fails) or holds no certificate (an empty
    file, junk), a verifying command line without `--help` / `--show` does not exit 0. -/
theorem C01_cli_no_certificate_no_exit0 (W : World Cert Roots Time R Q) (E : Env Time) (cl : CmdLine)
    (hv : cl.cmd = "verify" ∨ cl.cmd = "sev validate" ∨ cl.cmd = "tdx validate")
    (hh : helpFlag cl = false) (hs : cl.cmd = "verify" → namedShow cl = false)
    (hroot : ∀ data, rootData E (namedRoot cl) = some data → certsIn W.P data = []) :
    (run W E cl).result ≠ Verify.accept := by
  intro h
  rcases C01_cli_exit0_authentic W E cl hv h with h1 | ⟨hv', h2⟩ | ⟨_, _, data, _, _, hd, hne, _⟩
  · rw [hh] at h1; cases h1
  · rw [hs hv'] at h2; cases h2
  · exact hne (hroot data hd)

/-- The endorsement `verify` decides about is the one in the file its positional argument names. -/
theorem C01_cli_verify_endorsement_named (W : World Cert Roots Time R Q) (E : Env Time) (cl : CmdLine)
    (e : Verify.Endorsement) (o : Verify.Options Roots Time) (hv : cl.cmd = "verify")
    (h : callOf W.P W.L E cl = .ok (.verify e o)) :
    ∃ path, cl.args = [path] ∧ Verify.readEndorsement W.P.vp E.backend path = .ok e ∧
      o.snp = none ∧ o.expectedUefiSha384 = [] ∧ o.endorsement = none ∧ o.getter = E.getter ∧ o.now = E.now := by
  rcases callOf_verify_ok h hv with ⟨_, ⟨⟩⟩ | ⟨_, path, hargs, ⟨_, ⟨⟩⟩ | ⟨_, e', rot, he, _, ⟨⟩⟩⟩
  exact ⟨path, hargs, he, rfl, rfl, rfl, rfl, rfl⟩

/-- The validate commands: the attestation is the content of the positional file; the pre-supplied endorsement is
    the content of the `--endorsement` file (no flag, none: the library then extracts one from the attestation). -/
theorem C01_cli_validate_inputs_named (W : World Cert Roots Time R Q) (E : Env Time) (cl : CmdLine)
    (c : Call Roots Time R Q) (h : callOf W.P W.L E cl = .ok c) :
    (cl.cmd = "sev validate" → ∀ content o, c = .sevValidate content o →
      ∃ att, cl.args = [att] ∧ E.readFile att = some content ∧
        Verify.cliEndorsement W.P.vp E.backend (parsed W.L cl).sevValidateEndorsementPath = .ok o.endorsement ∧
        o.getter = E.getter ∧ o.now = E.now) ∧
    (cl.cmd = "tdx validate" → ∀ content o, c = .tdxValidate content o →
      ∃ att, cl.args = [att] ∧ E.readFile att = some content ∧
        Verify.cliEndorsement W.P.vp E.backend (parsed W.L cl).tdxValidateEndorsementPath = .ok o.endorsement ∧
        o.now = E.now) := by
  constructor
  · intro hv content o hc
    subst hc
    rcases callOf_sevValidate_ok h hv with ⟨_, ⟨⟩⟩ | ⟨_, _, base, att, content', oe, rot, hargs, hcontent, hoe, _, ⟨⟩⟩
    rw [(parsed_sevValidate_rest W.L cl hv).1]
    exact ⟨att, hargs, hcontent, hoe, rfl, rfl⟩
  · intro hv content o hc
    subst hc
    rcases callOf_tdxValidate_ok h hv with ⟨_, ⟨⟩⟩ | ⟨_, base, att, content', oe, rot, hargs, hcontent, hoe, _, ⟨⟩⟩
    rw [(parsed_tdxValidate_rest W.L cl hv).1]
    exact ⟨att, hargs, hcontent, hoe, rfl⟩

/-! ### what `--show` and `--help` are, exactly -/

/-- `verify PATH --show` reads no file, loads no root, calls no verifier: its run is the printing of the openssl
    text for (PATH, the `--root_cert` text or the default curl expression) on standard output, whatever the files,
    the getter, the clock and the primitives are.  It exits 0 iff standard output can be written. -/
theorem C01_cli_show_verifies_nothing (W : World Cert Roots Time R Q) (E : Env Time) (cl : CmdLine) (path : String)
    (hw : wellFormed W.L cl = true) (hv : cl.cmd = "verify") (hh : helpFlag cl = false)
    (hs : namedShow cl = true) (hargs : cl.args = [path]) :
    run W E cl = emit E "-" (.openssl path (if namedRoot cl == "" then defaultRootCmd else namedRoot cl)) := by
  unfold run
  rw [callOf_verify _ _ _ _ hw hv hh]
  simp [verifyCall, hargs, parsed_verifyShow _ _ hv, parsed_verifyRoot _ _ hv, hs, exec]

/-- `--help` on any command: usage, exit 0, no file read, nothing verified, no effect. -/
theorem C01_cli_help_verifies_nothing (W : World Cert Roots Time R Q) (E : Env Time) (cl : CmdLine)
    (hw : wellFormed W.L cl = true) (hc : cl.cmd ≠ "") (hh : helpFlag cl = true) :
    run W E cl = ⟨[], Verify.accept⟩ := by
  unfold run
  rw [callOf_help _ _ _ _ hw hc hh]
  rfl

/-- The verifying calls have no effect on the Backend's IO (no file is created or written). -/
theorem C01_cli_verifying_no_effects (W : World Cert Roots Time R Q) (E : Env Time) (c : Call Roots Time R Q)
    (hv : c.verifying = true) : (exec W E c).effects = [] := by
  cases c <;> first | rfl | cases hv

/-! ### composition with the entry points of Model/Verify.lean -/

/-- `verify PATH [--root_cert ROOT]` without --show / --help IS the entry point `cliVerify` of Model/Verify.lean
    (C01_accept_authentic's `.cliVerify`) on (PATH, the `--root_cert` value), run with the pool construction of
    `rootOfTrust`. -/
theorem C01_cli_verify_composes (W : World Cert Roots Time R Q) (E : Env Time) (cl : CmdLine) (path : String)
    (hw : wellFormed W.L cl = true) (hv : cl.cmd = "verify") (hh : helpFlag cl = false)
    (hs : namedShow cl = false) (hargs : cl.args = [path]) :
    (run W E cl).result = Verify.run W.P.vp .cliVerify (E.backend, path, namedRoot cl) ∧ (run W E cl).effects = [] := by
  unfold run
  rw [callOf_verify _ _ _ _ hw hv hh]
  simp only [verifyCall, hargs, parsed_verifyShow _ _ hv, parsed_verifyRoot _ _ hv, hs, Verify.run, Verify.cliVerify]
  cases Verify.readEndorsement W.P.vp E.backend path with
  | error c => exact ⟨rfl, rfl⟩
  | ok e =>
    cases Verify.rootOfTrust W.P.vp E.backend (namedRoot cl) with
    | error c => exact ⟨rfl, rfl⟩
    | ok rot => exact ⟨rfl, rfl⟩

/-- `sev validate ATT [--endorsement E] [--root_cert ROOT] [--overwrite] [--testonly_force_gcs]` without `--base`
    and without a named VMSA count IS the entry point `cliSevValidate` of Model/Verify.lean (which hands
    configuration 0 to the library, as the code did before the repair of D2b): the command-line model specialises to
    it, and extends it with the `--launch_vmsas` / `--base` wiring. -/
theorem C01_cli_sev_validate_composes (W : World Cert Roots Time R Q) (E : Env Time) (cl : CmdLine) (att : String)
    (hw : wellFormed W.L cl = true) (hv : cl.cmd = "sev validate") (hh : helpFlag cl = false)
    (hargs : cl.args = [att]) (hb : namedBase cl = "") (hn : namedVmsas W.L cl = 0) :
    (run W E cl).result = Verify.run W.P.vp .cliSevValidate (W.P.parseAttestation, E.backend,
      ⟨att, namedEndorsementPath cl, namedRoot cl, W.tagS none, namedOverwrite cl, namedForceGCS cl⟩) := by
  unfold run
  rw [callOf_sevValidate _ _ _ _ hw hv hh]
  obtain ⟨h1, h2, h3⟩ := parsed_sevValidate_rest W.L cl hv
  have hbase : sevBase W.P E (parsed W.L cl) = .ok none := by simp [sevBase, h3, hb]
  simp only [sevValidateCall, hbase, hargs, h1, h2, parsed_sevValidateRoot _ _ hv, parsed_sevOverwrite W.L cl (Or.inl hv),
    parsed_sevLaunchVmsas W.L cl (Or.inl hv), hn, Verify.run, Verify.cliSevValidate, Env.backend]
  cases E.readFile att with
  | none => rfl
  | some content =>
    cases Verify.cliEndorsement W.P.vp ⟨E.readFile, E.getter, E.now⟩ (namedEndorsementPath cl) with
    | error c => rfl
    | ok oe =>
      cases Verify.rootOfTrust W.P.vp ⟨E.readFile, E.getter, E.now⟩ (namedRoot cl) with
      | error c => rfl
      | ok rot =>
        simp only [exec]
        cases W.P.parseAttestation content with
        | none => rfl
        | some t => cases t <;> rfl

/-- `tdx validate ATT [--endorsement E] [--root_cert ROOT] [--overwrite]` without `--base` and without a named RAM
    size IS the entry point `cliTdxValidate` of Model/Verify.lean. -/
theorem C01_cli_tdx_validate_composes (W : World Cert Roots Time R Q) (E : Env Time) (cl : CmdLine) (att : String)
    (hw : wellFormed W.L cl = true) (hv : cl.cmd = "tdx validate") (hh : helpFlag cl = false)
    (hargs : cl.args = [att]) (hb : namedBase cl = "") (hn : namedRamGiB W.L cl = 0) :
    (run W E cl).result = Verify.run W.P.vp .cliTdxValidate (W.P.parseAttestation, E.backend,
      ⟨att, namedEndorsementPath cl, namedRoot cl, W.tagT none, namedOverwrite cl, false⟩) := by
  unfold run
  rw [callOf_tdxValidate _ _ _ _ hw hv hh]
  obtain ⟨h1, h3⟩ := parsed_tdxValidate_rest W.L cl hv
  have hbase : tdxBase W.P E (parsed W.L cl) = .ok none := by simp [tdxBase, h3, hb]
  simp only [tdxValidateCall, hbase, hargs, h1, parsed_tdxValidateRoot _ _ hv, parsed_tdxOverwrite W.L cl (Or.inl hv),
    parsed_tdxRamGiB W.L cl (Or.inl hv), hn, Verify.run, Verify.cliTdxValidate, Env.backend]
  cases E.readFile att with
  | none => rfl
  | some content =>
    cases Verify.cliEndorsement W.P.vp ⟨E.readFile, E.getter, E.now⟩ (namedEndorsementPath cl) with
    | error c => rfl
    | ok oe =>
      cases Verify.rootOfTrust W.P.vp ⟨E.readFile, E.getter, E.now⟩ (namedRoot cl) with
      | error c => rfl
      | ok rot => simp [exec, TdxValidateOptions.toVerify, ramTag]

/-! ### non-vacuity and witnesses -/

open Example in
/-- `verify e --root_cert r` exits 0 at a time inside the certificate's validity, and `sev validate a --root_cert r`
    does (the endorsement comes out of the attestation's certificate table) … -/
example :
    (run W (E 150) ⟨"verify", [("root_cert", "r")], ["e"]⟩).result = Verify.accept ∧
    (run W (E 150) ⟨"sev validate", [("root_cert", "r")], ["a"]⟩).result = Verify.accept := by decide +kernel

open Example in
/-- … and not: outside the validity, with the empty file or junk as root data, without the flag and without a
    getter, with the flag of another command (`--endorsement` is not a flag of `verify`; `--launch_vmsas` is not a
    flag of `tdx validate`), with a malformed Bool value. -/
example :
    (run W (E 201) ⟨"verify", [("root_cert", "r")], ["e"]⟩).result = Verify.reject "chain" ∧
    (run W (E 150) ⟨"verify", [("root_cert", "z")], ["e"]⟩).result = Verify.reject "root-parse" ∧
    (run W (E 150) ⟨"verify", [("root_cert", "j")], ["e"]⟩).result = Verify.reject "root-parse" ∧
    (run W (E 150) ⟨"verify", [], ["e"]⟩).result = Verify.reject "no-getter" ∧
    (run W (E 150) ⟨"verify", [("root_cert", "")], ["e"]⟩).result = Verify.reject "no-getter" ∧
    (run W (E 150) ⟨"verify", [("root_cert", "r"), ("endorsement", "e")], ["e"]⟩).result = Verify.reject "parse" ∧
    (run W (E 150) ⟨"tdx validate", [("root_cert", "r"), ("launch_vmsas", "1")], ["a"]⟩).result = Verify.reject "parse" ∧
    (run W (E 150) ⟨"verify", [("root_cert", "r"), ("show", "perhaps")], ["e"]⟩).result = Verify.reject "parse" := by
  decide +kernel

open Example in
/-- `--show` stated exactly: a command line naming a file that does not exist, junk as roots, at a time outside
    every validity, exits 0 — it prints two openssl commands and verifies nothing; without `--show` the same command
    line is refused. -/
theorem C01_cli_show_witness :
    (run W (E 999) ⟨"verify", [("root_cert", "j"), ("show", "true")], ["nosuchfile"]⟩).result = Verify.accept ∧
    (run W (E 999) ⟨"verify", [("root_cert", "j")], ["nosuchfile"]⟩).result = Verify.reject "read" := by decide +kernel

end GceTcb.RpCli
