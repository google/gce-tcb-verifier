import GceTcb.Proofs.VirtualFirmware
/-
C15 — Dry-run and measurement-only runs have no side effects.

`virtualFirmware false P T c keys ts fl vcs vcss` is the model of endorse.VirtualFirmware (as fixed by
`fix: dry run no longer dereferences a nil ChangeOps`) as an effect log over the doubles:
CertificateAuthority and Signer calls, calls on each VersionControl and its workspaces, lines on
standard output.  Theorems hold for every image, request, primitive, key material, flag combination,
set of back ends and back-end behaviour (scripts).
-/
namespace GceTcb.VF
open GceTcb GceTcb.Endorse GceTcb.Manifest GceTcb.Commit

/-- With dry-run no workspace is created, no file is read, written or re-moded, nothing is
    committed or destroyed, whatever the other flags: the only calls a VersionControl sees are
    Result(nil, path) — with no commit handed over — and, when the candidate name is refused
    (`fix: refuse candidate names …`: the dry run then fails like the real one), the RetriableError
    query about that refusal. -/
theorem C15_dry_run_pure (P : Prims) (T : Tables) (c : Ctx) (keys : Option Keys) (ts : Int × Nat)
    (fl : Flags) (vcs : Option (List Attempt)) (vcss : List (List Attempt))
    (hd : fl.cfg.dryRun = true) :
    ∀ i ev, Eff.vcs i ev ∈ (virtualFirmware false P T c keys ts fl vcs vcss).effects →
      (ev.kind = .result ∧ ev.ok = false) ∨ ev.kind = .retriable := by
  intro i ev h
  obtain ⟨g, _, h⟩ := mem_effects.mp h
  split at h
  · simp at h
  · rcases h with h | ⟨_, h⟩
    · obtain ⟨se, _, he⟩ := List.mem_map.mp h
      cases se <;> cases he
    · obtain ⟨x, _, h⟩ := List.mem_flatMap.mp (commitAll_effects _ h)
      obtain ⟨ev', hev, he⟩ := List.mem_map.mp h
      cases he
      rw [commitPhase_eq] at hev
      exact retryLoop_dry_events hd _ _ _ hev

/-- With measurement-only nothing but standard output is touched: no CertificateAuthority call, no
    Signer call, no VersionControl or workspace call — with or without dry-run, keys, back ends. -/
theorem C15_measurement_only_pure (P : Prims) (T : Tables) (c : Ctx) (keys : Option Keys)
    (ts : Int × Nat) (fl : Flags) (vcs : Option (List Attempt)) (vcss : List (List Attempt))
    (legacy : Bool) (hm : fl.measurementOnly = true) :
    ∀ eff ∈ (virtualFirmware legacy P T c keys ts fl vcs vcss).effects, ∃ l, eff = Eff.stdout l := by
  intro eff h
  obtain ⟨g, _, h⟩ := mem_effects.mp h
  rw [if_pos hm] at h
  obtain ⟨l, _, rfl⟩ := List.mem_map.mp h
  exact ⟨l, rfl⟩

/-- A run that is not measurement-only prints nothing on standard output. -/
theorem C15_stdout_only_when_asked (P : Prims) (T : Tables) (c : Ctx) (keys : Option Keys)
    (ts : Int × Nat) (fl : Flags) (vcs : Option (List Attempt)) (vcss : List (List Attempt))
    (hm : fl.measurementOnly = false) :
    ∀ l, Eff.stdout l ∉ (virtualFirmware false P T c keys ts fl vcs vcss).effects := by
  intro l h
  obtain ⟨g, _, h⟩ := mem_effects.mp h
  rw [hm] at h
  rcases h with h | ⟨_, h⟩
  · obtain ⟨se, _, he⟩ := List.mem_map.mp h
    cases se <;> cases he
  · obtain ⟨_, _, h⟩ := List.mem_flatMap.mp (commitAll_effects _ h)
    obtain ⟨_, _, he⟩ := List.mem_map.mp h
    cases he

/-- Both report the measurements a real run would sign.
    (a) dry-run on or off, the same documents are handed to the signer;
    (b) every document a signing run hands to the signer carries exactly the measured sections, and
        what measurement-only prints is the rendering of exactly those sections. -/
theorem C15_same_measurements (P : Prims) (T : Tables) (c : Ctx) (keys : Option Keys) (ts : Int × Nat)
    (fl : Flags) (vcs : Option (List Attempt)) (vcss : List (List Attempt)) :
    (∀ k d, Eff.sign k d ∈ (virtualFirmware false P T c keys ts
          { fl with cfg := { fl.cfg with dryRun := true } } vcs vcss).effects ↔
        Eff.sign k d ∈ (virtualFirmware false P T c keys ts
          { fl with cfg := { fl.cfg with dryRun := false } } vcs vcss).effects) ∧
    (∀ k d, Eff.sign k d ∈ (virtualFirmware false P T c keys ts
          { fl with measurementOnly := false } vcs vcss).effects →
        (virtualFirmware false P T c keys ts { fl with measurementOnly := true } vcs vcss).effects =
          (renderSnp fl.launchVmsas d.snp ++ renderTdx d.tdx).map Eff.stdout) := by
  constructor
  · intro k d
    rw [sign_mem_iff, sign_mem_iff]
  · intro k d h
    obtain ⟨_, g, hg, inSign⟩ := (sign_mem_iff P T c keys ts _ vcs vcss k d).mp h
    obtain ⟨_, h2, h3, _⟩ := signDocEff_docs keys ts g k d inSign
    unfold virtualFirmware
    rw [hg]
    simp [renderMeasurements, h2, h3]

/-- No panic: if the primitives and the key material do not panic, the fixed code never does — in
    particular the absent workspace of a dry run is never dereferenced. -/
theorem C15_no_panic (P : Prims) (T : Tables) (c : Ctx) (keys : Option Keys) (ts : Int × Nat)
    (fl : Flags) (vcs : Option (List Attempt)) (vcss : List (List Attempt))
    (h1 : ∀ k pr, (P.launchDigest c.image k pr).isPanic = false)
    (h2 : ∀ s m, (P.mrtd c.image s m).isPanic = false)
    (h3 : ∀ g, (signDocEff keys ts g).2.isPanic = false) :
    (virtualFirmware false P T c keys ts fl vcs vcss).result.isPanic = false := by
  rw [result_eq]
  refine Outcome.isPanic_bind (goldenMeasurement_noPanic h1 h2) fun g => ?_
  split
  · rfl
  · refine Outcome.isPanic_bind (h3 g) fun _ => ?_
    cases hr : (commitAll false fl.cfg (newEntry P c ts fl.cfg) fl.budget (effectiveVcss vcs vcss)).2 with
    | panic => exact absurd hr (commitAll_result (Q := (· ≠ .panic)) (by simp) fun x _ => commitPhase_ne_panic x.2)
    | _ => rfl

/-- A dry run completes: when measuring and signing succeed and the candidate name is one the real run
    accepts (or the run is a snapshot, which uses no candidate name) it returns success, for every set
    of back ends (their behaviour is irrelevant; each only needs to exist). -/
theorem C15_dry_run_completes (P : Prims) (T : Tables) (c : Ctx) (keys : Option Keys) (ts : Int × Nat)
    (fl : Flags) (vcs : Option (List Attempt)) (vcss : List (List Attempt)) (g d : Golden) (sig : Bytes)
    (hd : fl.cfg.dryRun = true) (hm : fl.measurementOnly = false)
    (hg : goldenMeasurement P T c = .ok g) (hs : signDoc keys ts g = .ok (d, sig))
    (hne : ∀ x ∈ effectiveVcss vcs vcss, x.2 ≠ [])
    (hn : fl.cfg.snapshot = true ∨ nameOk fl.cfg.cand = true) :
    (virtualFirmware false P T c keys ts fl vcs vcss).result = .ok () := by
  rw [result_eq, hg, Outcome.bind, if_neg (by simp [hm]), hs, Outcome.bind,
    commitAll_result (Q := (· = .ok)) rfl fun x hx => commitPhase_dry_ok hd hn (hne x hx)]

/-- The defect the fix removes (D9), stated on the model of the code before the fix: every dry run
    that gets as far as committing — measuring and signing succeed, at least one back end is
    configured — panics on the nil ChangeOps, in manifest mode and in snapshot mode alike. -/
theorem C15_legacy_dry_run_panics (P : Prims) (T : Tables) (c : Ctx) (keys : Option Keys) (ts : Int × Nat)
    (fl : Flags) (vcs : Option (List Attempt)) (vcss : List (List Attempt)) (g d : Golden) (sig : Bytes)
    (hd : fl.cfg.dryRun = true) (hm : fl.measurementOnly = false)
    (hg : goldenMeasurement P T c = .ok g) (hs : signDoc keys ts g = .ok (d, sig))
    (hne : effectiveVcss vcs vcss ≠ []) :
    (virtualFirmware true P T c keys ts fl vcs vcss).result = .panic "nil ChangeOps" := by
  rw [result_eq, hg, Outcome.bind, if_neg (by simp [hm]), hs, Outcome.bind]
  cases hl : effectiveVcss vcs vcss with
  | nil => exact absurd hl hne
  | cons x rest => simp [commitAll, commitPhase, hd]

/-! ### non-vacuity -/

/-- a real run makes 4 key calls and 8 back-end calls and prints nothing; the same run with dry-run
    makes the same 4 key calls and one Result call; measurement-only makes none and prints 4 lines. -/
example :
    let real := virtualFirmware false exP exT exC exKeys (5, 0) (exFl false false false) (some exScript) []
    let dry := virtualFirmware false exP exT exC exKeys (5, 0) (exFl false true false) (some exScript) []
    let mo := virtualFirmware false exP exT exC exKeys (5, 0) (exFl true true false) (some exScript) []
    (countKeys real.effects, countVcs real.effects, stdoutLines real.effects) = (4, 8, []) ∧
    (countKeys dry.effects, countVcs dry.effects, stdoutLines dry.effects) = (4, 1, []) ∧
    (countKeys mo.effects, countVcs mo.effects) = (0, 0) ∧
    stdoutLines mo.effects = ["1 010109", "2 020109", "RAM:16 UnacceptedMemory:true MRTD:0d09", "RAM:0 UnacceptedMemory:true MRTD:0009"] ∧
    real.result = .ok () ∧ dry.result = .ok () ∧ mo.result = .ok () := by
  rw [virtualFirmware, virtualFirmware, virtualFirmware, goldenMeasurement_eq, exSnp]
  decide +kernel

/-- the model of the unfixed code panics on the same dry run, in both modes -/
example :
    (virtualFirmware true exP exT exC exKeys (5, 0) (exFl false true false) (some exScript) []).result = .panic "nil ChangeOps" ∧
    (virtualFirmware true exP exT exC exKeys (5, 0) (exFl false true true) (some exScript) []).result = .panic "nil ChangeOps" := by
  rw [virtualFirmware, virtualFirmware, goldenMeasurement_eq, exSnp]
  decide +kernel

end GceTcb.VF
