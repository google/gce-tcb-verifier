import GceTcb.Proofs.Kms
import GceTcb.Proofs.Crc32c
/-
C20 — Cloud KMS signing and key lifecycle are integrity-checked and complete.
Property theorems only (helper lemmas live in Proofs/Kms.lean; the model in Model/Kms.lean).

The model is the code after the commit "fix: iterate KMS listings until the next-page token is empty"
(`Style.fixed`); the loop before the fix (`Style.old`) is kept for the two witnesses `C20_old_loop_*`.
Everything is stated for an arbitrary service: arbitrary pagers, version sets, fault scripts, poll answers.
CRC32C is an abstract `crc` in the general theorems; the single-bit corollary is stated for any `crc` with
`CrcSingleBit` and then, without hypothesis, for the executable CRC32C of the model (`C20_crc32c_single_bit`,
`C20_sign_detects_single_bit_crc32c`), which the driver compares with Go's hash/crc32 on every run.
-/
namespace GceTcb.Kms

/-! ## Signing -/

/-- A signature is returned only if the service answered the request Sign built, the answer's checksum
    matches the returned signature, and the service confirmed both request checksums. -/
theorem C20_sign_checked (crc : Bytes → Nat) (svc : SignReq → Option SignResp) (name : String) (digest : Bytes)
    (opts : SignerOpts) (sent : Option SignReq) (s : Bytes)
    (h : sign crc svc name digest opts = ⟨sent, .sig s⟩) :
    ∃ r, svc (mkSignReq crc name digest) = some r ∧ sent = some (mkSignReq crc name digest) ∧
      r.signature = s ∧ (crc s : Int) = r.sigCrc ∧ r.verifiedData = true ∧ r.verifiedDigest = true := by
  by_cases ho : opts = .pss (-1) 5
  · subst ho
    rw [sign_wantOpts] at h
    cases hs : svc (mkSignReq crc name digest) with
    | none => rw [hs] at h; cases h
    | some r =>
      rw [hs] at h
      injection h with h1 h2
      obtain ⟨rfl, hr⟩ := (checkResp_eq_sig crc r s).mp h2
      exact ⟨r, rfl, h1.symm, rfl, hr⟩
  · exact ((sign_otherOpts crc svc name digest ho).2 s (by rw [h])).elim

/-- Requests are sent, and signatures returned, only for `&rsa.PSSOptions{SaltLength: -1 (= hash length),
    Hash: crypto.SHA256 (5)}`; the request then carries the key version name, the digest and the CRCs
    of the digest and of the (empty) data. -/
theorem C20_sign_opts (crc : Bytes → Nat) (svc : SignReq → Option SignResp) (name : String) (digest : Bytes)
    (opts : SignerOpts)
    (h : (sign crc svc name digest opts).sent ≠ none ∨ ∃ s, (sign crc svc name digest opts).out = .sig s) :
    opts = .pss (-1) 5 ∧ (sign crc svc name digest opts).sent = some ⟨name, digest, crc digest, crc []⟩ := by
  by_cases ho : opts = .pss (-1) 5
  · subst ho
    exact ⟨rfl, congrArg SignResult.sent (sign_wantOpts crc svc name digest)⟩
  · obtain ⟨h1, h2⟩ := sign_otherOpts crc svc name digest ho
    rcases h with h | ⟨s, h⟩
    · exact absurd h1 h
    · exact absurd h (h2 s)

/-- The extracted option constants are RSA-PSS with salt length = hash length (−1) and SHA-256 (5, 32 bytes). -/
theorem C20_sign_opts_table :
    Gen.Kms.wantSalt = -1 ∧ Gen.Kms.wantHash = 5 ∧ Gen.Kms.wantHashSize = 32 := by decide

/-- The source of Sign still rejects on each of the four response fields (extracted from the `if`s). -/
theorem C20_sign_checks_extracted :
    Gen.Kms.signChecks = ["GetSignature", "GetSignatureCrc32C", "GetVerifiedDataCrc32C", "GetVerifiedDigestCrc32C"] :=
  rfl

/-- A response whose checksum is wrong, or that does not confirm a request checksum, yields no signature. -/
theorem C20_sign_rejects_unconfirmed (crc : Bytes → Nat) (svc : SignReq → Option SignResp) (name : String)
    (digest : Bytes) (opts : SignerOpts) (r : SignResp) (hr : svc (mkSignReq crc name digest) = some r)
    (hbad : (crc r.signature : Int) ≠ r.sigCrc ∨ r.verifiedData = false ∨ r.verifiedDigest = false) :
    ∀ s, (sign crc svc name digest opts).out ≠ .sig s := by
  intro s hs
  obtain ⟨r', hr', _, rfl, h2, h3, h4⟩ := C20_sign_checked crc svc name digest opts _ s (by rw [← hs])
  cases hr.symm.trans hr'
  rcases hbad with hb | hb | hb
  · exact hb h2
  · rw [hb] at h3; cases h3
  · rw [hb] at h4; cases h4

/-- Corollary for a checksum with `CrcSingleBit`: if the service computed the checksum over the signature it
    produced and one bit of the signature flipped in transit, no signature is returned. -/
theorem C20_sign_detects_single_bit (crc : Bytes → Nat) (crc_single_bit : CrcSingleBit crc)
    (svc : SignReq → Option SignResp) (name : String) (digest : Bytes) (opts : SignerOpts)
    (sig0 : Bytes) (i : Nat) (hi : i < 8 * sig0.length) (r : SignResp)
    (hr : svc (mkSignReq crc name digest) = some r)
    (hflip : r.signature = flipBit sig0 i) (hsum : r.sigCrc = crc sig0) :
    ∀ s, (sign crc svc name digest opts).out ≠ .sig s := by
  apply C20_sign_rejects_unconfirmed crc svc name digest opts r hr
  left
  rw [hflip, hsum]
  intro h
  exact crc_single_bit sig0 i hi (Int.ofNat.inj h)

/-- CRC32C itself (the executable `crc32c` the driver checks against hash/crc32) changes under every single
    flipped bit of every byte string: `CrcSingleBit` is a theorem about it, not a hypothesis. -/
theorem C20_crc32c_single_bit : CrcSingleBit crc32c := crc32c_single_bit

/-- The single-bit clause with nothing assumed about the checksum. -/
theorem C20_sign_detects_single_bit_crc32c
    (svc : SignReq → Option SignResp) (name : String) (digest : Bytes) (opts : SignerOpts)
    (sig0 : Bytes) (i : Nat) (hi : i < 8 * sig0.length) (r : SignResp)
    (hr : svc (mkSignReq crc32c name digest) = some r)
    (hflip : r.signature = flipBit sig0 i) (hsum : r.sigCrc = crc32c sig0) :
    ∀ s, (sign crc32c svc name digest opts).out ≠ .sig s :=
  C20_sign_detects_single_bit crc32c crc32c_single_bit svc name digest opts sig0 i hi r hr hflip hsum

/-- The clause "the response names the requested key version" (Cloud KMS data-integrity guidelines) —
    not part of the property text, and not checked by sign.go. -/
def SignNameChecked : Prop :=
  ∀ (crc : Bytes → Nat) (svc : SignReq → Option SignResp) (name : String) (digest : Bytes) (opts : SignerOpts)
    (sent : Option SignReq) (s : Bytes), sign crc svc name digest opts = ⟨sent, .sig s⟩ →
    ∃ r, svc (mkSignReq crc name digest) = some r ∧ r.name = name

/-- Observation outside the property text (not counted as a finding): a response that names another key
    version is accepted when its checksum and verified flags are consistent. -/
theorem C20_note_response_name_unchecked : ¬ SignNameChecked := by
  intro h
  obtain ⟨r, hr, hn⟩ := h (fun _ => 0) (fun _ => some ⟨[], 0, true, true, "other"⟩) "kv" [] (.pss (-1) 5)
    (some ⟨"kv", [], 0, 0⟩) [] (by decide)
  injection hr with hr
  rw [← hr] at hn
  revert hn; decide

/-- Non-vacuity: a clean response produces a signature; a flipped flag or checksum does not. -/
example :
    (sign (fun bs => bs.length) (fun _ => some ⟨[1, 2], 2, true, true, "kv"⟩) "kv" [7] (.pss (-1) 5)).out = .sig [1, 2] ∧
    (sign (fun bs => bs.length) (fun _ => some ⟨[1, 2], 3, true, true, "kv"⟩) "kv" [7] (.pss (-1) 5)).out = .err "signature_crc32c" ∧
    (sign (fun bs => bs.length) (fun _ => some ⟨[1, 2], 2, true, false, "kv"⟩) "kv" [7] (.pss (-1) 5)).out = .err "verified_digest_crc32c" ∧
    (sign (fun bs => bs.length) (fun _ => some ⟨[1, 2], 2, true, true, "kv"⟩) "kv" [7] (.pss 0 5)).sent = none := by
  decide +kernel

/-! ## The destroyable-state table -/

/-- Exactly ENABLED and DISABLED are destroyable, and every state of the kmspb enum except UNSPECIFIED has
    a row (so no real state is an "unknown key state" error). -/
theorem C20_destroyable_table :
    destroyableState stEnabled = some true ∧ destroyableState stDisabled = some true ∧
    (∀ p ∈ Gen.Kms.destroyableTable, p.2 = true → p.1 = stEnabled ∨ p.1 = stDisabled) ∧
    (∀ p ∈ Gen.Kms.allStates, p.1 ≠ 0 → (destroyableState p.1).isSome = true) := by
  decide +kernel

/-! ## Wipeout -/

/-- `C20_wipeout_complete` with the legal pagers given as walks. -/
theorem C20_wipeout_complete_walks (svc : Svc) (st : St) (fuel : Nat) (kpages : List (Page String))
    (vp : String → List (Page String)) (hk : Walk svc.keys "" kpages)
    (hv : ∀ k ∈ flatItems kpages, Walk (svc.vers k) "" (vp k))
    (a : Acc) (hres : wipeout .fixed svc fuel st = some a) (hok : a.failed = false) :
    ∀ k ∈ flatItems kpages, ∀ v ∈ flatItems (vp k),
      a.st.state v ≠ stEnabled ∧ a.st.state v ≠ stDisabled := by
  -- a run that ended is the run with more fuel, and with enough fuel the loop is characterised by `wipeoutLoop_total`
  obtain ⟨r, hr, hrun⟩ := wipeoutLoop_total svc (fuel + pagesOf vp (flatItems kpages)) vp kpages
    (fuel + kpages.length) "" ⟨st, false⟩ hk (Nat.le_add_left ..)
    fun k h => ⟨hv k h, Nat.le_trans (le_pagesOf vp h) (Nat.le_add_left ..)⟩
  rw [wipeoutLoop_fuel_mono .fixed svc (Nat.le_add_right ..) (Nat.le_add_right ..) hres] at hr
  cases hr
  exact fun k hk v hv => hrun.gone hok v (List.mem_flatMap.mpr ⟨k, hk, hv⟩)

/-- Wipeout is complete: for ANY number of keys and versions, ANY legal paging of the key listing and of
    every version listing, ANY fault script — if Wipeout returns without error then no version of any key
    is left ENABLED or DISABLED. -/
theorem C20_wipeout_complete (svc : Svc) (st : St) (fuel : Nat) (allKeys : List String)
    (allVers : String → List String) (hk : LegalPager svc.keys allKeys)
    (hv : ∀ k ∈ allKeys, LegalPager (svc.vers k) (allVers k))
    (a : Acc) (hres : wipeout .fixed svc fuel st = some a) (hok : a.failed = false) :
    ∀ k ∈ allKeys, ∀ v ∈ allVers k, a.st.state v ≠ stEnabled ∧ a.st.state v ≠ stDisabled := by
  obtain ⟨kpages, hkw, rfl⟩ := hk
  -- choose a walk for every listed key
  have hv' : ∀ k, ∃ pages, k ∈ flatItems kpages → Walk (svc.vers k) "" pages ∧ flatItems pages = allVers k :=
    fun k => if h : k ∈ flatItems kpages then (hv k h).imp fun _ hp _ => hp else ⟨[], fun h' => absurd h' h⟩
  obtain ⟨vp, hvp⟩ := Classical.skolem.mp hv'
  intro k hkm v hvm
  exact C20_wipeout_complete_walks svc st fuel kpages vp hkw (fun k h => (hvp k h).1) a hres hok k hkm v
    ((hvp k hkm).2 ▸ hvm)

/-- Of "service errors never make Wipeout report success", the half that an error once recorded is never forgotten:
    the per-key loop entered with the error flag set returns with it set (any pager, any style).  That a failed
    listing, a failed Destroy and an unknown state SET the flag is read off `wipeoutKeyLoop` / `destroyVersions`; this
    statement does not say it. -/
theorem C20_wipeout_error_reported (sty : Style) (svc : Svc) (key : String) (fuel : Nat) (tok : String) (a r : Acc)
    (h : wipeoutKeyLoop sty svc key fuel tok a = some r) (ha : a.failed = true) : r.failed = true := by
  induction fuel generalizing tok a with
  | zero => cases h
  | succ f ih =>
    rw [wipeoutKeyLoop] at h
    split at h
    · cases h; rfl
    have hp : (wipeoutKeyPage svc key tok a).failed = true := by
      cases hp : (wipeoutKeyPage svc key tok a).failed with
      | true => rfl
      | false => rw [(wipeoutKeyPage_run svc key tok a).clean hp] at ha; cases ha
    split at h
    · cases h; exact hp
    · exact ih _ _ h hp

/-- The listing loops of Wipeout terminate on all legal pagers: there is one result `a` that every fuel
    `≥ F` produces (`F` any bound on the page counts), and the number of list calls is at most the number
    of pages (key pages + version pages of every key). -/
theorem C20_lists_terminate (svc : Svc) (st : St) (kpages : List (Page String))
    (vp : String → List (Page String)) (F : Nat) (hk : Walk svc.keys "" kpages)
    (hv : ∀ k ∈ flatItems kpages, Walk (svc.vers k) "" (vp k))
    (hF : kpages.length ≤ F ∧ ∀ k ∈ flatItems kpages, (vp k).length ≤ F) :
    ∃ a, (∀ fuel, F ≤ fuel → wipeout .fixed svc fuel st = some a) ∧
      nList a.st.log ≤ nList st.log + kpages.length + pagesOf vp (flatItems kpages) := by
  obtain ⟨a, ha, hrun⟩ := wipeoutLoop_total svc F vp kpages F "" ⟨st, false⟩ hk hF.1
    fun k h => ⟨hv k h, hF.2 k h⟩
  exact ⟨a, fun fuel hfuel => wipeoutLoop_fuel_mono .fixed svc hfuel hfuel ha, (Nat.add_assoc ..).symm ▸ hrun.calls⟩

/-- Per key: one list call per page, same result for every sufficient fuel. -/
theorem C20_lists_terminate_key (svc : Svc) (key : String) (pages : List (Page String)) (a : Acc)
    (hw : Walk (svc.vers key) "" pages) :
    ∃ r, (∀ fuel, pages.length ≤ fuel → wipeoutKeyLoop .fixed svc key fuel "" a = some r) ∧
      nList r.st.log ≤ nList a.st.log + pages.length := by
  obtain ⟨r, hr, hrun⟩ := wipeoutKeyLoop_total svc key pages pages.length "" a hw (Nat.le_refl _)
  exact ⟨r, fun fuel hfuel => wipeoutKeyLoop_fuel_mono .fixed svc key hfuel hr, hrun.calls⟩

/-- Bootstrap's listing loop: never out of fuel on a legal pager, at most one list call per page,
    whatever the faults and totals. -/
theorem C20_lists_terminate_bootstrap (svc : Svc) (key : String) (pages : List (Page String)) (fuel : Nat)
    (pend : Option Ver) (st : St) (hw : Walk (svc.vers key) "" pages) (hfuel : pages.length ≤ fuel) :
    (gepLoop .fixed svc key fuel "" pend st).2 ≠ .diverged ∧
    (gepLoop .fixed svc key fuel "" pend st).1.log.length ≤ st.log.length + pages.length :=
  gepLoop_terminates svc key pages fuel "" pend st hw hfuel

/-! ## Bootstrap -/

/-- Selection: on a legal pager (honest non-zero totals, no listing fault) the listing loop returns the
    FIRST ENABLED version of the whole listing if there is one, else the LAST PENDING_GENERATION one, else
    ErrNoKeyVersions — however the listing is cut into pages. -/
theorem C20_bootstrap_selects (svc : Svc) (key : String) (st : St) (pages : List (Page String)) (fuel : Nat)
    (hfail : ∀ i, svc.fail i = false) (hw : Walk (svc.vers key) "" pages) (hfuel : pages.length ≤ fuel)
    (htot : ∀ pg ∈ pages, pg.total ≠ 0) :
    (gepLoop .fixed svc key fuel "" none st).2 =
      (match (snapshot st (flatItems pages)).find? isEn with
       | some v => .found v
       | none => gepEnd (lastPending (snapshot st (flatItems pages)) none)) := by
  rw [gepLoop_walk svc key hfail pages fuel "" none st hw hfuel htot, scanPage_eq]
  cases (snapshot st (flatItems pages)).find? isEn <;> rfl

/-- … so when an ENABLED version exists, waitForKeyGen returns its name without polling or creating
    (the final state is the listing loop's). -/
theorem C20_bootstrap_selects_enabled (svc : Svc) (key : String) (st : St) (pages : List (Page String))
    (fuelL fuelP : Nat) (hfail : ∀ i, svc.fail i = false) (hw : Walk (svc.vers key) "" pages)
    (hfuel : pages.length ≤ fuelL) (htot : ∀ pg ∈ pages, pg.total ≠ 0)
    (v : Ver) (hv : (snapshot st (flatItems pages)).find? isEn = some v) :
    waitForKeyGen .fixed svc key fuelL fuelP st = ((gepLoop .fixed svc key fuelL "" none st).1, .ok v.name) ∧
    v ∈ snapshot st (flatItems pages) ∧ v.state = stEnabled := by
  have hsel := C20_bootstrap_selects svc key st pages fuelL hfail hw hfuel htot
  rw [hv] at hsel
  have hen : isEn v = true := List.find?_some hv
  refine ⟨?_, List.mem_of_find?_eq_some hv, of_decide_eq_true hen⟩
  rw [waitForKeyGen_eq, hsel]
  exact if_pos (of_decide_eq_true hen)

/-- … when none is ENABLED but some version is PENDING_GENERATION, waitForKeyGen waits for (polls) the
    last pending one and creates nothing. -/
theorem C20_bootstrap_waits_pending (svc : Svc) (key : String) (st : St) (pages : List (Page String))
    (fuelL fuelP : Nat) (hfail : ∀ i, svc.fail i = false) (hw : Walk (svc.vers key) "" pages)
    (hfuel : pages.length ≤ fuelL) (htot : ∀ pg ∈ pages, pg.total ≠ 0)
    (hnone : (snapshot st (flatItems pages)).find? isEn = none)
    (v : Ver) (hv : lastPending (snapshot st (flatItems pages)) none = some v) :
    waitForKeyGen .fixed svc key fuelL fuelP st = poll svc v.name fuelP 0 (gepLoop .fixed svc key fuelL "" none st).1 ∧
    v ∈ snapshot st (flatItems pages) ∧ v.state = stPending := by
  have hsel := C20_bootstrap_selects svc key st pages fuelL hfail hw hfuel htot
  rw [hnone, hv] at hsel
  have hpe := (lastPending_some _ _ _ hv).resolve_right nofun
  refine ⟨?_, hpe⟩
  rw [waitForKeyGen_eq, hsel]
  exact if_neg (by rw [hpe.2]; decide)

/-- … and when there is neither, a new version is created (and awaited). -/
theorem C20_bootstrap_creates (svc : Svc) (key : String) (st : St) (pages : List (Page String))
    (fuelL fuelP : Nat) (hfail : ∀ i, svc.fail i = false) (hw : Walk (svc.vers key) "" pages)
    (hfuel : pages.length ≤ fuelL) (htot : ∀ pg ∈ pages, pg.total ≠ 0)
    (hnone : (snapshot st (flatItems pages)).find? isEn = none)
    (hnop : lastPending (snapshot st (flatItems pages)) none = none) :
    waitForKeyGen .fixed svc key fuelL fuelP st =
      awaitVersion svc fuelP svc.createVer
        ((gepLoop .fixed svc key fuelL "" none st).1.push (.createVer key) true) ∧
    (∀ v ∈ snapshot st (flatItems pages), v.state ≠ stEnabled ∧ v.state ≠ stPending) := by
  have hsel := C20_bootstrap_selects svc key st pages fuelL hfail hw hfuel htot
  rw [hnone, hnop] at hsel
  refine ⟨?_, fun v hv => ⟨fun he => List.find?_eq_none.mp hnone v hv (decide_eq_true he),
    (lastPending_eq_none _ _ hnop).2 v hv⟩⟩
  rw [waitForKeyGen_eq, hsel]
  show (match createVersion svc key _ with | (st2, none) => _ | (st2, some v) => _) = _
  rw [createVersion, if_neg (by rw [hfail]; nofun)]

/-- Safety for ANY pager, style and fault script: a name returned by CreateNewRootKey was reported
    ENABLED by the service (in the listing, by CreateCryptoKeyVersion, or by a poll). -/
theorem C20_bootstrap_enabled_only (sty : Style) (svc : Svc) (keep : Bool) (id key : String)
    (fuelL fuelP : Nat) (st st' : St) (n : String)
    (h : createNewRootKey sty svc keep id key fuelL fuelP st = (st', .ok n)) :
    ReportedEnabled svc key st.state n := by
  rw [← callCreate_state svc svc.ringExists .createRing st]
  unfold createNewRootKey at h
  generalize callCreate svc svc.ringExists .createRing st = p at h ⊢
  obtain ⟨st1, o⟩ := p
  cases o with
  | fail => exact recreateCryptoKey_ok _ _ _ _ _ _ _ _ _ _ _ h
  | ok => exact recreateCryptoKey_ok _ _ _ _ _ _ _ _ _ _ _ h
  | alreadyExists =>
    dsimp only at h
    by_cases hk : keep = true
    · rw [if_pos hk] at h; exact recreateCryptoKey_ok _ _ _ _ _ _ _ _ _ _ _ h
    · rw [if_neg hk] at h; cases h

/-- The same for CreateFirstSigningKey. -/
theorem C20_bootstrap_enabled_only_signing (sty : Style) (svc : Svc) (keep : Bool) (id key : String)
    (fuelL fuelP : Nat) (st st' : St) (n : String)
    (h : createFirstSigningKey sty svc keep id key fuelL fuelP st = (st', .ok n)) :
    ReportedEnabled svc key st.state n := by
  unfold createFirstSigningKey at h
  split at h
  · next st1 m hc =>
    by_cases hf : svc.fail st1.idx = true
    · rw [if_pos hf] at h; cases h
    · rw [if_neg hf] at h; cases h
      exact recreateCryptoKey_ok _ _ _ _ _ _ _ _ _ _ _ hc
  · next hne => exact (hne _ _ h).elim

/-- Non-vacuity (bootstrap): pages [DISABLED | token | PENDING, ENABLED]: the ENABLED version on the
    second page is selected; without it the PENDING one is awaited; with neither a version is created
    (and, being PENDING, polled). -/
example :
    let p : Pager String := fun tok => if tok = "" then ⟨["v1"], "t1", 3⟩ else ⟨["v2", "v3"], "", 3⟩
    let svc : Svc := ⟨fun _ => ⟨[], "", 0⟩, fun _ => p, fun _ => false, false, false, ⟨"c", stPending⟩,
      fun _ nm => some ⟨nm, stEnabled⟩⟩
    let s1 : String → Nat := fun n => if n = "v1" then stDisabled else if n = "v2" then stPending else stEnabled
    let s2 : String → Nat := fun n => if n = "v1" then stDisabled else if n = "v2" then stPending else stDisabled
    (waitForKeyGen .fixed svc "K" 5 0 ⟨s1, []⟩).2 = .ok "v3" ∧ (waitForKeyGen .fixed svc "K" 5 0 ⟨s1, []⟩).1.log.length = 2 ∧
    let s3 : String → Nat := fun _ => stDisabled
    (waitForKeyGen .fixed svc "K" 5 0 ⟨s2, []⟩).2 = .ok "v2" ∧
    ((waitForKeyGen .fixed svc "K" 5 0 ⟨s2, []⟩).1.log.head?.map (·.call)) = some (.get "v2") ∧
    (waitForKeyGen .fixed svc "K" 5 0 ⟨s3, []⟩).2 = .ok "c" ∧
    ((waitForKeyGen .fixed svc "K" 5 0 ⟨s3, []⟩).1.log.map (·.call)) =
      [.get "c", .createVer "K", .listVers "K" "t1", .listVers "K" ""] := by
  decide +kernel

/-! ## Polling and rotation -/

/-- Version polling terminates: at most `fuel + 1` GetCryptoKeyVersion calls (fuel = polls the deadline
    still allows after the first). -/
theorem C20_poll_terminates (svc : Svc) (name : String) (fuel i : Nat) (st : St) :
    (poll svc name fuel i st).1.log.length ≤ st.log.length + fuel + 1 := by
  induction fuel using Nat.strongRecOn generalizing i st with
  | ind fuel ih =>
    rw [poll_step]
    obtain ⟨b, step, hp, -⟩ := pollOnce_cases svc name i st
    rw [hp]
    cases step with
    | done r => exact Nat.succ_le_succ (Nat.le_add_right ..)
    | again =>
      cases fuel with
      | zero => exact Nat.le_refl _
      | succ f => exact Nat.le_trans (ih f (Nat.lt_succ_self _) _ _) (Nat.le_of_eq (by rw [push_log, List.length_cons]; omega))

/-- Rotation returns only an ENABLED version: the returned name comes from a poll answer in state
    ENABLED for the created version, all earlier answers having been PENDING_GENERATION — whatever state
    CreateCryptoKeyVersion itself reported. -/
theorem C20_rotate_enabled_only (svc : Svc) (key : String) (fuelP : Nat) (st st' : St) (n : String)
    (h : createNewSigningKeyVersion svc key fuelP st = (st', .ok n)) :
    ∃ j w, j ≤ fuelP ∧ svc.gets j svc.createVer.name = some w ∧ w.state = stEnabled ∧ w.name = n ∧
      ∀ j', j' < j → ∃ w', svc.gets j' svc.createVer.name = some w' ∧ w'.state = stPending := by
  unfold createNewSigningKeyVersion createVersion at h
  by_cases hf : svc.fail st.idx = true
  · rw [if_pos hf] at h; cases h
  · rw [if_neg hf] at h
    obtain ⟨j, w, _, h2, hg, hen, hn, hall⟩ := poll_ok svc svc.createVer.name fuelP 0 _ st' n h
    exact ⟨j, w, Nat.zero_add fuelP ▸ h2, hg, hen, hn, fun j' hj => hall j' (Nat.zero_le _) hj⟩

/-- Non-vacuity (rotation): created PENDING, polled PENDING then ENABLED → returned; polled PENDING only
    → not returned. -/
example :
    let svc : Svc := ⟨fun _ => ⟨[], "", 0⟩, fun _ _ => ⟨[], "", 0⟩, fun _ => false, false, false, ⟨"K/c", stPending⟩,
      fun i nm => if i = 0 then some ⟨nm, stPending⟩ else some ⟨nm, stEnabled⟩⟩
    (createNewSigningKeyVersion svc "K" 1 ⟨fun _ => 0, []⟩).2 = .ok "K/c" ∧
    (createNewSigningKeyVersion svc "K" 0 ⟨fun _ => 0, []⟩).2 = .err "timeout" := by
  decide +kernel

/-! ## The loop before the fix -/

/-- Old loop, full last page (all pages full, e.g. exactly `keyPageSize` versions in one page): for every
    fuel the per-key loop runs out of fuel — after the last page it restarts from the first, forever. -/
theorem C20_old_loop_diverges (svc : Svc) (key : String) (ps : Nat) (pages : List (Page String))
    (hfail : ∀ i, svc.fail i = false) (hw : Walk (svc.vers key) "" pages)
    (hfull : ∀ pg ∈ pages, ps ≤ pg.items.length) :
    ∀ (n : Nat) (a : Acc), wipeoutKeyLoop (.old ps) svc key n "" a = none :=
  fun n a => oldKeyLoop_none svc key ps pages hfail hw hfull n "" a ⟨[], pages, rfl, hw⟩

/-- A legal pager with a full last page (exactly `keyPageSize` = 100 versions in one page, as
    testing/testkms would return them): legal, the old loop diverges on it, the fixed loop ends after one
    list call. -/
example :
    let svc : Svc := ⟨fun _ => ⟨[], "", 0⟩, fun _ _ => ⟨List.replicate 100 "v", "", 100⟩, fun _ => false, false, false,
      ⟨"", 0⟩, fun _ _ => none⟩
    LegalPager (svc.vers "k") (List.replicate 100 "v") ∧
    (∀ n a, wipeoutKeyLoop (.old Gen.Kms.keyPageSize) svc "k" n "" a = none) ∧
    (∀ a, (wipeoutKeyLoop .fixed svc "k" 1 "" a).isSome = true) := by
  intro svc
  have hw : Walk (svc.vers "k") "" [⟨List.replicate 100 "v", "", 100⟩] := walk_single.mpr ⟨rfl, rfl⟩
  refine ⟨⟨_, hw, List.append_nil _⟩, ?_, fun a => ?_⟩
  · exact C20_old_loop_diverges svc "k" Gen.Kms.keyPageSize _ (fun _ => rfl) hw
      (List.forall_mem_singleton.mpr (Nat.le_of_eq List.length_replicate.symm))
  · obtain ⟨r, hr, _⟩ := C20_lists_terminate_key svc "k" _ a hw
    rw [hr 1 (Nat.le_refl _)]; rfl

/-- Old loop, short page that carries a token: a legal pager on which the old loop reports success and
    leaves a listed version ENABLED (it never asks for the second page). -/
theorem C20_old_loop_misses :
    ∃ (svc : Svc) (st : St) (all : List String) (r : Acc),
      LegalPager (svc.vers "k") all ∧ (∀ i, svc.fail i = false) ∧
      wipeoutKeyLoop (.old Gen.Kms.keyPageSize) svc "k" 10 "" ⟨st, false⟩ = some r ∧ r.failed = false ∧
      ∃ v ∈ all, r.st.state v = stEnabled := by
  let p : Pager String := fun tok => if tok = "" then ⟨["a"], "t1", 2⟩ else ⟨["b"], "", 2⟩
  refine ⟨⟨fun _ => ⟨[], "", 0⟩, fun _ => p, fun _ => false, false, false, ⟨"", 0⟩, fun _ _ => none⟩,
    ⟨fun _ => stEnabled, []⟩, ["a", "b"], _, ⟨[⟨["a"], "t1", 2⟩, ⟨["b"], "", 2⟩], ?_, rfl⟩, fun _ => rfl, rfl, ?_, "b", ?_, ?_⟩
  · exact walk_cons_cons.mpr ⟨by decide, by decide, walk_single.mpr ⟨by decide, rfl⟩⟩
  · decide +kernel
  · decide +kernel
  · decide +kernel

/-- The fixed loop on the same pager (a short page with a token) visits both pages and destroys both. -/
example :
    let p : Pager String := fun tok => if tok = "" then ⟨["a"], "t1", 2⟩ else ⟨["b"], "", 2⟩
    let svc : Svc := ⟨fun _ => ⟨["k"], "", 1⟩, fun _ => p, fun _ => false, false, false, ⟨"", 0⟩, fun _ _ => none⟩
    LegalPager p ["a", "b"] ∧
    (∃ a, wipeout .fixed svc 5 ⟨fun _ => stEnabled, []⟩ = some a ∧ a.failed = false ∧
      a.st.state "a" = stDestroyScheduled ∧ a.st.state "b" = stDestroyScheduled ∧ nList a.st.log = 3) := by
  refine ⟨⟨[⟨["a"], "t1", 2⟩, ⟨["b"], "", 2⟩], walk_cons_cons.mpr ⟨by decide, by decide, walk_single.mpr ⟨by decide, rfl⟩⟩, rfl⟩,
    _, rfl, by decide, by decide, by decide, by decide⟩

end GceTcb.Kms
