import GceTcb.Proofs.Endorse
import GceTcb.Model.EndorseTables
/-
C06 — The signed document describes exactly the supplied image.

Model: `goldenMeasurement P T c` (endorse.GoldenMeasurement → sev.UnsignedSnp, tdx.UnsignedTDX) and
`signDoc` (endorse.SignDoc).  The measurement functions (`P.launchDigest`, `P.mrtd`), SHA-384 and UUID
parsing are parameters: every theorem holds for all of them, all tables `T` (with the stated
obligations on the regenerated ones), all images and all requests.
-/
namespace GceTcb.Endorse
open GceTcb GceTcb.Endorse.Spec

/-! ### obligations on the regenerated tables -/

/-- The default VMSA-count list is the documented list of GCE-supported vCPU counts. -/
theorem C06_table_vmsa :
    Gen.C06Tables.vmsaCounts = [1, 2, 4, 8, 16, 24, 32, 48, 64, 80, 96, 112, 128, 224, 240] := by decide +kernel

/-- … without repetition and without the "none requested" marker 0. -/
theorem C06_table_vmsa_wf : Gen.C06Tables.vmsaCounts.Nodup ∧ ∀ k ∈ Gen.C06Tables.vmsaCounts, 0 < k := by
  decide +kernel

/-- The machine-shape table is the documented C3 table; names are unique. -/
theorem C06_table_shapes :
    Gen.C06Tables.shapes =
      [("c3-standard-4", 16, 1, 176), ("c3-standard-8", 32, 1, 176), ("c3-standard-22", 88, 1, 176),
       ("c3-standard-44", 176, 1, 176), ("c3-standard-88", 352, 2, 176), ("c3-standard-176", 704, 4, 176)] ∧
    (Gen.C06Tables.shapes.map (·.1)).Nodup := by decide +kernel

/-- Default family id and production policy (SMT and migration agent allowed, debug not). -/
theorem C06_table_ids :
    Gen.C06Tables.gceFamilyId = "f73a6949-e8f3-473b-9553-e40e056fa3a2" ∧
    Gen.C06Tables.prodPolicy = 0x70000 ∧ Gen.C06Tables.prodPolicyDebug = false := by decide +kernel

/-! ### the document -/

/-- The digest field is the hash of the supplied image bytes. -/
theorem C06_digest (P : Prims) (T : Tables) (c : Ctx) (g : Golden)
    (h : goldenMeasurement P T c = .ok g) : g.digest = P.sha384 c.image := by
  obtain ⟨_, snp, tdx, _, _, rfl⟩ := goldenMeasurement_ok P T c g h
  rfl

/-- SNP keys are exactly the requested count, or exactly the supported-count table when none is
    requested, and each value is the launch digest of this image for that count and product. -/
theorem C06_snp_keys (P : Prims) (T : Tables) (c : Ctx) (g : Golden) (hT : T.vmsaCounts.Nodup)
    (h : goldenMeasurement P T c = .ok g) :
    (c.snp = none → g.snp = none) ∧
    ∀ r, c.snp = some r → ∃ s, g.snp = some s ∧
      s.measurements.map (·.1) = snpCounts T.vmsaCounts r.launchVmsas ∧
      ∀ p ∈ s.measurements, P.launchDigest c.image p.1 r.product = .ok p.2 := by
  obtain ⟨_, snp, tdx, hs, _, rfl⟩ := goldenMeasurement_ok P T c g h
  constructor
  · intro hn
    rw [snpPart, hn] at hs
    exact (Outcome.ok.inj hs).symm
  · intro r hr
    obtain ⟨fam, iid, lds, _, _, hl, rfl⟩ := snpPart_some P T c r hr snp hs
    have hnd : (vmsaCounts T r).Nodup := by
      unfold vmsaCounts; split
      · exact hT
      · simp
    obtain ⟨k1, k2⟩ := generateLDs_ok P c.image r.product (vmsaCounts T r) [] lds hnd (by simp) hl
    exact ⟨_, rfl, by simpa [vmsaCounts, snpCounts] using k1, fun p hp => ((k2 p hp).resolve_left (by simp)).2⟩

/-- For the current tree's table the keys are the documented list. -/
theorem C06_snp_keys_gen (P : Prims) (c : Ctx) (g : Golden) (r : SnpRequest) (hr : c.snp = some r)
    (h0 : r.launchVmsas = 0) (h : goldenMeasurement P genTables c = .ok g) :
    ∃ s, g.snp = some s ∧
      s.measurements.map (·.1) = [1, 2, 4, 8, 16, 24, 32, 48, 64, 80, 96, 112, 128, 224, 240] := by
  obtain ⟨s, h1, h2, _⟩ := (C06_snp_keys P genTables c g C06_table_vmsa_wf.1 h).2 r hr
  refine ⟨s, h1, ?_⟩
  rw [h2, snpCounts, if_pos h0]
  exact C06_table_vmsa

/-- TDX rows: one (two with early accept) per requested shape, in request order, then the default
    row; each labelled with its shape's RAM size and mode; each value the MRTD of this image for that
    configuration — except that an early-accept row holds the zero placeholder if that (second)
    measurement returned an error, which the code drops. -/
theorem C06_tdx_rows (P : Prims) (T : Tables) (c : Ctx) (g : Golden)
    (h : goldenMeasurement P T c = .ok g) :
    (c.tdx = none → g.tdx = none) ∧
    ∀ t, c.tdx = some t → ∃ d, g.tdx = some d ∧ d.svn = t.svn ∧
      Paired (WrittenRow P T c.image) (tdxConfigs t.machineShapes t.includeEarlyAccept) d.rows := by
  obtain ⟨_, snp, tdx, _, ht, rfl⟩ := goldenMeasurement_ok P T c g h
  constructor
  · intro hn
    rw [tdxPart, hn] at ht
    exact (Outcome.ok.inj ht).symm
  · intro t htt
    obtain ⟨rows, hm, rfl⟩ := tdxPart_some P T c t htt tdx ht
    obtain ⟨tail, rfl, hp⟩ := generateMRTDs_ok P T c.image t.includeEarlyAccept t.machineShapes [] rows hm
    exact ⟨_, rfl, rfl, hp⟩

/-- All or nothing: a document is produced exactly when a technology is requested, both ids parse,
    every requested launch digest is computed, every requested shape is known and measured, and the
    default MRTD is computed.  Any failing constituent means an error and no document at all. -/
theorem C06_all_or_nothing (P : Prims) (T : Tables) (c : Ctx) :
    (goldenMeasurement P T c).isOk = true ↔
      (c.snp.isSome = true ∨ c.tdx.isSome = true) ∧
      (∀ r, c.snp = some r →
        (P.parseUuid (canonFamily T r)).isSome = true ∧
        (P.parseUuid (canonImage c.rndImageId r)).isSome = true ∧
        ∀ k ∈ vmsaCounts T r, (P.launchDigest c.image k r.product).isOk = true) ∧
      (∀ t, c.tdx = some t →
        (∀ s ∈ t.machineShapes, (shapeSize T s).isSome = true ∧ (P.mrtd c.image s .tdhobBug).isOk = true ∧
            (t.includeEarlyAccept = true → (P.mrtd c.image s .earlyAccept).isPanic = false)) ∧
        (P.mrtd c.image "" .default).isOk = true) := by
  rw [← snpPart_isOk, ← tdxPart_isOk, goldenMeasurement_eq]
  cases c.snp <;> cases c.tdx <;>
    simp [Outcome.isOk_bind, ← Outcome.isOk_iff, Outcome.isOk_ok, Outcome.isOk_err]

/-- If the two TDX modes fail together (`hagree`: whenever the first measurement of a shape
    succeeds, so does its early-accept measurement — true of tdx.MRTD, whose two modes differ only in
    an attribute bit; checked on every generated image by the harness), no row is a placeholder:
    every row's value is the measurement of its configuration. -/
theorem C06_no_placeholder (P : Prims) (T : Tables) (c : Ctx) (g : Golden) (t : TdxRequest) (d : TdxDoc)
    (h : goldenMeasurement P T c = .ok g) (ht : c.tdx = some t) (hd : g.tdx = some d)
    (hagree : ∀ s, (P.mrtd c.image s .tdhobBug).isOk = true → (P.mrtd c.image s .earlyAccept).isOk = true) :
    Paired (MeasuredRow P T c.image) (tdxConfigs t.machineShapes t.includeEarlyAccept) d.rows := by
  obtain ⟨d', hd', _, hp⟩ := (C06_tdx_rows P T c g h).2 t ht
  cases hd.symm.trans hd'
  have hok := (C06_all_or_nothing P T c).mp (by rw [h]; rfl)
  exact (written_measured_iff hp).mpr fun _ s hs => hagree s ((hok.2.2 t ht).1 s hs).2.1

/-- Exactly when the dropped error matters: the document is free of placeholder rows if and only
    if no requested shape's early-accept measurement fails. -/
theorem C06_placeholder_iff (P : Prims) (T : Tables) (c : Ctx) (g : Golden) (t : TdxRequest) (d : TdxDoc)
    (h : goldenMeasurement P T c = .ok g) (ht : c.tdx = some t) (hd : g.tdx = some d) :
    Paired (MeasuredRow P T c.image) (tdxConfigs t.machineShapes t.includeEarlyAccept) d.rows ↔
      (t.includeEarlyAccept = true → ∀ s ∈ t.machineShapes, (P.mrtd c.image s .earlyAccept).isOk = true) := by
  obtain ⟨d', hd', _, hp⟩ := (C06_tdx_rows P T c g h).2 t ht
  cases hd.symm.trans hd'
  exact written_measured_iff hp

/-- SVN, ids, policy, SVSM measurement and provenance are copied from the request. -/
theorem C06_fields (P : Prims) (T : Tables) (c : Ctx) (g : Golden)
    (h : goldenMeasurement P T c = .ok g) :
    g.clSpec = c.clSpec ∧ g.commit = c.commit ∧
    (∀ r s, c.snp = some r → g.snp = some s →
      s.svn = r.svn ∧ P.parseUuid (canonFamily T r) = some s.familyId ∧
      P.parseUuid (canonImage c.rndImageId r) = some s.imageId ∧
      s.policy = T.policy ∧ s.svsm = c.svsmMeasurement) ∧
    (∀ t d, c.tdx = some t → g.tdx = some d → d.svn = t.svn) := by
  obtain ⟨_, snp, tdx, hs, ht, rfl⟩ := goldenMeasurement_ok P T c g h
  refine ⟨rfl, rfl, ?_, ?_⟩
  · intro r s hr hg
    obtain ⟨fam, iid, lds, h1, h2, _, rfl⟩ := snpPart_some P T c r hr snp hs
    cases hg
    exact ⟨rfl, h1, h2, rfl, rfl⟩
  · intro t d htt hg
    obtain ⟨rows, _, rfl⟩ := tdxPart_some P T c t htt tdx ht
    cases hg
    rfl

/-- Signing fills in the certificate and bundle of the CA's primary signing key and the timestamp,
    changes nothing else, and signs exactly the document it returns. -/
theorem C06_sign_fields (keys : Option Keys) (ts : Int × Nat) (doc d : Golden) (sig : Bytes)
    (h : signDoc keys ts doc = .ok (d, sig)) :
    ∃ k ca signer key, keys = some k ∧ k.ca = some ca ∧ k.signer = some signer ∧
      ca.primary = .ok key ∧ ca.certificate key = .ok d.cert ∧ ca.bundle key = .ok d.caBundle ∧
      d.timestamp = some ts ∧ signer key d = .ok sig ∧
      d.digest = doc.digest ∧ d.clSpec = doc.clSpec ∧ d.commit = doc.commit ∧
      d.snp = doc.snp ∧ d.tdx = doc.tdx := by
  rcases signDocEff_cases keys ts doc with ⟨k, ca, signer, key, cert, bundle, _, hk, hca, hsg, hp, hc, hb, rfl, heq⟩ | ⟨hno, _⟩
  · rw [signDoc, heq] at h
    obtain ⟨sg, hs, h⟩ := Outcome.bind_eq_ok.mp h
    cases h
    exact ⟨k, ca, signer, key, hk, hca, hsg, hp, hc, hb, rfl, hs, rfl, rfl, rfl, rfl, rfl⟩
  · rw [signDoc] at h
    rw [h] at hno
    cases hno

/-! ### non-vacuity -/

/-- a request with default counts and one good shape: full document, no placeholder -/
example :
    goldenMeasurement exPrims exTables (exCtx 0 ["c3-standard-4"]) =
      .ok ⟨[0xAA, 9], 77, [1, 2],
        some ⟨5, [36], [36], 7, [(1, [1, 1, 9]), (2, [2, 1, 9]), (4, [4, 1, 9])], [3]⟩,
        some ⟨6, [⟨16, false, [13, 1, 9]⟩, ⟨16, true, [13, 2, 9]⟩, ⟨0, false, [0, 3, 9]⟩]⟩, [], [], none⟩ := by
  rw [goldenMeasurement_eq, exSnpPart]
  decide +kernel

/-- the dropped error is expressible: a shape whose early-accept measurement fails yields the
    all-zero placeholder row (so `C06_placeholder_iff` is not vacuous in either direction) … -/
example :
    (match goldenMeasurement exPrims exTables (exCtx 1 ["c3-standard-8"]) with
     | .ok g => g.tdx.map (fun d => d.rows.map (·.mrtd))
     | _ => none) = some [[13, 1, 9], zeros48, [0, 3, 9]] := by
  rw [goldenMeasurement_eq, exSnpPart]
  decide +kernel

/-- … an unknown shape, an explicit count whose launch digest fails and a bad id are errors with no document. -/
example :
    goldenMeasurement exPrims exTables (exCtx 1 ["c3-standard-4", "n2d-standard-2"]) = .err "unknown-shape" ∧
    goldenMeasurement exPrims exTables (exCtx 101 []) = .err "ld" ∧
    goldenMeasurement exPrims exTables { exCtx 1 [] with snp := some ⟨5, "nope", "", 1, 1⟩ } = .err "family_id" := by
  -- the third run is left as it stands: it stops at its four-character family id
  rw [goldenMeasurement_eq, goldenMeasurement_eq, exSnpPart, exSnpPart]
  decide +kernel

end GceTcb.Endorse
