import GceTcb.Proofs.Manifest
import GceTcb.Proofs.ManifestFS
/-
C13 — The endorsement manifest stays a faithful index over every endorse history.
Property theorems only (helper lemmas live in Proofs/Manifest.lean, Proofs/ManifestFS.lean,
Proofs/PathClean.lean).

Two models of `endorse.changeEndorsements` (not dry-run), both for ARBITRARY candidate names (the name
is cleaned and tested the way `defaultGenerateBasename` does it, through the model of Go's path.Clean):
* `endorseRun` — the output directory seen from inside: files keyed by their cleaned name, snapshot-mode
  runs elsewhere (theorems `C13_inv_step` … `C13_other_files_untouched`);
* `endorseRunP` — full paths: arbitrary root, --out_dir, --snapshot_dir, image name; every path through
  the model of path.Join; snapshot runs write their files into the same file map (theorems `…_paths`,
  `C13_canonical_names`, `C13_no_escape`, `C13_snapshot_*`). `C13_inside_view` relates the two.
-/
namespace GceTcb.Manifest
open GceTcb.Paths GceTcb.SecureJoin

/-- One run preserves the invariant: paths unique, digests unique, every entry's path names a file
    whose signed firmware digest equals the entry's digest. -/
theorem C13_inv_step (s : Store) (r : Run) (h : Inv s) : Inv (endorseRun s r).1 := by
  rcases endorseRun_cases s r with ⟨e, _⟩ | ⟨_, _, _, e⟩ <;> rw [e]
  · exact h
  · exact ⟨unique_addEntry _ _ h.1, faithful_addEntry _ _ ⟨basename r.cand, r.digest, r.time⟩ h.1 h.2⟩

/-- Every reachable store (any history of runs from the empty store) satisfies the invariant. -/
theorem C13_inv_reachable (rs : List Run) : Inv (runAll Store.empty rs) := by
  exact foldl_invariant _ Inv rs _ (fun r _ s h => C13_inv_step s r h)
    ⟨⟨by simp [Store.empty], by simp [Store.empty]⟩, by intro x hx; simp [Store.empty] at hx⟩

/-- The firmware digest of the latest successful run maps to the file that run wrote. -/
theorem C13_latest_maps (s : Store) (r : Run) (h : Inv s) (hsn : r.snapshot = false)
    (ok : (endorseRun s r).2 = true) :
    (⟨basename r.cand, r.digest, r.time⟩ : Entry) ∈ (endorseRun s r).1.manifest ∧
    lookup (endorseRun s r).1.files (basename r.cand) = some r.digest ∧
    (∀ x ∈ (endorseRun s r).1.manifest, x.digest = r.digest → x.path = basename r.cand) := by
  rcases endorseRun_cases s r with ⟨_, e⟩ | ⟨_, _, _, e⟩
  · exact nomatch (e hsn).symm.trans ok
  · rw [e]
    have hm := mem_addEntry s.manifest ⟨basename r.cand, r.digest, r.time⟩
    refine ⟨hm, by simp [lookup_writeFile], ?_⟩
    intro x hx hd
    have hu := unique_addEntry s.manifest ⟨basename r.cand, r.digest, r.time⟩ h.1
    have := inj_of_nodup_map (·.digest) _ hu.2 hx hm (by simpa using hd)
    rw [this]

/-- Without overwrite permission an existing endorsement file is never replaced (nothing changes). -/
theorem C13_no_overwrite_without_permission (s : Store) (r : Run)
    (hex : (lookup s.files (basename r.cand)).isSome = true) (hno : r.overwrite = false) :
    (endorseRun s r).1 = s ∧ (r.snapshot = false → (endorseRun s r).2 = false) := by
  rcases endorseRun_cases s r with e | ⟨_, _, hc, _⟩
  · exact e
  · rcases hc with hc | hc
    · exact nomatch hex.symm.trans hc
    · exact nomatch hno.symm.trans hc

/-- Files other than the one the run names are never touched. -/
theorem C13_other_files_untouched (s : Store) (r : Run) (q : String) (hq : q ≠ basename r.cand) :
    lookup (endorseRun s r).1.files q = lookup s.files q := by
  rcases endorseRun_cases s r with ⟨e, _⟩ | ⟨_, _, _, e⟩ <;> rw [e]
  exact (lookup_writeFile ..).trans (if_neg hq)

/-! ## arbitrary names: the run over full paths -/

/-- A snapshot run whose files stay clear of the output directory's own names: none of the paths it
    writes is the path of a clean local name below --out_dir (the manifest and every file the manifest
    can list are such paths). True whenever --snapshot_dir and --out_dir are different directories that
    do not contain one another and the image name is a local name; `C13_snapshot_overlap_witness` shows
    that it cannot be dropped. -/
def SnapOutside (d : Dirs) (r : RunP) : Prop :=
  ∀ t ∈ snapTargets d r, ∀ b, LocalClean b → t.1 ≠ fullOut d b

/-- One run — any candidate name, root, --out_dir; snapshot runs clear of the output directory —
    preserves the invariant: the manifest parses, lists no path text and no digest twice, every listed
    path is canonical and local, no two entries name the same file, every entry's file is an endorsement
    carrying the entry's digest. -/
theorem C13_inv_step_paths (d : Dirs) (fs : FS) (r : RunP) (h : InvP d fs)
    (hs : r.snapDir ≠ "" → SnapOutside d r) : InvP d (endorseRunP d fs r).1 := by
  by_cases hsn : r.snapDir = ""
  · rcases endorseRunP_manifest_cases d fs r hsn with e | ⟨m, hm, hok, _, e⟩
    · rw [e]; exact h
    · obtain ⟨m', hm', hu, hl, hnd, hf⟩ := h
      cases hm'.symm.trans hm
      rw [e]
      have hb : LocalClean (basename r.cand) := nameOk_local r.cand hok
      have hu' := unique_addEntry m ⟨basename r.cand, r.digest, r.time⟩ hu
      have hl' : ∀ x ∈ addEntry m ⟨basename r.cand, r.digest, r.time⟩, LocalClean x.path :=
        fun x hx => (addEntry_subset m _ x hx).elim (hl x) (· ▸ hb)
      -- every entry finds its digest: the merge seen through the full path of each name
      exact ⟨_, readM_put_manifest d _ _, hu', hl', files_nodup d _ hu' hl',
        faithful_addEntry_gen Content.endorsement (fun q => LocalClean q ∧ q ≠ manifestFile)
          (fun q => look fs (fullOut d q)) (fun q => look _ (fullOut d q)) m ⟨basename r.cand, r.digest, r.time⟩ hu
          (fun x hx => ⟨hl x hx, fun h => InvP.entry_ne_manifest hm hf x hx (congrArg _ h)⟩)
          ⟨hb, basename_ne_manifestFile r.cand⟩ (fun q hq => look_written d fs hb hq.1 hq.2 _ _) hf⟩
  · obtain ⟨m, hm, hu, hl, hnd, hf⟩ := h
    rw [endorseRunP_snap d fs r hsn]
    have hout := hs hsn
    have hM : look (putAll fs (snapTargets d r)) (fullOut d manifestFile) = look fs (fullOut d manifestFile) :=
      look_putAll _ fs _ (fun t ht => hout t ht manifestFile manifestFile_local)
    refine ⟨m, by simp only [readM, hM]; exact hm, hu, hl, hnd, ?_⟩
    intro x hx
    rw [look_putAll _ fs _ (fun t ht => hout t ht x.path (hl x hx))]
    exact hf x hx

/-- Every history — any candidate names, overwrite settings, root and --out_dir; snapshot runs clear of
    the output directory — ends in a state satisfying the invariant. -/
theorem C13_inv_reachable_paths (d : Dirs) (rs : List RunP)
    (hs : ∀ r ∈ rs, r.snapDir ≠ "" → SnapOutside d r) : InvP d (runAllP d [] rs) :=
  foldl_invariant _ (InvP d) rs [] (fun r hr fs h => C13_inv_step_paths d fs r h (hs r hr)) (invP_empty d)

/-- The firmware digest of the latest successful manifest-mode run maps to the file that run wrote:
    the new entry is in the manifest under the cleaned name, the file at that name's full path holds the
    endorsement of this digest, no other entry has the digest, and apart from the manifest that file is
    the only one whose contents the run changed. -/
theorem C13_latest_maps_paths (d : Dirs) (fs : FS) (r : RunP) (h : InvP d fs) (hsn : r.snapDir = "")
    (ok : (endorseRunP d fs r).2 = true) :
    ∃ m', readM (endorseRunP d fs r).1 (fullOut d manifestFile) = some m' ∧
      (⟨basename r.cand, r.digest, r.time⟩ : Entry) ∈ m' ∧
      look (endorseRunP d fs r).1 (fullOut d (basename r.cand)) = some (.endorsement r.digest) ∧
      (∀ x ∈ m', x.digest = r.digest → x.path = basename r.cand) ∧
      (∀ q, q ≠ fullOut d (basename r.cand) → q ≠ fullOut d manifestFile →
        look (endorseRunP d fs r).1 q = look fs q) := by
  obtain ⟨m, hm, hu, hl, hnd, hf⟩ := h
  rcases endorseRunP_manifest_cases d fs r hsn with e | ⟨m', hm', hok, _, e⟩
  · rw [e] at ok; cases ok
  · cases hm.symm.trans hm'
    have hb := nameOk_local r.cand hok
    have hmem := mem_addEntry m ⟨basename r.cand, r.digest, r.time⟩
    have hu' := unique_addEntry m ⟨basename r.cand, r.digest, r.time⟩ hu
    refine ⟨_, by rw [e]; exact readM_put_manifest d _ _, hmem, ?_, ?_, endorseRunP_frame d fs r hsn⟩
    · rw [e, look_written d fs hb hb (basename_ne_manifestFile r.cand), if_pos rfl]
    · intro x hx hd
      rw [inj_of_nodup_map (·.digest) _ hu'.2 hx hmem hd]

/-- Without overwrite permission an existing file at the candidate's full path is never replaced:
    the run fails and nothing changes. -/
theorem C13_no_overwrite_paths (d : Dirs) (fs : FS) (r : RunP) (hsn : r.snapDir = "")
    (hex : (look fs (fullOut d (basename r.cand))).isSome = true) (hno : r.overwrite = false) :
    endorseRunP d fs r = (fs, false) := by
  rcases endorseRunP_manifest_cases d fs r hsn with e | ⟨_, _, _, hc, _⟩
  · exact e
  · rcases hc with hc | hc
    · exact nomatch hex.symm.trans hc
    · exact nomatch hno.symm.trans hc

/-- Canonical names. Every path the manifest records is in canonical form (path.Clean leaves it
    alone; it passes the name test; path.Clean is idempotent on every text), and two accepted candidate
    names denote the same file exactly when their cleaned basenames are equal — whatever root and
    --out_dir are, and for both kinds of ReleasePath. -/
theorem C13_canonical_names (d : Dirs) :
    (∀ s : String, pclean (pclean s) = pclean s) ∧
    (∀ cand : String, pclean (basename cand) = basename cand) ∧
    (∀ fs, InvP d fs → ∃ m, readM fs (fullOut d manifestFile) = some m ∧
        ∀ x ∈ m, pclean x.path = x.path ∧ localName x.path = true) ∧
    (∀ c₁ c₂ : String, nameOk c₁ = true → nameOk c₂ = true →
        (fullOut d (basename c₁) = fullOut d (basename c₂) ↔ basename c₁ = basename c₂)) := by
  refine ⟨pclean_idem, fun cand => pclean_idem _, ?_, ?_⟩
  · intro fs ⟨m, hm, _, hl, _, _⟩
    exact ⟨m, hm, fun x hx => ⟨(hl x hx).pclean_eq, (hl x hx).localName⟩⟩
  · intro c₁ c₂ h₁ h₂
    exact ⟨fullOut_inj d _ _ (nameOk_local c₁ h₁) (nameOk_local c₂ h₂), fun e => by rw [e]⟩

/-- Laws of path.Clean / path.Join used above, on all texts: Clean is idempotent and never empty; a clean
    local path is a fixed point; Join is associative up to Clean for a non-empty relative inner element —
    so for a relative --out_dir the path of a name is `path.Join(root, out_dir, name)` when ReleasePath joins. -/
theorem C13_path_laws :
    (∀ s, pclean (pclean s) = pclean s) ∧ (∀ s, pclean s ≠ "") ∧
    (∀ b, LocalClean b → pclean b = b ∧ localName b = true) ∧
    (∀ a b c, b ≠ "" → pisAbs b = false → pjoin [a, pjoin [b, c]] = pjoin [a, b, c]) ∧
    (∀ root outDir b, outDir ≠ "" → pisAbs outDir = false →
      fullOut ⟨.join, root, outDir⟩ b = pjoin [root, outDir, b]) :=
  ⟨pclean_idem, pclean_ne_empty, fun _ h => ⟨h.pclean_eq, h.localName⟩, pjoin_assoc,
    fun root outDir b h1 h2 => pjoin_assoc root outDir b h1 h2⟩

/-- Which names are refused: exactly those whose cleaned basename is rooted or starts with "../". -/
theorem C13_refused_iff (cand : String) :
    nameOk cand = false ↔ (pisAbs (basename cand) = true ∨ climbs (basename cand) = true) := by
  unfold nameOk localName
  cases pisAbs (basename cand) <;> cases climbs (basename cand) <;> simp

/-- No escape from the output directory. The manifest's full path is a fixed text (`pre`: empty for a
    ReleasePath that joins, root + "/" for one that concatenates) followed by a cleaned directory (rooted
    or not, components `T`) extended by "manifest.textproto". A manifest-mode run with a refused name
    (rooted, or climbing: "/rc0", "../x", "../out/rc0", "a/../../x") fails and writes nothing. A run with
    an accepted name can change the contents of two paths only — the manifest and the file of the cleaned
    name — and that file's path is `pre` followed by the SAME cleaned directory extended by the one or more
    normal components of the name: it lies in the manifest's directory or below it. -/
theorem C13_no_escape (d : Dirs) :
    ∃ (pre : PathStr) (rooted : Bool) (T : List Name),
      (fullOut d manifestFile).toList = pre ++ renderClean rooted (T ++ [manifestFile.toList]) ∧
      ∀ (fs : FS) (r : RunP), r.snapDir = "" →
        (nameOk r.cand = false → endorseRunP d fs r = (fs, false)) ∧
        (nameOk r.cand = true → ∃ ns, AllNormal ns ∧ ns ≠ [] ∧ (basename r.cand).toList = renderRel ns ∧
          (fullOut d (basename r.cand)).toList = pre ++ renderClean rooted (T ++ ns) ∧
          ∀ q, q ≠ fullOut d (basename r.cand) → q ≠ fullOut d manifestFile →
            look (endorseRunP d fs r).1 q = look fs q) := by
  obtain ⟨pre, rt, T, _, hE⟩ := outPath_ext d.mode d.root d.outDir
  refine ⟨pre, rt, T, ?_, ?_⟩
  · have := hE manifestFile [manifestFile.toList] (by
      intro c hc; simp only [List.mem_singleton] at hc; rw [hc]
      exact ⟨by decide, by decide, by decide, by decide⟩) (by simp) (by decide)
    exact this
  · intro fs r hsn
    constructor
    · intro hno
      rcases endorseRunP_manifest_cases d fs r hsn with e | ⟨_, _, hok, _⟩
      · exact e
      · exact nomatch hno.symm.trans hok
    · intro hok
      obtain ⟨ns, hn, h0, hb⟩ := nameOk_local r.cand hok
      exact ⟨ns, hn, h0, hb, hE _ ns hn h0 hb, endorseRunP_frame d fs r hsn⟩

/-- Accepted and refused spellings, evaluated: redundant elements, a trailing slash, "." and ".." as
    whole names (they become "..binarypb" and "...binarypb"), unicode are accepted and cleaned; rooted and
    climbing names are refused. -/
theorem C13_name_examples :
    basename "x/../rc0" = "rc0.binarypb" ∧ basename "./a//b/" = "a/b/.binarypb" ∧ basename "" = "endorsement.binarypb" ∧
    basename "." = "..binarypb" ∧ basename ".." = "...binarypb" ∧ basename "é/日本" = "é/日本.binarypb" ∧
    (["x/../rc0", "./a//b/", "", ".", "..", "é/日本", "sub/../sub/rc2"].all nameOk) = true ∧
    (["/rc0", "../x", "../out/rc0", "a/../../x", "//", "/", "../"].any nameOk) = false := by
  decide +kernel

/-- The name test is what makes it hold. On the code before `fix: refuse candidate names …` (same run
    without the test) the history "rc0" with firmware aa, then "/rc0" with firmware bb and --overwrite
    (out dir "out") writes the SAME file twice and leaves two entries for it, the older claiming a digest
    the file no longer carries; the same with "../out/rc0" (`exNoTest1..3` in Proofs/ManifestFS.lean:
    root "/R", ReleasePath = path.Join). -/
theorem C13_name_test_needed :
    readM exNoTest2 (fullOut exDirs manifestFile) = some [⟨"rc0.binarypb", "aa", "1"⟩, ⟨"/rc0.binarypb", "bb", "2"⟩] ∧
    look exNoTest2 (fullOut exDirs "rc0.binarypb") = some (.endorsement "bb") ∧
    fullOut exDirs "/rc0.binarypb" = fullOut exDirs "rc0.binarypb" ∧
    readM exNoTest3 (fullOut exDirs manifestFile) = some [⟨"rc0.binarypb", "aa", "1"⟩, ⟨"../out/rc0.binarypb", "bb", "2"⟩] ∧
    look exNoTest3 (fullOut exDirs "rc0.binarypb") = some (.endorsement "bb") ∧
    ¬ InvP exDirs exNoTest2 := by
  have b1 : basename "rc0" = "rc0.binarypb" := basename_chars (by decide) (by decide +kernel)
  have b2 : basename "/rc0" = "/rc0.binarypb" := basename_chars (by decide) (by decide +kernel)
  have b3 : basename "../out/rc0" = "../out/rc0.binarypb" := basename_chars (by decide) (by decide +kernel)
  have p1 : fullOut exDirs "rc0.binarypb" = "/R/out/rc0.binarypb" := fullOut_join_chars (by decide +kernel)
  have p2 : fullOut exDirs "/rc0.binarypb" = "/R/out/rc0.binarypb" := fullOut_join_chars (by decide +kernel)
  have p3 : fullOut exDirs "../out/rc0.binarypb" = "/R/out/rc0.binarypb" := fullOut_join_chars (by decide +kernel)
  have ok : nameOk "rc0" = true := (nameOk_chars (by decide)).trans (by decide +kernel)
  have hM : fullOut exDirs (basename "rc0") ≠ fullOut exDirs manifestFile :=
    fullOut_ne_manifest exDirs (nameOk_local "rc0" ok) (basename_ne_manifestFile "rc0")
  -- the example states are unfolded by rewriting: as a definitional unfolding the kernel would run them
  have a2 := noTest_alias exDirs "rc0" "/rc0" "aa" "bb" "1" "2" (by rw [b1, b2]; decide) (by decide)
    (by rw [b1, b2, p1, p2]) hM exNoTest2 (by rw [exNoTest2, exNoTest1, exRun, exRun])
  have a3 := noTest_alias exDirs "rc0" "../out/rc0" "aa" "bb" "1" "2" (by rw [b1, b3]; decide) (by decide)
    (by rw [b1, b3, p1, p3]) hM exNoTest3 (by rw [exNoTest3, exNoTest1, exRun, exRun])
  rw [b1, b2] at a2
  rw [b1, b3] at a3
  exact ⟨a2.1, a2.2.1, p2.trans p1.symm, a3.1, a3.2.1, a2.2.2⟩

/-! ## snapshot runs -/

/-- What a snapshot run writes: the firmware path `fw = ReleasePath(Join(snapshot_dir, image name))` and
    the SVSM path with the fixed suffixes — nothing else. It succeeds without reading the manifest and writes
    no manifest; one of its files can still land on the manifest's path (`C13_snapshot_overlap_witness`). -/
theorem C13_snapshot_paths (d : Dirs) (fs : FS) (r : RunP) (hsn : r.snapDir ≠ "") :
    endorseRunP d fs r = (putAll fs (snapTargets d r), true) ∧
    ∀ t ∈ snapTargets d r, ∃ base ∈ [release d.mode d.root (pjoin [r.snapDir, r.imageName]),
        release d.mode d.root (pjoin [r.snapDir, "svsm.igvm"])],
      ∃ suffix ∈ ["", ".signed", ".evts.pb", ".scrtm.pb"], t.1 = base ++ suffix := by
  refine ⟨endorseRunP_snap d fs r hsn, fun t ht => snap_names _ _ r.svsm r.scrtm _ ?_⟩
  rcases List.mem_append.mp ht with h | h <;> obtain ⟨p, hp, rfl⟩ := List.mem_map.mp h
  · exact List.mem_append_left _ hp
  · exact List.mem_append_right _ hp

/-- A snapshot run with a clean local image name stays below the snapshot directory: the firmware
    path is the fixed text and cleaned directory of --snapshot_dir extended by the components of the
    image name (the other files are that path and the SVSM path with a suffix: same directories). -/
theorem C13_snapshot_confined (d : Dirs) (r : RunP) (h : LocalClean r.imageName) :
    ∃ (pre : PathStr) (rooted : Bool) (T : List Name) (ns : List Name), AllNormal ns ∧ ns ≠ [] ∧
      (release d.mode d.root (pjoin [r.snapDir, r.imageName])).toList = pre ++ renderClean rooted (T ++ ns) ∧
      (release d.mode d.root (pjoin [r.snapDir, "svsm.igvm"])).toList = pre ++ renderClean rooted (T ++ ["svsm.igvm".toList]) := by
  obtain ⟨pre, rt, T, _, hE⟩ := outPath_ext d.mode d.root r.snapDir
  obtain ⟨ns, hn, h0, hb⟩ := h
  refine ⟨pre, rt, T, ns, hn, h0, hE _ ns hn h0 hb, ?_⟩
  exact hE "svsm.igvm" ["svsm.igvm".toList] (by
    intro c hc; simp only [List.mem_singleton] at hc; rw [hc]
    exact ⟨by decide +kernel, by decide +kernel, by decide +kernel, by decide +kernel⟩) (by simp) (by decide +kernel)

/-- …and with an image name that is not local it does not (observation O-snap: `ImageName` is set by the
    command line to path.Base of the firmware path, so only a caller of the library can do this): the
    empty name writes "snap", "snap.signed", … BESIDE the snapshot directory "snap", "../q/fw.fd"
    writes into a sibling directory, "/" with --snapshot_dir "/" writes "<root>.signed" beside the root. -/
theorem C13_snapshot_escape_witness :
    let d : Dirs := ⟨.join, "/R", "out"⟩
    (snapTargets d ⟨"x", "aa", "1", false, "snap", "", false, false⟩).map (·.1) = ["/R/snap.signed", "/R/snap", "/R/snap.evts.pb"] ∧
    (snapTargets d ⟨"x", "aa", "1", false, "snap", "../q/fw.fd", false, false⟩).map (·.1) =
      ["/R/q/fw.fd.signed", "/R/q/fw.fd", "/R/q/fw.fd.evts.pb"] ∧
    (snapTargets d ⟨"x", "aa", "1", false, "/", "/", false, false⟩).map (·.1) = ["/R.signed", "/R", "/R.evts.pb"] := by
  decide +kernel

/-- `SnapOutside` cannot be dropped from `C13_inv_step_paths`: with --snapshot_dir equal to --out_dir
    and a firmware image named like an endorsement file, the snapshot run replaces the listed file by
    the firmware image; named like the manifest, it replaces the manifest, which then does not parse
    (observation O-overlap; the two directories are configured to be the same and the image carries a
    reserved name). -/
theorem C13_snapshot_overlap_witness :
    InvP exDirs exFs1 ∧ ¬ InvP exDirs exOverlapFile ∧ ¬ InvP exDirs exOverlapManifest ∧
    readM exOverlapManifest (fullOut exDirs manifestFile) = none := by
  have blob : ∀ img, look (endorseRunP exDirs exFs1 (exSnap "out" img)).1 (fullOut exDirs img) = some .blob :=
    fun img => snap_image_blob exDirs exFs1 _ _ _ img _ (by decide)
  have h3 : readM exOverlapManifest (fullOut exDirs manifestFile) = none := by
    rw [readM, exOverlapManifest, manifestFile, blob]
  refine ⟨C13_inv_step_paths _ _ _ (invP_empty _) (fun h => absurd rfl h), ?_, ?_, h3⟩
  · intro ⟨m, hm, _, _, _, hf⟩
    have h1 : readM exOverlapFile (fullOut exDirs manifestFile) = some [⟨"rc0.binarypb", "aa", "1"⟩] := by decide +kernel
    cases h1.symm.trans hm
    have := hf _ List.mem_cons_self
    rw [exOverlapFile] at this
    exact nomatch (blob _).symm.trans this
  · intro ⟨m, hm, _⟩
    cases h3.symm.trans hm

/-! ## the inside view is the run over full paths -/

/-- The output directory seen from inside: the store `s` of `endorseRun` shows the manifest and, under
    every clean local name, what the file map holds at that name's full path. -/
def View (d : Dirs) (fs : FS) (s : Store) : Prop :=
  readM fs (fullOut d manifestFile) = some s.manifest ∧
  ∀ b, LocalClean b → b ≠ manifestFile → look fs (fullOut d b) = (lookup s.files b).map Content.endorsement

def RunP.inside (r : RunP) : Run := ⟨r.cand, r.digest, r.time, r.overwrite, r.snapDir != ""⟩

/-- `endorseRun` (the model the theorems `C13_inv_step` … `C13_other_files_untouched` are about) is the
    inside view of `endorseRunP`, for every candidate name, root and --out_dir: related states stay
    related and the two runs succeed or fail together. -/
theorem C13_inside_view (d : Dirs) (fs : FS) (s : Store) (r : RunP) (hv : View d fs s)
    (hs : r.snapDir ≠ "" → SnapOutside d r) :
    View d (endorseRunP d fs r).1 (endorseRun s r.inside).1 ∧
    (endorseRunP d fs r).2 = (endorseRun s r.inside).2 := by
  obtain ⟨hm, hfl⟩ := hv
  unfold endorseRunP endorseRun RunP.inside
  by_cases hsn : r.snapDir = ""
  · simp only [hsn, bne_self_eq_false, Bool.false_eq_true, if_false, hm]
    by_cases hok : nameOk r.cand = true
    case neg => simp [hok]; exact ⟨hm, hfl⟩
    have hb : LocalClean (basename r.cand) := nameOk_local r.cand hok
    have hbm := basename_ne_manifestFile r.cand
    have hex : (look fs (fullOut d (basename r.cand))).isSome = (lookup s.files (basename r.cand)).isSome := by
      rw [hfl _ hb hbm]; simp
    by_cases hc : ((lookup s.files (basename r.cand)).isSome && !r.overwrite) = true
    · simp only [hok, hex, hc, if_true, Bool.not_true, Bool.false_eq_true, if_false]; exact ⟨⟨hm, hfl⟩, trivial⟩
    · simp only [hok, hex, hc, Bool.not_true, Bool.false_eq_true, if_false]
      refine ⟨⟨by simp [readM, look_put], ?_⟩, trivial⟩
      intro b hbl hbn
      rw [look_written d fs hb hbl hbn, lookup_writeFile, apply_ite (Option.map _), ← hfl b hbl hbn]
      rfl
  · have hsn' : (r.snapDir != "") = true := by simpa using hsn
    simp only [hsn', if_true]
    have hout := hs hsn
    refine ⟨⟨?_, ?_⟩, trivial⟩
    · simp only [readM, look_putAll _ fs _ (fun t ht => hout t ht manifestFile manifestFile_local)]
      exact hm
    · intro b hbl hbn
      rw [look_putAll _ fs _ (fun t ht => hout t ht b hbl)]
      exact hfl b hbl hbn

/-- Non-vacuity (arbitrary names): a history over the full-path model with an uncanonical name, a
    trailing-slash out dir, a refused climbing name and a refused rooted alias; the state reached has one
    entry per file and satisfies the invariant. -/
example :
    let d : Dirs := ⟨.join, "/R", "./out//"⟩
    let rs : List RunP := [⟨"rc0", "aa", "1", false, "", "", false, false⟩, ⟨"x/../rc0", "bb", "2", true, "", "", false, false⟩,
      ⟨"../out/rc0", "cc", "3", true, "", "", false, false⟩, ⟨"/rc0", "cc", "4", true, "", "", false, false⟩,
      ⟨"sub/./rc1", "aa", "5", false, "", "", false, false⟩]
    readM (runAllP d [] rs) (fullOut d manifestFile) = some [⟨"rc0.binarypb", "bb", "2"⟩, ⟨"sub/rc1.binarypb", "aa", "5"⟩] ∧
    look (runAllP d [] rs) "/R/out/rc0.binarypb" = some (.endorsement "bb") ∧
    look (runAllP d [] rs) "/R/out/sub/rc1.binarypb" = some (.endorsement "aa") ∧
    InvP d (runAllP d [] rs) := by
  intro d rs
  have b1 : basename "rc0" = "rc0.binarypb" := basename_chars (by decide) (by decide +kernel)
  have b2 : basename "x/../rc0" = "rc0.binarypb" := basename_chars (by decide) (by decide +kernel)
  have b5 : basename "sub/./rc1" = "sub/rc1.binarypb" := basename_chars (by decide) (by decide +kernel)
  have n1 : nameOk "rc0" = true := (nameOk_chars (by decide)).trans (by decide +kernel)
  have n2 : nameOk "x/../rc0" = true := (nameOk_chars (by decide)).trans (by decide +kernel)
  have n3 : nameOk "../out/rc0" = false := (nameOk_chars (by decide)).trans (by decide +kernel)
  have n4 : nameOk "/rc0" = false := (nameOk_chars (by decide)).trans (by decide +kernel)
  have n5 : nameOk "sub/./rc1" = true := (nameOk_chars (by decide)).trans (by decide +kernel)
  have p0 : fullOut d "rc0.binarypb" = "/R/out/rc0.binarypb" := fullOut_join_chars (by decide +kernel)
  have p1 : fullOut d "sub/rc1.binarypb" = "/R/out/sub/rc1.binarypb" := fullOut_join_chars (by decide +kernel)
  have pM : fullOut d manifestFile = "/R/out/manifest.textproto" := fullOut_join_chars (by decide +kernel)
  rw [← and_assoc, ← and_assoc]
  refine ⟨?_, C13_inv_reachable_paths _ _ (by
    intro r hr h; simp [rs] at hr; rcases hr with rfl | rfl | rfl | rfl | rfl <;> exact absurd rfl h)⟩
  -- the history, run by run, by rewriting (a definitional unfolding would make the kernel run it on strings)
  simp only [rs]
  rw [runAllP_cons, runAllP_cons, runAllP_cons, runAllP_cons, runAllP_cons, runAllP_nil,
    endorseRunP_write d [] [] _ _ _ _ _ _ _ rfl n1 (.inl rfl),
    endorseRunP_write d _ _ _ _ _ _ _ _ _ (readM_put_manifest d _ _) n2 (.inr rfl),
    endorseRunP_refused d _ _ _ _ _ _ _ _ n3, endorseRunP_refused d _ _ _ _ _ _ _ _ n4,
    endorseRunP_write d _ _ _ _ _ _ _ _ _ (readM_put_manifest d _ _) n5 (.inl (by
      rw [b1, b2, b5, p0, p1, pM]; simp only [look_put, String.reduceEq, if_false]; rfl)),
    readM_put_manifest, b1, b2, b5, p0, p1, pM]
  simp only [look_put, String.reduceEq, if_false, if_true, and_true]
  decide +kernel

/-- Non-vacuity: a three-run history whose last run takes the path branch with stale-digest removal: it
    re-points "rc0" at the firmware "rc1" was listed for, so the entry of "rc1" goes and one entry is left. -/
example :
    let rs : List Run := [⟨"rc0", "aa", "1", false, false⟩, ⟨"rc1", "bb", "2", false, false⟩, ⟨"rc0", "bb", "3", true, false⟩]
    (runAll Store.empty rs).manifest = [⟨"rc0.binarypb", "bb", "3"⟩] ∧
    lookup (runAll Store.empty rs).files "rc0.binarypb" = some "bb" := by
  decide +kernel

end GceTcb.Manifest
