import GceTcb.Proofs.SecureJoin
import GceTcb.Proofs.SecureJoinEnv
import GceTcb.Proofs.SecureJoinText
/-
C16 — confinement clause, over an abstract file system: "resolving a UEFI-variable locator never
reads outside the configured efivarfs root".

Property theorems only. Models: Model/SecureJoin.lean (filepath-securejoin v0.2.5 SecureJoinVFS,
filepath.Clean/Join, the kernel's path resolution for lstat / readlink / open), Model/SecureJoinEnv.lean
(Extract.Env instantiated by them; the historic variants of varBasename); lemmas: Proofs/SecureJoin.lean,
Proofs/SecureJoinText.lean, Proofs/SecureJoinEnv.lean.

What is proved: for EVERY file system (any lookup function: every finite tree of directories, files
and symbolic links with absolute / relative / dangling / looping targets is one), every working
directory, every cleaned root text, every unsafe path text and every pair of expansion limits —
(a) the text SecureJoin returns is the root extended by normal components; (b) if the file system
shows the same at join time and at read time (`Unchanged`, the TOCTOU boundary, an explicit
hypothesis), what os.ReadFile opens for that text lies in the subtree of what the root denotes — because
the join's walk leaves no symbolic link in the text below the root; (c) hence for the repository's
varBasename / ReadVariable / extract.Endorsement with any name bytes and GUID. What is NOT guaranteed
is exhibited: a file system that changes between join and read (d), a root text that Clean changes
the meaning of, and the two historic variants of varBasename.
-/
namespace GceTcb.SecureJoin
open GceTcb GceTcb.Extract

/-! ## (a) the joined path is lexically inside the root -/

/-- (a) The library's contract as a theorem about the model of the library: for every file
    system, root and unsafe path, a successful SecureJoin returns the cleaned root ("" counts as "/")
    extended by components none of which is empty, ".", ".." or contains '/'. -/
theorem C16_fs_join_inside (fs : FS) (klim lim : Nat) (cwd : List Name) (root p out : PathStr)
    (hj : secureJoin fs klim lim cwd root p = .ok out) : LexInside root out :=
  secureJoin_lexInside hj

/-- (a) for a cleaned root other than "/" and ".": the root's own text, then "/c" for each normal
    component — the form `Inside` (Model/Extract.lean) asks of the `secureJoin` parameter of Props/C16.lean. -/
theorem C16_fs_join_inside_clean (fs : FS) (klim lim : Nat) (cwd : List Name) (root p out : PathStr)
    (hclean : clean root = root) (h1 : root ≠ ['/']) (h2 : root ≠ ['.'])
    (hj : secureJoin fs klim lim cwd root p = .ok out) :
    ∃ comps, AllNormal comps ∧ out = root ++ comps.flatMap ('/' :: ·) :=
  (secureJoin_lexInside hj).clean_root hclean h1 h2

/-- (a) The contract that `C16_confined` / `C16_confined_reader` (Props/C16.lean) ASSUME of their
    `secureJoin` parameter — `Inside r p` for every successful join — HOLDS of the model of the
    library over every file system, for every cleaned root other than "/" and ".". -/
theorem C16_fs_join_meets_contract (fsJoin fsRead : FS) (klim lim : Nat) (cwd : List Name)
    (content : Nat → Bytes) (get : Url → Option Bytes) (root u p : String)
    (hclean : clean root.toList = root.toList) (h1 : root.toList ≠ ['/']) (h2 : root.toList ≠ ['.'])
    (h : (envOf fsJoin fsRead klim lim cwd content get).secureJoin root u = some p) : Inside root p := by
  have hj := envOf_secureJoin h
  obtain ⟨comps, hn, hout⟩ := (secureJoin_lexInside hj).clean_root hclean h1 h2
  exact inside_of_lex root p comps hn hout

/-- The model is the code: the line-by-line transcription of SecureJoinVFS on path texts
    (`secureJoinText`: `for remainingPath != ""`, the cut at the first separator,
    `filepath.Join("/", currentPath, part)`, Lstat, the IsNotExist / symlink tests, `linksWalked`,
    Readlink, `dest + "/" + remainingPath`, the two final Joins) returns, for every file system and
    every input, what the component model `secureJoin` returns — so (a)–(c) are theorems about the
    transcription. -/
theorem C16_fs_text_transcription (fs : FS) (klim lim : Nat) (cwd : List Name) (root p : PathStr) :
    secureJoinText fs klim lim cwd root p = secureJoin fs klim lim cwd root p :=
  secureJoinText_eq fs klim lim cwd root p

/-! ## (b) what is opened lies below the root -/

/-- The walk invariant: the result is the root extended by normal components, and EVERY PREFIX of it
    denotes — if anything — something below what the root denotes: no component of the joined path is a
    symbolic link, the join has already resolved them inside the root. -/
theorem C16_fs_walk_invariant (fs : FS) (klim lim : Nat) (cwd : List Name) (root p out : PathStr)
    (hclean : clean root = root) (hj : secureJoin fs klim lim cwd root p = .ok out) :
    ∃ fin, AllNormal fin ∧ out = goJoin root (renderAbs fin) ∧
      ∀ pre, pre <+: fin → ∀ loc e l, denote fs klim cwd (goJoin root (renderAbs pre)) = .ok loc e l →
        ∃ R eR lR, denote fs klim cwd root = .ok R eR lR ∧ R <+: loc :=
  secureJoin_walk_invariant hclean hj

/-- (b) For every file system, working directory, cleaned root and unsafe path: if the file system is
    UNCHANGED between the join and the read, whatever the kernel resolves the joined path to when
    os.ReadFile opens it (following symbolic links, the last component included) is a node of the
    subtree of the node the root denotes. -/
theorem C16_fs_read_confined (fsJoin fsRead : FS) (hsame : Unchanged fsJoin fsRead)
    (klim lim : Nat) (cwd : List Name) (root p out : PathStr) (hclean : clean root = root)
    (hj : secureJoin fsJoin klim lim cwd root p = .ok out)
    (loc : List Name) (e : Entry) (l : Nat) (hr : resolve fsRead klim cwd true out = .ok loc e l) :
    ∃ R eR lR, denote fsRead klim cwd root = .ok R eR lR ∧ R <+: loc := by
  have hd : denote fsRead klim cwd out = .ok loc e l := resolve_ok hr
  rw [denote_congr fsJoin fsRead hsame] at hd ⊢
  obtain ⟨fin, _, rfl, h⟩ := secureJoin_walk_invariant hclean hj
  exact h fin (List.prefix_refl _) loc e l hd

/-- (b) in terms of os.ReadFile: the regular file whose bytes are returned lies below the root. -/
theorem C16_fs_readFile_confined (fsJoin fsRead : FS) (hsame : Unchanged fsJoin fsRead)
    (klim lim : Nat) (cwd : List Name) (root p out : PathStr) (hclean : clean root = root)
    (hj : secureJoin fsJoin klim lim cwd root p = .ok out)
    (loc : List Name) (i : Nat) (hr : readFile fsRead klim cwd out = .data loc i) :
    ∃ R eR lR, denote fsRead klim cwd root = .ok R eR lR ∧ R <+: loc := by
  obtain ⟨l, hl⟩ := readFile_data hr
  exact C16_fs_read_confined fsJoin fsRead hsame klim lim cwd root p out hclean hj loc _ l hl

/-- (b) for every finite tree of directories, regular files and symbolic links. -/
theorem C16_fs_read_confined_tree (entries : List (Name × Tree)) (klim lim : Nat) (cwd : List Name)
    (root p out : PathStr) (hclean : clean root = root)
    (hj : secureJoin (Tree.toFS entries) klim lim cwd root p = .ok out)
    (loc : List Name) (i : Nat) (hr : readFile (Tree.toFS entries) klim cwd out = .data loc i) :
    ∃ R eR lR, denote (Tree.toFS entries) klim cwd root = .ok R eR lR ∧ R <+: loc :=
  C16_fs_readFile_confined _ _ (fun _ => rfl) klim lim cwd root p out hclean hj loc i hr

/-! ## (c) the repository's varBasename / ReadVariable / extract.Endorsement -/

/-- varBasename of the extraction model over the instantiated world is `varPath` on the decoded
    name: SecureJoin(Root, name + "-" + guid). -/
theorem C16_fs_varBasename_is_varPath (fsJoin fsRead : FS) (klim lim : Nat) (cwd : List Name)
    (content : Nat → Bytes) (get : Url → Option Bytes) (root : String) (guid name : Bytes) (p : String)
    (h : varBasename (envOf fsJoin fsRead klim lim cwd content get) root guid name = .ok p) :
    ∃ base, ucs2toUTF8 name = .ok base ∧
      varPath fsJoin klim lim cwd root.toList base.toList (uuidString guid).toList = .ok p.toList := by
  unfold varBasename at h
  split at h
  · next b hb =>
    split at h
    · next q hq =>
      cases h
      exact ⟨b, hb, by simpa [varPath, String.toList_append] using envOf_secureJoin hq⟩
    · cases h
  all_goals cases h

/-- (c) For ANY name bytes (whatever UTF-16 decodes them to: slashes, "..", NUL, absolute) and any
    GUID: the path varBasename returns, opened by os.ReadFile on an unchanged file system, is a file
    below the efivarfs root. -/
theorem C16_fs_varBasename_confined (fsJoin fsRead : FS) (hsame : Unchanged fsJoin fsRead)
    (klim lim : Nat) (cwd : List Name) (content : Nat → Bytes) (get : Url → Option Bytes)
    (root : String) (hclean : clean root.toList = root.toList) (guid name : Bytes) (p : String)
    (hp : varBasename (envOf fsJoin fsRead klim lim cwd content get) root guid name = .ok p)
    (loc : List Name) (i : Nat) (hr : readFile fsRead klim cwd p.toList = .data loc i) :
    ∃ R eR lR, denote fsRead klim cwd root.toList = .ok R eR lR ∧ R <+: loc := by
  obtain ⟨u, hu⟩ := varBasename_ok _ root guid name p hp
  have hj := envOf_secureJoin hu
  exact C16_fs_readFile_confined fsJoin fsRead hsame klim lim cwd _ _ _ hclean hj loc i hr

/-- (c) ReadVariable end to end: bytes it returns are the contents (less the 4-byte attribute
    header) of a regular file that lies below the efivarfs root. -/
theorem C16_fs_readVariable_confined (fsJoin fsRead : FS) (hsame : Unchanged fsJoin fsRead)
    (klim lim : Nat) (cwd : List Name) (content : Nat → Bytes) (get : Url → Option Bytes)
    (root : String) (hclean : clean root.toList = root.toList) (guid name : Bytes) (out : Bytes)
    (h : (readVariable (envOf fsJoin fsRead klim lim cwd content get) root guid name).out = .ok out) :
    ∃ loc i R eR lR, fsRead.look loc = .ent (.file i) ∧ out = (content i).drop 4 ∧
      denote fsRead klim cwd root.toList = .ok R eR lR ∧ R <+: loc := by
  obtain ⟨p, c, hp, hc, hout⟩ := readVariable_ok h
  obtain ⟨loc, i, hrd, hci⟩ := envOf_readFile hc
  obtain ⟨R, eR, lR, hR, hpre⟩ := C16_fs_varBasename_confined fsJoin fsRead hsame klim lim cwd content get
    root hclean guid name p hp loc i hrd
  obtain ⟨l, hl⟩ := readFile_data hrd
  exact ⟨loc, i, R, eR, lR, walk_file_look _ _ _ _ _ _ _ _ (resolve_ok hl), by rw [hout, hci], hR, hpre⟩

/-- (c) extract.Endorsement: every path the whole extraction opens is a secure join under the
    configured reader root, and what is read through it lies below that root. This discharges the
    `secureJoin` contract hypothesis of `C16_confined` by the model of the library. -/
theorem C16_fs_endorsement_confined (fsJoin fsRead : FS) (hsame : Unchanged fsJoin fsRead)
    (klim lim : Nat) (cwd : List Name) (content : Nat → Bytes) (get : Url → Option Bytes)
    (o : Options) (root : String) (hr : o.reader = some root) (hclean : clean root.toList = root.toList) :
    ∀ p ∈ (endorsement (envOf fsJoin fsRead klim lim cwd content get) o).paths,
      LexInside root.toList p.toList ∧
      ∀ loc i, readFile fsRead klim cwd p.toList = .data loc i →
        ∃ R eR lR, denote fsRead klim cwd root.toList = .ok R eR lR ∧ R <+: loc := by
  intro p hp
  obtain ⟨root', u, hr', hj⟩ := fromEventLog_paths _ o p (endorsementWith_paths _ _ _ o p hp)
  rw [hr] at hr'
  simp only [Option.some.injEq] at hr'
  subst hr'
  have hj' := envOf_secureJoin hj
  exact ⟨secureJoin_lexInside hj',
    fun loc i hrd => C16_fs_readFile_confined fsJoin fsRead hsame klim lim cwd _ _ _ hclean hj' loc i hrd⟩

/-- Non-vacuity of (a)–(c): on a file system whose root holds links that point outside it (absolute,
    relative with "..", a chain of them) the join re-roots every one of them, the hypotheses of the
    theorems are met, and the file opened is the one INSIDE the root (file 3), not its copies outside
    (files 8, 9); a dangling link gives a path inside the root that does not exist; a loop is ELOOP. -/
example :
    varPath fsLinks 40 255 [] "/efi".toList "abs/Var".toList guidT = .ok ("/efi/sub/Var-".toList ++ guidT) ∧
    varPath fsLinks 40 255 [] "/efi".toList "up/Var".toList guidT = .ok ("/efi/sub/Var-".toList ++ guidT) ∧
    varPath fsLinks 40 255 [] "/efi".toList "c1/Var".toList guidT = .ok ("/efi/sub/Var-".toList ++ guidT) ∧
    varPath fsLinks 40 255 [] "/efi".toList "in/../../../Var".toList guidT = .ok ("/efi/Var-".toList ++ guidT) ∧
    readFile fsLinks 40 [] ("/efi/sub/Var-".toList ++ guidT) = .data [("efi").toList, "sub".toList, "Var-".toList ++ guidT] 3 ∧
    readFile fsLinks 40 [] ("/efi/up/Var-".toList ++ guidT) = .data ["sub".toList, "Var-".toList ++ guidT] 9 ∧
    varPath fsLinks 40 255 [] "/efi".toList "dangling/Var".toList guidT = .ok ("/efi/nowhere/Var-".toList ++ guidT) ∧
    varPath fsLinks 40 255 [] "/efi".toList "loop/Var".toList guidT = .err .loop ∧
    clean "/efi".toList = "/efi".toList ∧
    denote fsLinks 40 [] "/efi".toList = .ok ["efi".toList] .dir 40 := by
  rw [fsLinksT.2, guidTL.2]
  repeat rw [String.toList_ofList]
  refine ⟨by decide +kernel, by decide +kernel, by decide +kernel, by decide +kernel, by decide +kernel,
    by decide +kernel, by decide +kernel, ?_, by decide +kernel, by decide +kernel⟩
  -- "loop" is a link to itself: ELOOP at every limit, without running the 255 expansions
  rw [varPath, secureJoin, sj_self_link "loop".toList "loop".toList]
  all_goals decide +kernel

/-- Non-vacuity of the hypotheses taken together: an instance of (b) on that file system. -/
example : ∃ R eR lR, denote fsLinks 40 [] "/efi".toList = .ok R eR lR ∧
    R <+: ["efi".toList, "sub".toList, "Var-".toList ++ guidT] := by
  have h : clean "/efi".toList = "/efi".toList ∧
      secureJoin fsLinks 40 255 [] "/efi".toList ("abs/Var-".toList ++ guidT) = .ok ("/efi/sub/Var-".toList ++ guidT) ∧
      readFile fsLinks 40 [] ("/efi/sub/Var-".toList ++ guidT) =
        .data ["efi".toList, "sub".toList, "Var-".toList ++ guidT] 3 := by
    rw [fsLinksT.2, guidTL.2]
    repeat rw [String.toList_ofList]
    decide +kernel
  exact C16_fs_readFile_confined fsLinks fsLinks (fun _ => rfl) 40 255 [] _ _ _ h.1 h.2.1 _ 3 h.2.2

/-- Non-vacuity of (c) on name BYTES: ReadVariable for the UCS-2 name "abs/Var" (abs -> /sub, a
    directory outside the root holding file 9) returns file 3 from inside the root. -/
example : (readVariable (envOf fsLinks fsLinks 40 255 [] contentW (fun _ => none)) "/efi" guidB nameAbsVar).out = .ok [3] ∧
    readVariableVia varBasename = readVariable := by
  refine ⟨?_, rfl⟩
  rw [readVariable_out (b := "abs/Var") (by decide +kernel), uuidString_guidB, fsLinksT.2]
  repeat rw [String.toList_ofList]
  decide +kernel

/-! ## What is not guaranteed -/

/-- Historic variant 1 (seeded changes C16-B, C16-F), for EVERY file system and cleaned root: with
    the GUID suffix appended after the join, the name ".." — like every name the join takes to the
    root itself — yields the text `<root>-<guid>`, which is not the root extended by components. -/
theorem C16_fs_old_suffix_after_join_path (fs : FS) (klim lim : Nat) (cwd : List Name) (root g : PathStr)
    (hclean : clean root = root) :
    varPathSuffixAfterJoin fs klim lim cwd root dotdot g = .ok (root ++ '-' :: g) ∧
    ∀ comps : List Name, root ++ '-' :: g ≠ root ++ comps.flatMap ('/' :: ·) := by
  constructor
  · have : secureJoin fs klim lim cwd root dotdot = .ok (goJoin root (renderAbs [])) := by
      cases lim <;> rfl
    simp only [varPathSuffixAfterJoin, this, goJoin_root root hclean]
  · intro comps h
    have := List.append_cancel_left h
    cases comps with
    | nil => simp at this
    | cons c cs => simp at this

/-- Historic variant 1, the escape: on a file system with a sibling `/efi-<guid>` of the root, the
    name ".." makes the variant read that sibling (file 7), which is not below the root; the present
    code, on the same file system and name, stays inside (`/efi/..-<guid>`, absent). -/
theorem C16_fs_old_suffix_after_join_escapes :
    varPathSuffixAfterJoin fsSibling 40 255 [] "/efi".toList dotdot guidT = .ok ("/efi-".toList ++ guidT) ∧
    readFile fsSibling 40 [] ("/efi-".toList ++ guidT) = .data ["efi-".toList ++ guidT] 7 ∧
    denote fsSibling 40 [] "/efi".toList = .ok ["efi".toList] .dir 40 ∧
    ¬ ["efi".toList] <+: ["efi-".toList ++ guidT] ∧
    varPath fsSibling 40 255 [] "/efi".toList dotdot guidT = .ok ("/efi/..-".toList ++ guidT) ∧
    readFile fsSibling 40 [] ("/efi/..-".toList ++ guidT) = .err .noent := by
  rw [fsSiblingT.2, guidTL.2]
  repeat rw [String.toList_ofList]
  decide +kernel

/-- Historic variant 1 on name bytes, through ReadVariable: for the UCS-2 name ".." the variant
    returns the contents of the sibling (file 7); the present code fails to read. -/
theorem C16_fs_old_suffix_after_join_reads_sibling :
    (readVariableVia varBasenameSuffixAfterJoin (envOf fsSibling fsSibling 40 255 [] contentW (fun _ => none))
      "/efi" guidB nameDotDot).out = .ok [7] ∧
    (readVariable (envOf fsSibling fsSibling 40 255 [] contentW (fun _ => none)) "/efi" guidB nameDotDot).out = .err "read" := by
  have hn : ucs2toUTF8 nameDotDot = .ok ".." := by decide +kernel
  rw [lifts_suffixAfterJoin.out hn, readVariable_out hn, uuidString_guidB, fsSiblingT.2]
  repeat rw [String.toList_ofList]
  decide +kernel

/-- Historic variant 2 (seeded change C16-C): skipping SecureJoin for a separator-free entry follows a
    symbolic link in the final component — absolute or climbing with ".." — to a file outside the
    root (file 9); the present code re-roots the same links (`/efi/secret`, absent). -/
theorem C16_fs_old_no_join_follows_final_symlink :
    varPathNoJoin fsFinalLink 40 255 [] "/efi".toList "Var".toList guidT = .ok ("/efi/Var-".toList ++ guidT) ∧
    readFile fsFinalLink 40 [] ("/efi/Var-".toList ++ guidT) = .data ["secret".toList] 9 ∧
    varPathNoJoin fsFinalLink 40 255 [] "/efi".toList "Rel".toList guidT = .ok ("/efi/Rel-".toList ++ guidT) ∧
    readFile fsFinalLink 40 [] ("/efi/Rel-".toList ++ guidT) = .data ["secret".toList] 9 ∧
    denote fsFinalLink 40 [] "/efi".toList = .ok ["efi".toList] .dir 40 ∧
    ¬ ["efi".toList] <+: ["secret".toList] ∧
    varPath fsFinalLink 40 255 [] "/efi".toList "Var".toList guidT = .ok "/efi/secret".toList ∧
    varPath fsFinalLink 40 255 [] "/efi".toList "Rel".toList guidT = .ok "/efi/secret".toList ∧
    readFile fsFinalLink 40 [] "/efi/secret".toList = .err .noent := by
  rw [fsFinalLinkT.2, guidTL.2]
  repeat rw [String.toList_ofList]
  decide +kernel

/-- Historic variant 2 on name bytes, through ReadVariable: for the UCS-2 names "Var" and "Rel" the
    variant returns the contents of /secret (file 9); the present code fails to read. -/
theorem C16_fs_old_no_join_reads_outside :
    (readVariableVia varBasenameNoJoin (envOf fsFinalLink fsFinalLink 40 255 [] contentW (fun _ => none))
      "/efi" guidB nameVar).out = .ok [9] ∧
    (readVariableVia varBasenameNoJoin (envOf fsFinalLink fsFinalLink 40 255 [] contentW (fun _ => none))
      "/efi" guidB nameRel).out = .ok [9] ∧
    (readVariable (envOf fsFinalLink fsFinalLink 40 255 [] contentW (fun _ => none)) "/efi" guidB nameVar).out = .err "read" ∧
    (readVariable (envOf fsFinalLink fsFinalLink 40 255 [] contentW (fun _ => none)) "/efi" guidB nameRel).out = .err "read" := by
  have hr : ucs2toUTF8 nameRel = .ok "Rel" := by decide +kernel
  rw [lifts_noJoin.out ucs2_nameVar, lifts_noJoin.out hr, readVariable_out ucs2_nameVar, readVariable_out hr,
    uuidString_guidB, fsFinalLinkT.2]
  repeat rw [String.toList_ofList]
  decide +kernel

/-- (d) on name bytes, through ReadVariable with the join on the file system before and the read on
    the file system after: the contents of /secret (file 9) are returned. -/
theorem C16_fs_toctou_reads_outside :
    (readVariable (envOf fsBefore fsAfter 40 255 [] contentW (fun _ => none)) "/efi" guidB nameVar).out = .ok [9] ∧
    (readVariable (envOf fsBefore fsBefore 40 255 [] contentW (fun _ => none)) "/efi" guidB nameVar).out = .ok [1] := by
  rw [readVariable_out ucs2_nameVar, readVariable_out ucs2_nameVar, uuidString_guidB, fsAfter, fsBeforeT.2]
  repeat rw [String.toList_ofList]
  decide +kernel

/-- (d) The remaining assumption is necessary. Two states that differ at ONE location (the variable's
    entry, a regular file at join time, replaced by a symbolic link before the read): the join on the
    first returns a path inside the root, os.ReadFile on the second opens /secret (file 9) outside it.
    `Unchanged` fails for exactly that location. -/
theorem C16_fs_toctou_witness :
    clean "/efi".toList = "/efi".toList ∧
    varPath fsBefore 40 255 [] "/efi".toList "Var".toList guidT = .ok ("/efi/Var-".toList ++ guidT) ∧
    readFile fsBefore 40 [] ("/efi/Var-".toList ++ guidT) = .data ["efi".toList, "Var-".toList ++ guidT] 1 ∧
    readFile fsAfter 40 [] ("/efi/Var-".toList ++ guidT) = .data ["secret".toList] 9 ∧
    denote fsAfter 40 [] "/efi".toList = .ok ["efi".toList] .dir 40 ∧
    ¬ ["efi".toList] <+: ["secret".toList] ∧
    ¬ Unchanged fsBefore fsAfter ∧
    (∀ l, l ≠ ["efi".toList, "Var-6a7b6885-92bc-40cd-9fb5-300f9d1eb0ed".toList] → fsAfter.look l = fsBefore.look l) := by
  rw [fsAfter, fsBeforeT.2, guidTL.2]
  repeat rw [String.toList_ofList]
  refine ⟨by decide +kernel, by decide +kernel, by decide +kernel, by decide +kernel, by decide +kernel,
    by decide +kernel, fun h => ?_, fun l hl => if_neg hl⟩
  have := h ["efi".toList, "Var-".toList ++ guidTL.1]
  revert this
  decide +kernel

/-- The hypothesis `clean root = root` is necessary too: for a root text whose meaning Clean changes
    ("/a/l/../r" with /a/l a link to /x/y: the kernel means /x/r, Clean writes "/a/r") SecureJoin
    checks one directory and returns a path in another, where the entry is a link out. -/
theorem C16_fs_unclean_root_witness :
    clean "/a/l/../r".toList = "/a/r".toList ∧
    denote fsUncleanRoot 40 [] "/a/l/../r".toList = .ok ["x".toList, "r".toList] .dir 39 ∧
    secureJoin fsUncleanRoot 40 255 [] "/a/l/../r".toList "v".toList = .ok "/a/r/v".toList ∧
    readFile fsUncleanRoot 40 [] "/a/r/v".toList = .data ["secret".toList] 9 := by
  rw [fsUncleanRootT.2]
  repeat rw [String.toList_ofList]
  decide +kernel

end GceTcb.SecureJoin
