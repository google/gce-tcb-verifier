import GceTcb.Props.C01
import GceTcb.Proofs.VerifyWire
import GceTcb.Proofs.ProtoWireLast
import GceTcb.Proofs.ProtoWireMsg
import GceTcb.Proofs.ProtoWireTyped
import GceTcb.Proofs.ProtoEndorse
/-
C01 (continued) — "accepted endorsements are authentic" over RAW BYTES.

`Props/C01.lean` holds for every `Prims`, two of whose fields are the protobuf unmarshals of the
endorsement container and of the golden measurement; `Authentic` is stated in terms of them.  Here those two
fields are the Lean wire codec (`Model/ProtoWire.lean`, compared with google.golang.org/protobuf on every
run by stream `c03proto`, and through the verifier itself by stream `c01wire`): `wirePrims X` overrides
exactly them in an arbitrary `X`, so X.509 parsing / path building, RSA-PSS and the third-party validators
stay parameters about which nothing is assumed.  What can be stated only over bytes:

  (a) acceptance of `verify.Endorsement(bytes, opts)` in terms of the bytes: the container is a sequence of
      fields, the payload it carries decodes to a well-typed golden measurement, the certificate inside
      chains, and the signature verifies over EXACTLY the payload bytes carried (`C01_wire_accept_authentic`;
      all nine entry points: `C01_wire_accept_authentic_all`);
  (b) "no change to a signed endorsement is ever accepted" at byte level: a container with the same
      signature and ANY other payload byte string is accepted only if that signature also verifies over the
      other byte string (`C01_wire_no_change_accepted`), hence never when signature values bind their
      message (`C01_wire_changed_payload_rejected`); and byte strings that decode to the same message —
      over-long tag, appended unknown field, exchanged fields, another map order — ARE other byte strings
      (`C01_wire_same_message_*`), so re-encoding a signed payload is such a change;
  (c) which endorsement a concatenation of containers denotes (protobuf merges: last payload, last
      signature — `C01_wire_concat`, `C01_wire_concat_encoded`), that acceptance still means authenticity of
      THAT one (`C01_wire_concat_accept_authentic`), and that trailing bytes which are not fields reject
      (`C01_wire_trailing_garbage`); inside the payload the certificate that is checked is the LAST
      field 4 (`C01_wire_accept_last_cert`).
-/
namespace GceTcb.C01Wire
open GceTcb GceTcb.ProtoWire GceTcb.Verify GceTcb.VerifyWire

variable {Cert Roots Time : Type}

/-- `Authentic` for the codec instance, spelled out over bytes -/
theorem C01_wire_authentic_iff (X : Prims Cert Roots Time) (e : Endorsement) (r : Roots) (now : Time) :
    Authentic (wirePrims X) e r now ↔
      ∃ g c, decodeGolden e.payload = some g ∧ g.cert ≠ [] ∧ X.parseCert g.cert = some c ∧
        X.verifyChain c r now = true ∧ X.checkSigPss256 c e.payload e.signature = true := by
  constructor
  · rintro ⟨g, c, hg, hne, hp, hv, hs⟩
    have hg' : (decodeGolden e.payload).map goldenOfWire = some g := hg
    obtain ⟨w, hw, rfl⟩ := Option.map_eq_some_iff.mp hg'
    exact ⟨w, c, hw, hne, hp, hv, hs⟩
  · rintro ⟨w, c, hw, hne, hp, hv, hs⟩
    refine ⟨goldenOfWire w, c, ?_, hne, hp, hv, hs⟩
    show (decodeGolden e.payload).map goldenOfWire = _
    rw [hw]; rfl

/-- (a) verify.Endorsement over raw container bytes.  Acceptance implies: the bytes are a sequence of
    protobuf fields (`fs`) whose last length-delimited field 1 is the payload and whose last
    length-delimited field 2 is the signature; the payload decodes to a golden measurement that is
    well-typed and canonical; its certificate is non-empty, parses, chains to the caller's roots at the
    caller's time; and the signature verifies under that certificate over exactly the payload bytes the
    container carries. -/
theorem C01_wire_accept_authentic (X : Prims Cert Roots Time) (bytes : Bytes) (o : Options Roots Time)
    (h : endorsement (wirePrims X) bytes o = accept) :
    ∃ (fs : List Field) (e : WEndorsement) (g : WGolden) (c : Cert) (r : Roots),
      parseFields bytes = some fs ∧ decodeEndorsement bytes = some e ∧
      e.serializedUefiGolden = lastLenD 1 [] fs ∧ e.signature = lastLenD 2 [] fs ∧
      decodeGolden e.serializedUefiGolden = some g ∧ TypedGolden g ∧ canonGolden g = g ∧
      g.cert ≠ [] ∧ X.parseCert g.cert = some c ∧ o.roots = some r ∧ X.verifyChain c r o.now = true ∧
      X.checkSigPss256 c e.serializedUefiGolden e.signature = true := by
  obtain ⟨e0, r, he, hr, ha⟩ := endorsement_accept (wirePrims X) bytes o h
  have he' : (decodeEndorsement bytes).map endorsementOfWire = some e0 := he
  obtain ⟨e, hde, rfl⟩ := Option.map_eq_some_iff.mp he'
  obtain ⟨g, c, hg, hne, hp, hv, hs⟩ := (C01_wire_authentic_iff X _ r o.now).mp ha
  obtain ⟨fs, hfs, _⟩ := decodeInto_parses stepEndorsement .zero e bytes hde
  cases hde.symm.trans (decodeEndorsement_fields bytes fs hfs)
  exact ⟨fs, _, g, c, r, hfs, hde, rfl, rfl, hg, decodeGolden_typed _ g hg, decodeGolden_canon _ g hg, hne, hp, hr,
    hv, hs⟩

/-- (a) for every entry point (library, SNP validator closure, SevValidate, TdxValidate, the three CLI
    commands): `C01_accept_authentic` with the codec instance, authenticity spelled out over bytes. -/
theorem C01_wire_accept_authentic_all (X : Prims Cert Roots Time) (ep : EntryPoint) (inp : Input Roots Time ep)
    (h : run (wirePrims X) ep inp = accept) :
    ∃ e r g c, endorsementUsed (wirePrims X) ep inp = some e ∧ callerRoots (wirePrims X) ep inp = some r ∧
      decodeGolden e.payload = some g ∧ TypedGolden g ∧ g.cert ≠ [] ∧ X.parseCert g.cert = some c ∧
      X.verifyChain c r (callerNow ep inp) = true ∧ X.checkSigPss256 c e.payload e.signature = true := by
  obtain ⟨e, r, he, hr, ha⟩ := C01_accept_authentic (wirePrims X) ep inp h
  obtain ⟨g, c, hg, hne, hp, hv, hs⟩ := (C01_wire_authentic_iff X e r _).mp ha
  exact ⟨e, r, g, c, he, hr, hg, decodeGolden_typed _ g hg, hne, hp, hv, hs⟩

/-- where the bytes come from, for the entry points that take them: what `endorsementUsed` is for
    verify.Endorsement — the codec's reading of the caller's bytes -/
theorem C01_wire_endorsement_used (X : Prims Cert Roots Time) (bytes : Bytes) (o : Options Roots Time) :
    endorsementUsed (wirePrims X) .endorsement (bytes, o) = (decodeEndorsement bytes).map endorsementOfWire := rfl

/-- Injectivity-free form.  Take any container `b'` whose signature field equals the signature `sig` of an
    endorsement and whose payload is whatever byte string `e'.serializedUefiGolden`.  If `b'` is accepted —
    under any options — then `sig` verifies, under the certificate `b'`'s own payload carries, over `b'`'s
    payload bytes.  So a changed payload under an unchanged signature needs one signature value that
    verifies over two byte strings. -/
theorem C01_wire_no_change_accepted (X : Prims Cert Roots Time) (b' : Bytes) (o' : Options Roots Time)
    (e' : WEndorsement) (sig : Bytes) (hd' : decodeEndorsement b' = some e') (hsig : e'.signature = sig)
    (hacc' : endorsement (wirePrims X) b' o' = accept) :
    ∃ g' c', decodeGolden e'.serializedUefiGolden = some g' ∧ X.parseCert g'.cert = some c' ∧
      X.checkSigPss256 c' e'.serializedUefiGolden sig = true := by
  obtain ⟨_, e2, g, c, _, _, hde, _, _, hg, _, _, _, hp, _, _, hs⟩ := C01_wire_accept_authentic X b' o' hacc'
  rw [hd'] at hde
  cases hde
  exact ⟨g, c, hg, hp, hsig ▸ hs⟩

/-- signature values bind their message: one value never verifies over two different byte strings
    (whatever the certificates).  The unforgeability assumption on RSA-PSS in the form this property
    needs; `refX` below satisfies it. -/
def SigBinds (X : Prims Cert Roots Time) : Prop :=
  ∀ c c' m m' s, X.checkSigPss256 c m s = true → X.checkSigPss256 c' m' s = true → m = m'

/-- "No change … is ever accepted", byte level: when `b` is accepted, every container with the same
    signature field and a payload that differs AS A BYTE STRING is rejected, under every option set. -/
theorem C01_wire_changed_payload_rejected (X : Prims Cert Roots Time) (hX : SigBinds X) (b b' : Bytes)
    (o o' : Options Roots Time) (e e' : WEndorsement) (hd : decodeEndorsement b = some e)
    (hd' : decodeEndorsement b' = some e') (hsig : e'.signature = e.signature)
    (hne : e'.serializedUefiGolden ≠ e.serializedUefiGolden) (hacc : endorsement (wirePrims X) b o = accept) :
    endorsement (wirePrims X) b' o' ≠ accept := by
  intro hacc'
  obtain ⟨_, e2, _, c, _, _, hde, _, _, _, _, _, _, _, _, _, hs⟩ := C01_wire_accept_authentic X b o hacc
  rw [hd] at hde
  cases hde
  obtain ⟨_, c', _, _, hs'⟩ := C01_wire_no_change_accepted X b' o' e' e.signature hd' hsig hacc'
  exact hne (hX _ _ _ _ _ hs' hs)

/-- Same message, other bytes (1): the first tag of a payload written in two bytes instead of one.  The
    field loop reads the same fields, so every decoder of the codec returns the same message — and the
    byte strings differ, so (b) applies: the original signature does not cover the re-encoding. -/
theorem C01_wire_same_message_overlong_tag (v : Nat) (hv : v < 128) (rest : Bytes) :
    UInt8.ofNat (v + 128) :: 0 :: rest ≠ UInt8.ofNat v :: rest ∧
    decodeGolden (UInt8.ofNat (v + 128) :: 0 :: rest) = decodeGolden (UInt8.ofNat v :: rest) ∧
    decodeEndorsement (UInt8.ofNat (v + 128) :: 0 :: rest) = decodeEndorsement (UInt8.ofNat v :: rest) := by
  refine ⟨?_, ?_, ?_⟩
  · intro h
    have := congrArg List.length h
    simp at this
  · unfold decodeGolden decodeInto; rw [parseFields_overlong v hv rest]
  · unfold decodeEndorsement decodeInto; rw [parseFields_overlong v hv rest]

/-- Same message, other bytes (2): a field with a number the golden measurement does not know, appended.
    The verifier reads the same golden measurement from both; the byte strings differ. -/
theorem C01_wire_same_message_unknown_appended (p u : Bytes) (g : WGolden) (f : Field)
    (hg : decodeGolden p = some g) (hu : readField u = some (f, [])) (hn : 9 ≤ f.num) :
    p ++ u ≠ p ∧ unmarshalGolden (p ++ u) = unmarshalGolden p := by
  refine ⟨?_, by unfold unmarshalGolden; rw [decodeGolden_append_unknown p u g f hg hu hn, hg]; rfl⟩
  intro h
  have hl := congrArg List.length h
  have hlt := readField_lt u f [] hu
  rw [List.length_append] at hl
  simp only [List.length_nil] at hlt
  omega

/-- Same message, other bytes (3): field order.  Two adjacent fields of a payload exchanged — one of them a
    plain field of the golden measurement (cl_spec, commit, cert, digest, ca_bundle), the other any field
    with another number (plain, embedded message, unknown) — give another byte string and the same golden
    measurement, everywhere in the payload (`a`, `b`: any sequences of fields before and after). -/
theorem C01_wire_same_message_field_order (a u1 u2 b : Bytes) (fa fb : List Field) (f1 f2 : Field)
    (ha : parseFields a = some fa) (hu1 : readField u1 = some (f1, [])) (hu2 : readField u2 = some (f2, []))
    (hb : parseFields b = some fb) (h1 : PlainKnown f1) (hne : f2.num ≠ f1.num) :
    a ++ (u1 ++ (u2 ++ b)) ≠ a ++ (u2 ++ (u1 ++ b)) ∧
    decodeGolden (a ++ (u1 ++ (u2 ++ b))) = decodeGolden (a ++ (u2 ++ (u1 ++ b))) := by
  refine ⟨?_, ?_⟩
  · intro h
    have h' := List.append_cancel_left h
    have r1 := readField_append u1 f1 [] (u2 ++ b) hu1
    have r2 := readField_append u2 f2 [] (u1 ++ b) hu2
    rw [h', r2] at r1
    simp only [Option.some.injEq, Prod.mk.injEq] at r1
    exact hne (by rw [r1.1])
  · have e : ∀ (u1 u2 : Bytes) (f1 f2 : Field), readField u1 = some (f1, []) → readField u2 = some (f2, []) →
        parseFields (a ++ (u1 ++ (u2 ++ b))) = some (fa ++ f1 :: f2 :: fb) := by
      intro u1 u2 f1 f2 h1 h2
      rw [parseFields_append a fa _ ha, parseFields_append u1 [f1] _ (parseFields_step h1),
        parseFields_append u2 [f2] _ (parseFields_step h2), hb]
      rfl
    unfold decodeGolden decodeInto
    rw [e u1 u2 f1 f2 hu1 hu2, e u2 u1 f2 f1 hu2 hu1]
    exact foldGolden_swap fa fb f1 f2 .zero h1 hne

/-- Same message, other bytes (4): Go's map iteration order.  proto.Marshal may list the SEV-SNP
    measurement map in any order `σ`; every listing of a canonical well-formed document decodes to that
    document, so two listings that differ as byte strings are the same message — and a signature made over
    one listing does not cover the other (a verifier that re-marshalled before checking would be wrong
    both ways). -/
theorem C01_wire_same_message_map_order (g : WGolden) (hw : WfGolden g) (hc : canonGolden g = g)
    (σ : List (Nat × Bytes) → List (Nat × Bytes)) (hσ : ∀ l, (σ l).Perm l)
    (hsz : (encodeGoldenRaw g).length < 2 ^ 64)
    (hsz' : (encodeGoldenRaw (ProtoEndorse.reorderGolden σ g)).length < 2 ^ 64) :
    decodeGolden (encodeGoldenRaw (ProtoEndorse.reorderGolden σ g)) = decodeGolden (encodeGoldenRaw g) := by
  rw [decodeGolden_encodeRaw _ (ProtoEndorse.wf_reorderGolden σ hσ g hw) hsz',
    ProtoEndorse.canon_reorderGolden σ hσ g hc, decodeGolden_encodeRaw g hw hsz, hc]

/-- Two containers back to back are ONE endorsement: the second is unmarshalled into the first.  Payload =
    the last length-delimited field 1 of the second container if it has one, else the first container's;
    signature likewise with field 2; unknown fields accumulate. -/
theorem C01_wire_concat (b1 b2 : Bytes) (e1 : WEndorsement) (fs2 : List Field)
    (h1 : decodeEndorsement b1 = some e1) (h2 : parseFields b2 = some fs2) :
    decodeEndorsement (b1 ++ b2) = some ⟨lastLenD 1 e1.serializedUefiGolden fs2, lastLenD 2 e1.signature fs2,
      e1.unknown ++ unkEnd fs2⟩ := by
  obtain ⟨fa, hp, _⟩ := decodeInto_parses stepEndorsement .zero e1 b1 h1
  unfold decodeEndorsement
  rw [decodeInto_append stepEndorsement .zero e1 b1 b2 fa hp h1]
  exact decodeEndorsementInto_fields e1 b2 fs2 h2

/-- … so acceptance of the concatenation is authenticity of THAT merged endorsement: the signature that
    verified is the last one, over the last payload. -/
theorem C01_wire_concat_accept_authentic (X : Prims Cert Roots Time) (b1 b2 : Bytes) (e1 : WEndorsement)
    (fs2 : List Field) (o : Options Roots Time) (h1 : decodeEndorsement b1 = some e1)
    (h2 : parseFields b2 = some fs2) (h : endorsement (wirePrims X) (b1 ++ b2) o = accept) :
    ∃ g c r, decodeGolden (lastLenD 1 e1.serializedUefiGolden fs2) = some g ∧ g.cert ≠ [] ∧
      X.parseCert g.cert = some c ∧ o.roots = some r ∧ X.verifyChain c r o.now = true ∧
      X.checkSigPss256 c (lastLenD 1 e1.serializedUefiGolden fs2) (lastLenD 2 e1.signature fs2) = true := by
  obtain ⟨_, e, g, c, r, _, hde, _, _, hg, _, _, hne, hp, hr, hv, hs⟩ := C01_wire_accept_authentic X _ o h
  rw [C01_wire_concat b1 b2 e1 fs2 h1 h2] at hde
  cases hde
  exact ⟨g, c, r, hg, hne, hp, hr, hv, hs⟩

/-- Both parts made by the marshaller (proto3 omits empty fields): the second endorsement's non-empty parts
    replace the first's.  In particular a payload-only container followed by a signature-only container is
    the pair (payload, signature), and `(p₁,s₁) ++ (∅,s₂)` is `(p₁,s₂)`. -/
theorem C01_wire_concat_encoded (p1 s1 p2 s2 : Bytes)
    (hz1 : (encodeEndorsement ⟨p1, s1, []⟩).length < 2 ^ 64) (hz2 : (encodeEndorsement ⟨p2, s2, []⟩).length < 2 ^ 64) :
    decodeEndorsement (encodeEndorsement ⟨p1, s1, []⟩ ++ encodeEndorsement ⟨p2, s2, []⟩) =
      some ⟨if p2 = [] then p1 else p2, if s2 = [] then s1 else s2, []⟩ := by
  have hp2 : parseFields (encodeEndorsement ⟨p2, s2, []⟩) = some (optBytes 1 p2 ++ optBytes 2 s2) := by
    unfold encodeEndorsement at hz2 ⊢
    rw [List.append_nil] at hz2 ⊢
    exact parseFields_encFields _ (good_of_shape _ (endorsementFields_shape _) hz2)
  rw [C01_wire_concat _ _ ⟨p1, s1, []⟩ _ (decodeEndorsement_encode _ ⟨rfl⟩ hz1) hp2]
  -- which parts of the second container are empty: in each of the four cases both sides compute
  cases p2 <;> cases s2 <;> rfl

/-- Trailing bytes that are not themselves a sequence of fields: the container is rejected, before
    anything is verified. -/
theorem C01_wire_trailing_garbage (X : Prims Cert Roots Time) (b1 b2 : Bytes) (e1 : WEndorsement)
    (o : Options Roots Time) (h1 : decodeEndorsement b1 = some e1) (h2 : parseFields b2 = none) :
    endorsement (wirePrims X) (b1 ++ b2) o = reject "endorsement-unmarshal" := by
  obtain ⟨fa, hp, _⟩ := decodeInto_parses stepEndorsement .zero e1 b1 h1
  have hd : (wirePrims X).unmarshalEndorsement (b1 ++ b2) = none := by
    show (decodeEndorsement (b1 ++ b2)).map endorsementOfWire = none
    unfold decodeEndorsement decodeInto
    rw [parseFields_append_none b1 b2 fa hp h2]; rfl
  simp only [endorsement, hd]

/-- A duplicated signature field: the LAST occurrence is the one that is checked, the first is never
    looked at (two containers with different first signatures and equal last ones get the same verdict). -/
theorem C01_wire_duplicate_signature_last (X : Prims Cert Roots Time) (p s s' sl : Bytes) (o : Options Roots Time)
    (hz : (encFields [fLen 1 p, fLen 2 s, fLen 2 sl]).length < 2 ^ 64 ∧
      (encFields [fLen 1 p, fLen 2 s', fLen 2 sl]).length < 2 ^ 64) :
    endorsement (wirePrims X) (encFields [fLen 1 p, fLen 2 s, fLen 2 sl]) o =
    endorsement (wirePrims X) (encFields [fLen 1 p, fLen 2 s', fLen 2 sl]) o := by
  have d : ∀ x, (encFields [fLen 1 p, fLen 2 x, fLen 2 sl]).length < 2 ^ 64 →
      decodeEndorsement (encFields [fLen 1 p, fLen 2 x, fLen 2 sl]) = some ⟨p, sl, []⟩ := fun x hx =>
    -- the fold over the three emitted fields computes: field 2 is set twice
    decodeInto_encFields stepEndorsement .zero _ (good_of_shape _
      (shape_append (shape_optMsg 1 (some p)) (shape_append (shape_optMsg 2 (some x)) (shape_optMsg 2 (some sl)))) hx)
  unfold endorsement
  rw [wirePrims_unmarshalEndorsement, wirePrims_unmarshalEndorsement, d s hz.1, d s' hz.2]

/-- Inside the payload the same rule: the certificate that is parsed and chained is the LAST length-delimited
    field 4 of the payload (a payload carrying two certificates is judged by the last one). -/
theorem C01_wire_accept_last_cert (X : Prims Cert Roots Time) (e : Endorsement) (o : Options Roots Time)
    (fs : List Field) (hp : parseFields e.payload = some fs) (h : endorsementProto (wirePrims X) e o = accept) :
    ∃ c r, lastLenD 4 [] fs ≠ [] ∧ X.parseCert (lastLenD 4 [] fs) = some c ∧ o.roots = some r ∧
      X.verifyChain c r o.now = true ∧ X.checkSigPss256 c e.payload e.signature = true := by
  obtain ⟨r, hr, ha⟩ := endorsementProto_accept (wirePrims X) e o h
  obtain ⟨g, c, hg, hne, hpc, hv, hs⟩ := (C01_wire_authentic_iff X e r o.now).mp ha
  obtain ⟨_, _, hcert, _⟩ := decodeGolden_last e.payload g fs hp hg
  rw [hcert] at hne hpc
  exact ⟨c, r, hne, hpc, hr, hv, hs⟩

/-- a golden measurement with provenance, a certificate, a two-entry measurement map and one TDX row -/
def sampleGolden : WGolden :=
  ⟨some ⟨1725148800, 5, []⟩, 7, [], [0xC0], [0xd1, 0xd2], [],
   some ⟨3, [(1, List.replicate 48 7), (2, List.replicate 48 8)], [], [], 196608, [], [], []⟩,
   some ⟨1, [⟨16, true, List.replicate 48 9, []⟩], []⟩, []⟩

def samplePayload : Bytes := encodeGoldenRaw sampleGolden

/-- signatures name the signer and repeat the message: a signature value verifies over one message only -/
def refX : Prims Nat String Nat :=
  { Example.P with
    timeFromNil := some ⟨0, 0⟩     -- timeproto.From as repaired (nil-safe getters)
    parseCert := fun b => if b == [0xC0] then some 1 else if b == [0xC1] then some 2 else none
    verifyChain := fun c r t => c == 1 && r == "caller-roots" && decide (100 ≤ t ∧ t ≤ 200)
    checkSigPss256 := fun c m s => s == UInt8.ofNat c :: m }

def sampleSig : Bytes := 1 :: samplePayload
def sampleContainer : Bytes := encodeEndorsement ⟨samplePayload, sampleSig, []⟩

example : SigBinds refX := by
  intro c c' m m' s h h'
  simp only [refX, beq_iff_eq] at h h'
  rw [h] at h'
  exact (List.cons.inj h').2

/-- the genuine container is accepted inside the validity window, also with the measurement named … -/
example : endorsement (wirePrims refX) sampleContainer (Example.opts 150) = accept := by decide +kernel
example : endorsement (wirePrims refX) sampleContainer
    { Example.opts 150 with snp := some ⟨some (List.replicate 48 8), 2⟩ } = accept := by decide +kernel
/-- … and rejected outside it, or with a flipped signature byte -/
example : endorsement (wirePrims refX) sampleContainer (Example.opts 201) = reject "chain" := by decide +kernel
example : endorsement (wirePrims refX) (encodeEndorsement ⟨samplePayload, 2 :: samplePayload, []⟩) (Example.opts 150)
    = reject "signature" := by decide +kernel

/-- (b) the same message in other bytes under the original signature: over-long first tag (0x0a → 0x8a 0x00),
    an appended unknown field — both rejected at the signature check, although the golden measurement
    the verifier reads is the same -/
example : samplePayload.head? = some 0x0a := by decide +kernel
example : unmarshalGolden (0x8a :: 0x00 :: samplePayload.tail) = unmarshalGolden samplePayload := by decide +kernel
example : endorsement (wirePrims refX) (encodeEndorsement ⟨0x8a :: 0x00 :: samplePayload.tail, sampleSig, []⟩)
    (Example.opts 150) = reject "signature" := by decide +kernel
example : endorsement (wirePrims refX) (encodeEndorsement ⟨samplePayload ++ [0xf8, 0x7f, 0x01], sampleSig, []⟩)
    (Example.opts 150) = reject "signature" := by decide +kernel

/-- (c) concatenations: genuine ++ a signature-only container carrying a bad signature is rejected (the LAST
    signature counts); bad-signature container ++ genuine-signature-only container is accepted; a
    payload-only container followed by a signature-only container is the endorsement; trailing garbage
    rejects before anything is verified; a second certificate field appended to the payload replaces the first -/
example : endorsement (wirePrims refX) (sampleContainer ++ encodeEndorsement ⟨[], [0x66], []⟩) (Example.opts 150)
    = reject "signature" := by decide +kernel
example : endorsement (wirePrims refX)
    (encodeEndorsement ⟨samplePayload, [0x66], []⟩ ++ encodeEndorsement ⟨[], sampleSig, []⟩) (Example.opts 150)
    = accept := by decide +kernel
example : endorsement (wirePrims refX)
    (encodeEndorsement ⟨samplePayload, [], []⟩ ++ encodeEndorsement ⟨[], sampleSig, []⟩) (Example.opts 150)
    = accept := by decide +kernel
example : endorsement (wirePrims refX) (sampleContainer ++ [0x0a, 0x05, 0x01]) (Example.opts 150)
    = reject "endorsement-unmarshal" := by decide +kernel
example : endorsement (wirePrims refX)
    (encodeEndorsement ⟨samplePayload ++ [0x22, 0x01, 0xC1], 1 :: (samplePayload ++ [0x22, 0x01, 0xC1]), []⟩)
    (Example.opts 150) = reject "chain" := by decide +kernel
/-- an EMPTY occurrence of the payload field after the genuine one resets the payload (last wins): the
    endorsement is then the empty golden measurement under the genuine signature — rejected, no certificate -/
example : endorsement (wirePrims refX) (sampleContainer ++ [0x0a, 0x00]) (Example.opts 150)
    = reject "no-cert" := by decide +kernel

end GceTcb.C01Wire
