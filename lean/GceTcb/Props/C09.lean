import GceTcb.Proofs.Reentrancy
import GceTcb.Gen.ClosureWrites
/-
C09 — Validation functions are re-entrant.
Property theorems only (model: Model/Reentrancy.lean over Model/Verify.lean; lemmas: Proofs/Reentrancy.lean).

The theorems hold for every choice of the primitives, every number of threads, all inputs and every
schedule.  They are conditional on the two write lists being empty; that the lists regenerated from the
current source ARE empty is the obligation `C09_no_shared_writes` (it breaks when a store to the
caller's options is reintroduced).  Steps are atomic and sequentially consistent; the Go memory model
itself (a data race is undefined behaviour) is outside the model.
-/
namespace GceTcb.Reentrancy
open GceTcb GceTcb.Verify

variable {Cert Roots Time : Type}

/-- Obligation on the regenerated facts: neither the validator closure (with its same-package callees)
    nor the constructor stores anything through captured variables or parameter pointers. -/
theorem C09_no_shared_writes :
    Gen.ClosureWrites.closureWrites = [] ∧ Gen.ClosureWrites.constructorWrites = [] := by decide

/-- Invariant: with no shared stores, the caller's options are the same after every schedule prefix. -/
theorem C09_shared_constant {n : Nat} (cfg : Cfg Cert Roots Time) (hc : cfg.constructorWrites = [])
    (hw : cfg.closureWrites = []) (calls : Fin n → Call) (σ : List (Fin n)) :
    (runSched cfg calls σ).shared = initShared cfg :=
  (runSched_spec cfg hc hw calls σ).1

/-- Isolation: with no shared stores, for every number of threads, all inputs and every complete
    schedule (any interleaving of concurrent invocations, any order of successive ones, one validator
    or several constructed from the same options value), each invocation's result is the result it gets
    when run alone. -/
theorem C09_isolated {n : Nat} (cfg : Cfg Cert Roots Time) (hc : cfg.constructorWrites = [])
    (hw : cfg.closureWrites = []) (calls : Fin n → Call) (σ : List (Fin n)) (hσ : Complete cfg σ) :
    results cfg calls σ = fun i => runAlone cfg (calls i) := by
  funext i
  have hi : 6 ≤ σ.count i := by
    have := hσ i
    simp only [fuel, hc, hw, List.length_nil] at this
    omega
  rw [runAlone_eq cfg hc hw, results, (runSched_spec cfg hc hw calls σ).2 i, iter_stable cfg hc hw (calls i) _ hi]

/-- A thread that finished got its isolated result even when the schedule is not complete
    (other threads may be anywhere). -/
theorem C09_finished_is_isolated {n : Nat} (cfg : Cfg Cert Roots Time) (hc : cfg.constructorWrites = [])
    (hw : cfg.closureWrites = []) (calls : Fin n → Call) (σ : List (Fin n)) (i : Fin n) (r : Res)
    (hr : results cfg calls σ i = some r) : runAlone cfg (calls i) = some r := by
  rw [results, (runSched_spec cfg hc hw calls σ).2 i] at hr
  -- done after `σ.count i` steps, the thread is where it is six steps later, and that is where six steps alone lead
  have h1 := iter_done cfg (calls i) initLocal (σ.count i) r (result_some _ r hr) 6
  have h2 := iter_stable cfg hc hw (calls i) (σ.count i + 6) (by omega)
  rw [runAlone_eq cfg hc hw, ← h2, h1]
  exact hr

/-- The isolated result is the validator closure of the C01 model applied to this call alone: it depends
    only on the call's attestation and serialized endorsement and on the options as configured. -/
theorem C09_alone_is_closure (cfg : Cfg Cert Roots Time) (hc : cfg.constructorWrites = [])
    (hw : cfg.closureWrites = []) (call : Call) :
    runAlone cfg call = some (snpClosure cfg.P cfg.familyID cfg.opts call.att call.serialized) := by
  rw [runAlone_eq cfg hc hw]
  exact iter_six_is_closure cfg hc hw call

/-- A report whose measurement is not endorsed is rejected whatever other validations are in flight:
    if the endorsement the call is checked against (pre-supplied, serialized argument, or fetched for
    this report's measurement) does not list the report's measurement for the configured VMSA count,
    the call is not accepted under any complete schedule, whatever the other threads validate. -/
theorem C09_unendorsed_rejected {n : Nat} (cfg : Cfg Cert Roots Time) (hc : cfg.constructorWrites = [])
    (hw : cfg.closureWrites = []) (calls : Fin n → Call) (σ : List (Fin n)) (hσ : Complete cfg σ)
    (i : Fin n) (a : Attestation) (hatt : (calls i).att = some a)
    (hun : ∀ e g, usedEndorsement cfg (calls i) a = some e → cfg.P.unmarshalGolden e.payload = some g →
      snp g ⟨some a.measurement, (cfg.opts.snp.getD ⟨none, 0⟩).expectedLaunchVMSAs⟩ ≠ none) :
    results cfg calls σ i ≠ some accept := by
  rw [C09_isolated cfg hc hw calls σ hσ]
  simp only [C09_alone_is_closure cfg hc hw]
  intro h
  obtain ⟨e, g, he, hu, hl⟩ := snpClosure_accept_listed cfg (calls i) a hatt (Option.some.inj h)
  exact hun e g he hu hl

/-- The current source: the regenerated write lists are empty, so isolation holds for the validator as
    the repository has it. -/
theorem C09_isolated_current_source {n : Nat} (P : Prims Cert Roots Time) (familyID : String)
    (opts : Options Roots Time) (calls : Fin n → Call) (σ : List (Fin n))
    (hσ : Complete (⟨P, familyID, opts, Gen.ClosureWrites.constructorWrites, Gen.ClosureWrites.closureWrites⟩ :
      Cfg Cert Roots Time) σ) :
    results ⟨P, familyID, opts, Gen.ClosureWrites.constructorWrites, Gen.ClosureWrites.closureWrites⟩ calls σ =
      fun i => some (snpClosure P familyID opts (calls i).att (calls i).serialized) := by
  have h := C09_no_shared_writes
  rw [C09_isolated _ h.2 h.1 calls σ hσ]
  funext i
  exact C09_alone_is_closure _ h.2 h.1 (calls i)

open Example in
/-- Witness for the old behaviour (non-empty write set): a complete two-thread schedule under which the
    unendorsed report is ACCEPTED although it is rejected when run alone — so the emptiness hypothesis
    of `C09_isolated` cannot be dropped, and the obligation `C09_no_shared_writes` is what carries it. -/
theorem C09_shared_store_witness :
    Complete oldCfg badSchedule ∧
    runAlone oldCfg (calls 0) = some (reject "snp:measurement-not-listed") ∧
    results oldCfg calls badSchedule 0 = some accept := by
  refine ⟨?_, by decide +kernel, by decide +kernel⟩
  intro i
  have : fuel oldCfg = 9 := by decide +kernel
  rw [this]
  match i with
  | 0 => decide +kernel
  | 1 => decide +kernel

open Example in
/-- Non-vacuity of `C09_isolated`: the fixed configuration meets the hypotheses, the same schedule is
    complete for it, and it yields the isolated results: unendorsed rejected, endorsed accepted. -/
example :
    newCfg.constructorWrites = [] ∧ newCfg.closureWrites = [] ∧
    results newCfg calls badSchedule 0 = some (reject "snp:measurement-not-listed") ∧
    results newCfg calls badSchedule 1 = some accept ∧
    runAlone newCfg (calls 1) = some accept := by
  decide +kernel

end GceTcb.Reentrancy
