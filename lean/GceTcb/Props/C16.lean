import GceTcb.Proofs.Extract
import GceTcb.Proofs.ExtractLocal
import GceTcb.Proofs.ExtractPath
import GceTcb.Proofs.Sp800155
/-
C16 — Endorsement discovery is deterministic, local-first and confined.
Property theorems only (helper lemmas: Proofs/Extract*.lean, Proofs/Sp800155.lean; model:
Model/Extract.lean, Model/Sp800155.lean; the property's own wording: Spec/Extract.lean).

The model describes the code WITH the two fix commits of this property (D10, D17); the witnesses
`C16_old_*` are about the previous object-name logic.  One deviation from the property text remains in
the code (a URI locator in the event log is fetched verbatim, and before the attestation's
certificate-table entry is looked at): the full statements are kept as `def`s, refuted by
`C16_finding_D19` / `C16_finding_D19b`, and the proved `_partial` theorems name the excluded case.
-/
namespace GceTcb.Extract
open GceTcb GceTcb.Sp800155 GceTcb.Spec.Extract

/-! ## Names: the regenerated constants are the specified ones -/

/-- Obligation over `Gen.Names` (rewritten from the source on every run): base URL, bucket, family
    prefixes, technology segments, extension, locator enum and precedence, measurement sizes, the
    Google variable GUID / name and the manufacturer are what the property names. -/
theorem C16_constants_as_specified :
    Gen.Names.gcsBaseURL = baseURL ∧ Gen.Names.bucket = bucket ∧
    Gen.Names.familyPrefixKnown = family ∧ Gen.Names.tdxFamilyPrefix = family ∧
    Gen.Names.familyPrefixUnknown = unknownFamily ∧
    Gen.Names.sevTech = sevTech ∧ Gen.Names.tdxTech = tdxTech ∧
    Gen.Names.sevExt = ext ∧ Gen.Names.tdxExt = ext ∧
    Gen.Names.knownFamilyIDs = [Gen.Names.gceUefiFamilyID, Gen.Names.gceFwCertGUID] ∧
    Gen.Names.sevMeasurementSize = measurementSize ∧ Gen.Names.tdxMrTdSize = measurementSize ∧
    Gen.Names.rimLocationRaw = locRaw ∧ Gen.Names.rimLocationURI = locURI ∧
    Gen.Names.rimLocationLocal = locLocal ∧ Gen.Names.rimLocationVariable = locVariable ∧
    Gen.Names.evNoAction = evNoAction ∧ Gen.Names.locatorPrecedence = precedence ∧
    Gen.Names.googleEfiVariable = googleVariableGUID ∧ Gen.Names.sp800155Variable = rimVariableName ∧
    Gen.Names.eventFirmwareManufacturerStr = manufacturer ∧ Gen.Names.gceFirmwareManufacturerBytes = manufacturer ∧
    Gen.Names.uriEventPrefix = family ∧ Gen.Names.uriEventExt = signedFirmwareExt :=
  ⟨rfl, rfl, rfl, rfl, rfl, rfl, rfl, rfl, rfl, rfl, rfl, rfl, rfl, rfl, rfl, rfl, rfl, rfl, rfl, rfl, rfl, rfl, rfl, rfl⟩

/-- The code's names are `<family prefix>/<technology>/<hex(measurement)>.binarypb` under the one
    bucket URL, for every measurement. -/
theorem C16_names_as_specified (m : Bytes) (obj : String) :
    sevObjectName Gen.Names.gceUefiFamilyID m = name sevTech m ∧
    sevObjectName Gen.Names.gceFwCertGUID m = name sevTech m ∧
    tdxObjectName m = name tdxTech m ∧
    gceTcbURL obj = url obj := by
  -- both ids are members of the regenerated list of known family ids
  have known : ∀ f ∈ Gen.Names.knownFamilyIDs, sevObjectName f m = name sevTech m := fun f hf => by
    unfold sevObjectName familyIDObjectPrefix
    rw [if_pos (List.contains_iff_mem.mpr hf)]
    rfl
  exact ⟨known _ List.mem_cons_self, known _ (List.mem_cons_of_mem _ List.mem_cons_self), rfl, rfl⟩

/-! ## Injectivity and separation -/

/-- Hex encoding is injective on all byte strings. -/
theorem C16_hex_injective (a b : Bytes) (h : hexEncode a = hexEncode b) : a = b := hex_injective a b h

/-- The object name (and the URL) is injective in the measurement, for every family and both
    technologies, for measurements of ANY lengths. -/
theorem C16_name_injective (fam : String) (a b : Bytes) :
    (sevObjectName fam a = sevObjectName fam b → a = b) ∧
    (tdxObjectName a = tdxObjectName b → a = b) ∧
    (gceTcbURL (sevObjectName fam a) = gceTcbURL (sevObjectName fam b) → a = b) ∧
    (gceTcbURL (tdxObjectName a) = gceTcbURL (tdxObjectName b) → a = b) :=
  ⟨objectName_injective _ _ _ a b, objectName_injective _ _ _ a b,
   fun h => objectName_injective _ _ _ a b (gceTcbURL_injective _ _ h),
   fun h => objectName_injective _ _ _ a b (gceTcbURL_injective _ _ h)⟩

/-- SEV-SNP and TDX names never collide, and names under different family prefixes never collide —
    for all measurements of all lengths; likewise for the URLs. -/
theorem C16_tech_separated (f1 f2 : String) (a b : Bytes) :
    sevObjectName f1 a ≠ tdxObjectName b ∧
    gceTcbURL (sevObjectName f1 a) ≠ gceTcbURL (tdxObjectName b) ∧
    (familyIDObjectPrefix f1 ≠ familyIDObjectPrefix f2 → sevObjectName f1 a ≠ sevObjectName f2 b) := by
  have nf : '/' ∉ family.toList := by decide +kernel
  have nu : '/' ∉ unknownFamily.toList := by decide +kernel
  have ns : ∀ f, '/' ∉ (familyIDObjectPrefix f).toList := fun f => by
    rcases familyIDObjectPrefix_cases f with h | h
    · rw [h]; exact nf
    · rw [h]; exact nu
  have hsep : sevObjectName f1 a ≠ tdxObjectName b := by
    unfold sevObjectName tdxObjectName
    rcases familyIDObjectPrefix_cases f1 with h | h <;> rw [h]
    · exact objectName_tech_separated family _ _ _ _ a b nf (by decide +kernel) (by decide +kernel) (by decide +kernel)
    · exact objectName_prefix_separated _ _ _ _ _ _ a b nu nf (by decide +kernel)
  exact ⟨hsep, fun h => hsep (gceTcbURL_injective _ _ h),
    fun hne => objectName_prefix_separated _ _ _ _ _ _ a b (ns f1) (ns f2) hne⟩

/-- Non-vacuity: concrete names; a known and an unknown family do get different prefixes. -/
example : sevObjectName Gen.Names.gceUefiFamilyID [0x01, 0xab] = "ovmf_x64_csm/sevsnp/01ab.binarypb" ∧
    tdxObjectName [0x01, 0xab] = "ovmf_x64_csm/tdx/01ab.binarypb" ∧
    gceTcbURL "x" = "https://storage.googleapis.com/gce_tcb_integrity/x" ∧
    familyIDObjectPrefix Gen.Names.gceUefiFamilyID ≠ familyIDObjectPrefix "" := by decide +kernel

/-! ## The emitted events parse back to what was emitted -/

/-- For every hash `H`, every string encoding, every image and every 16 random bytes: if `makeEvents`
    succeeds it yields exactly two events that parse back (through the event-log decoder) to the
    variable-locator event and the URI-locator event under the same reference-manifest GUID; the
    variable locator is the regenerated `rimVar`, the URI locator is the bucket URL of
    `ovmf_x64_csm/<hex(H image)>.fd.signed`, and both name the Google firmware manufacturer. -/
theorem C16_events_roundtrip (H : Bytes → Bytes) (strBytes : String → Bytes) (random image : Bytes) (evs : List Bytes)
    (hr : random.length = 16) (h : makeEvents H strBytes random image = some evs) :
    ∃ v u ve ue, evs = [v, u] ∧ parseEventData v = some ve ∧ parseEventData u = some ue ∧
      ve.guid = rimUUID random ∧ ue.guid = rimUUID random ∧
      ve.rimLocatorType = locVariable ∧ ve.rimLocator = Gen.Names.rimVar ∧
      ue.rimLocatorType = locURI ∧
      ue.rimLocator = strBytes (url (family ++ "/" ++ hexEncode (H image) ++ signedFirmwareExt)) ∧
      ve.firmwareManufacturerStr = manufacturer ∧ ue.firmwareManufacturerStr = manufacturer := by
  unfold makeEvents at h
  split at h
  · next v u hv hu =>
    simp only [Option.some.injEq] at h
    have hg := (rimUUID_length random).trans hr
    have i1 : Gen.Names.eventPlatformManufacturerID < 2 ^ 32 := by decide +kernel
    have i2 : Gen.Names.eventFirmwareManufacturerID < 2 ^ 32 := by decide +kernel
    have i3 : Gen.Names.rimLocationVariable < 2 ^ 32 := by decide +kernel
    have i4 : Gen.Names.rimLocationURI < 2 ^ 32 := by decide +kernel
    have i5 : (0 : Nat) < 2 ^ 32 := by decide +kernel
    have pv := parse_marshal (varEvent (rimUUID random)) v hv hg i1 i2 i3 i5
    have pu := parse_marshal (uriEvent strBytes (rimUUID random) (H image)) u hu hg i1 i2 i4 i5
    exact ⟨v, u, _, _, h.symm, pv, pu, rfl, rfl, rfl, rfl, rfl, rfl, rfl, rfl⟩
  · simp at h

/-- The emitted variable locator decodes to the Google GUID and the UCS-2 name "FirmwareRIM", i.e. to
    the efivarfs entry `FirmwareRIM-a2858e46-a37f-456a-8c79-0c1fe48b65ff`. -/
theorem C16_variable_locator_is_FirmwareRIM :
    ∃ g n, variableLocatorDecode Gen.Names.rimVar = some (g, n) ∧
      uuidString g = googleVariableGUID ∧ ucs2toUTF8 n = .ok rimVariableName := by
  refine ⟨[0xa2, 0x85, 0x8e, 0x46, 0xa3, 0x7f, 0x45, 0x6a, 0x8c, 0x79, 0x0c, 0x1f, 0xe4, 0x8b, 0x65, 0xff],
    [70, 0, 105, 0, 114, 0, 109, 0, 119, 0, 97, 0, 114, 0, 101, 0, 82, 0, 73, 0, 77, 0, 0, 0],
    by decide +kernel, by decide +kernel, by decide +kernel⟩

set_option maxRecDepth 8000 in
/-- Non-vacuity: `makeEvents` does succeed (here with a 2-byte "hash" and a 3-byte URL encoding). -/
example : (makeEvents (fun _ => [0xaa, 0xbb]) (fun _ => [1, 2, 3]) (List.replicate 16 0xff) [1]).isSome = true := by decide +kernel

/-! ## Local first -/

/-- FULL STRENGTH for the event log: when the event log holds a raw or UEFI-variable locator that can
    be read (raw first, manufacturer filter applied) and ForceFetch is off, `Endorsement` returns those
    bytes, asks the getter nothing and consults neither quote nor provider. -/
theorem C16_local_first_eventlog (env : Env) (o : Options) (b : Bytes)
    (hf : o.forceFetch = false) (h : eventLogLocal env o = some b) :
    (endorsement env o).out = .ok b ∧ (endorsement env o).urls = [] ∧ (endorsement env o).provCalls = 0 := by
  obtain ⟨hout, hurls⟩ := eventLogLocal_some env o b h
  have hl : o.eventLog.isSome = true := by
    unfold eventLogLocal at h
    split at h
    · next hl => rw [hl]; rfl
    · simp at h
  rw [endorsement_eventlog_ok env o b hf hl hout]
  exact ⟨hout, hurls, fromEventLog_provCalls env o⟩

/-- The full local-first statement of the property. -/
def LocalFirstFull : Prop :=
  ∀ (env : Env) (o : Options) (b : Bytes), o.forceFetch = false → o.reader.isSome = true →
    localEvidence env o = some b →
    (endorsement env o).out = .ok b ∧ (endorsement env o).urls = []

/-- PARTIAL (what is missing: the case in which the event-log phase itself went to the network, i.e. a
    URI locator was selected — see `C16_finding_D19`): with ForceFetch off, a reader configured and no
    URL requested by the event-log phase, local evidence — the event log's raw or variable locator,
    then the supplied attestation's certificate-table entry, then the provider's — is returned byte for
    byte and the getter is asked nothing. -/
theorem C16_local_first_partial (env : Env) (o : Options) (b : Bytes)
    (hf : o.forceFetch = false) (hr : o.reader.isSome = true)
    (hnouri : (fromEventLog env o).urls = [])
    (h : localEvidence env o = some b) :
    (endorsement env o).out = .ok b ∧ (endorsement env o).urls = [] := by
  cases hel : eventLogLocal env o with
  | some b' =>
    simp only [localEvidence, hel, Option.some.injEq] at h
    subst h
    have := C16_local_first_eventlog env o b' hf hel
    exact ⟨this.1, this.2.1⟩
  | none =>
    -- the endorsement continues with the quote phase, with no URL requested so far
    have hcont : ∃ paths, endorsement env o = quotePhase fromQuote false env o [] paths := by
      by_cases hl : o.eventLog.isSome = true
      · obtain ⟨c, hc⟩ := eventLogLocal_none env o hel hr hnouri
        exact ⟨_, by rw [endorsement_eventlog_err env o c hf hl hc, hnouri]⟩
      · exact ⟨[], endorsement_skip_eventlog env o (Or.inl (by simpa using hl))⟩
    obtain ⟨paths, hcont⟩ := hcont
    obtain ⟨n, hq⟩ := quotePhase_localEvidence env o b [] paths hf hel h
    rw [hcont, hq]
    exact ⟨rfl, rfl⟩

/-- The world of the two D19 witnesses: a getter that answers, and an event log whose only locator is a URI. -/
def d19Env : Env := { secureJoin := fun _ _ => none, readFile := fun _ => none, get := fun _ => some [1] }
def d19Opts (quote : Option Tee) : Options :=
  { provider := none, hasGetter := true, manufacturer := [], eventLog := some (.parsed [⟨3, some ⟨[], 1, [104]⟩⟩]),
    reader := some "/efi", quote := quote, forceFetch := false }

/-- FINDING D19 (code as it is): with only a URI locator in the event log and a certificate-table
    entry in the supplied attestation, the network is asked first and its answer is returned. -/
theorem C16_finding_D19 : ¬ LocalFirstFull := by
  intro hfull
  have := hfull d19Env (d19Opts (some (.sev (List.replicate 48 0) (some [7])))) [7] rfl rfl (by decide +kernel)
  revert this
  decide +kernel

/-- Non-vacuity of the local-first theorems: a log with a raw locator, and a quote with a
    certificate-table entry next to an unreadable log. -/
example :
    let env : Env := { secureJoin := fun _ _ => none, readFile := fun _ => none, get := fun _ => some [1] }
    let o1 : Options := { provider := none, hasGetter := true, manufacturer := [], eventLog := some (.parsed [⟨3, some ⟨[], 0, [9, 9]⟩⟩]),
                          reader := some "/efi", quote := none, forceFetch := false }
    let o2 : Options := { o1 with eventLog := some .unreadable, quote := some (.sev (List.replicate 48 0) (some [7])) }
    eventLogLocal env o1 = some [9, 9] ∧ localEvidence env o2 = some [7] ∧ (fromEventLog env o2).urls = [] :=
  ⟨rfl, rfl, rfl⟩

/-! ## Fetch only when forced or needed; only for full-length measurements -/

/-- Every URL handed to the getter is either built by extraction from the object name of the supplied
    or the provided quote, whose measurement is then exactly 48 bytes long, or is the verbatim URI
    locator of the event that the (unforced) event-log phase selected. -/
theorem C16_fetch_url_classified (env : Env) (o : Options) (u : Url) (hu : u ∈ (endorsement env o).urls) :
    (∃ tee, (o.quote = some tee ∨ o.provider = some (some (some tee))) ∧ (teeMeasurement tee).length = 48 ∧
        u = .derived (gceTcbURL (teeObjectName tee))) ∨
    (o.forceFetch = false ∧ ∃ evs e, o.eventLog = some (.parsed evs) ∧ selectEvent o.manufacturer evs = some e ∧
        e.locType = locURI ∧ u = .verbatim e.locator) := by
  have viaLog := fun h : u ∈ (fromEventLog env o).urls => fromEventLog_urls_verbatim env o u h
  cases hf : o.forceFetch with
  | true =>
    rw [endorsement_skip_eventlog env o (Or.inr hf)] at hu
    exact (mem_quotePhase_urls env o _ _ u hu).elim (nomatch ·) Or.inl
  | false =>
    rcases endorsement_cases env o with h | h | h <;> rw [h] at hu
    · exact Or.inr ⟨rfl, viaLog hu⟩
    · exact (mem_quotePhase_urls env o _ _ u hu).elim (fun h' => Or.inr ⟨rfl, viaLog h'⟩) Or.inl
    · exact (mem_quotePhase_urls env o _ _ u hu).elim (nomatch ·) Or.inl

/-- FULL STRENGTH: EVERY URL that extraction builds (every `Url.derived`) is
    `GCETcbURL(objectName m)` for the 48-byte measurement `m` of the supplied or the provided quote —
    never the bucket root, never a name from a truncated measurement. -/
theorem C16_fetch_url_full_length (env : Env) (o : Options) (s : String)
    (hu : Url.derived s ∈ (endorsement env o).urls) :
    ∃ tee, (o.quote = some tee ∨ o.provider = some (some (some tee))) ∧ (teeMeasurement tee).length = 48 ∧
      s = gceTcbURL (teeObjectName tee) ∧
      (s = url (name sevTech (teeMeasurement tee)) ∨ s = url (name tdxTech (teeMeasurement tee))) := by
  rcases C16_fetch_url_classified env o _ hu with ⟨tee, hsrc, hl, he⟩ | ⟨_, _, _, _, _, _, he⟩
  · simp only [Url.derived.injEq] at he
    refine ⟨tee, hsrc, hl, he, ?_⟩
    rw [he]
    cases tee with
    | sev m x => exact Or.inl (congrArg gceTcbURL (C16_names_as_specified m "").1)
    | tdx m => exact Or.inr (congrArg gceTcbURL (C16_names_as_specified m "").2.2.1)
  · simp at he

/-- The two other sites that build a URL, the validator closure of `verify` and `SevValidate`'s own fetch,
    request only the URL of a 48-byte report measurement. -/
theorem C16_fetch_url_full_length_sites (fam : String) (m : Option Bytes) (m' : Bytes) (a b c : Bool) (u : Url) :
    (u ∈ closureFetch fam m a b c → ∃ x, m = some x ∧ x.length = 48 ∧ u = .derived (gceTcbURL (sevObjectName fam x))) ∧
    (u ∈ sevValidateFetch m' a c → m'.length = 48 ∧ u = .derived (gceTcbURL (sevObjectName Gen.Names.gceUefiFamilyID m'))) := by
  constructor
  · intro h
    cases m with
    | none => cases h
    | some x =>
      simp only [closureFetch, List.mem_ite_nil_left, List.mem_ite_nil_right, List.mem_singleton] at h
      exact ⟨x, rfl, Decidable.of_not_not h.1, h.2.2.2⟩
  · intro h
    simp only [sevValidateFetch, List.mem_ite_nil_left, List.mem_singleton] at h
    exact ⟨Decidable.of_not_not h.2.2.1, h.2.2.2⟩

/-- The strict reading of "a network fetch is only ever issued for a URL derived from a full-length
    measurement". -/
def AllFetchesFromMeasurement : Prop :=
  ∀ (env : Env) (o : Options) (u : Url), u ∈ (endorsement env o).urls → ∃ s, u = .derived s

/-- FINDING D19b (code as it is): the URI locator of the event log is handed to the getter verbatim. -/
theorem C16_finding_D19b : ¬ AllFetchesFromMeasurement := by
  intro h
  obtain ⟨s, hs⟩ := h d19Env (d19Opts none) (.verbatim [104]) (by decide +kernel)
  cases hs

/-- A URL is built and fetched only when the fetch is forced or no local evidence exists (no
    readable raw/variable locator, no certificate-table entry in the supplied quote, none in the
    provider's quote when that is the one consulted). -/
theorem C16_no_fetch_unless_forced_or_needed (env : Env) (o : Options) (s : String)
    (hu : Url.derived s ∈ (endorsement env o).urls) :
    o.forceFetch = true ∨ localEvidence env o = none := by
  cases hf : o.forceFetch with
  | true => left; rfl
  | false =>
    right
    have notInLog : Url.derived s ∉ (fromEventLog env o).urls := by
      intro h
      obtain ⟨_, _, _, _, _, he⟩ := fromEventLog_urls_verbatim env o _ h
      simp at he
    cases hle : localEvidence env o with
    | none => rfl
    | some b =>
      exfalso
      cases hel : eventLogLocal env o with
      | some b' =>
        have := C16_local_first_eventlog env o b' hf hel
        rw [this.2.1] at hu; simp at hu
      | none =>
        -- whichever way the event-log phase ended, the quote phase (if reached) adds nothing to its URLs
        have hq : ∀ urls paths, (quotePhase fromQuote false env o urls paths).urls = urls := fun urls paths => by
          obtain ⟨n, e⟩ := quotePhase_localEvidence env o b urls paths hf hel hle
          rw [e]
        rcases endorsement_cases env o with h | h | h <;> rw [h] at hu
        · exact notInLog hu
        · rw [hq] at hu; exact notInLog hu
        · rw [hq] at hu; cases hu

/-- With ForceFetch the event log is not consulted: no variable is opened and no URI locator fetched. -/
theorem C16_force_skips_eventlog (env : Env) (o : Options) (hf : o.forceFetch = true) :
    (endorsement env o).paths = [] ∧ ∀ loc, Url.verbatim loc ∉ (endorsement env o).urls := by
  rw [endorsement_skip_eventlog env o (Or.inr hf)]
  refine ⟨quotePhase_paths .., ?_⟩
  intro loc h
  rcases mem_quotePhase_urls env o [] [] _ h with h | ⟨_, _, _, h⟩ <;> cases h

/-- A forced fetch after a local hit asks for the object named after the quote's 48-byte
    measurement (and returns what the getter returns). -/
theorem C16_forced_fetch_after_local_hit (env : Env) (o : Options) (m blob : Bytes)
    (hf : o.forceFetch = true) (hg : o.hasGetter = true) (hm : m.length = 48)
    (hq : o.quote = some (.sev m (some blob))) :
    (endorsement env o).urls = [.derived (url (name sevTech m))] ∧ (endorsement env o).provCalls = 0 := by
  rw [endorsement_skip_eventlog env o (Or.inr hf)]
  unfold quotePhase
  rw [hq]
  have h48 : m.length = Gen.Names.sevMeasurementSize := hm
  have hn := (C16_names_as_specified m (name sevTech m)).1
  have hu := (C16_names_as_specified m (name sevTech m)).2.2.2
  simp only [fromQuote, h48, if_true, hf, Bool.not_true, Bool.and_false, Bool.false_eq_true, if_false]
  unfold fetchPhase
  simp only [hg, if_true, Bool.false_eq_true, if_false, hn, hu]
  cases env.get (Url.derived (url (name sevTech m))) <;> exact ⟨rfl, rfl⟩

/-- Non-vacuity: a forced fetch over a quote that carries the endorsement locally. -/
example :
    let env : Env := { secureJoin := fun _ _ => none, readFile := fun _ => none, get := fun _ => some [1] }
    let o : Options := { provider := none, hasGetter := true, manufacturer := [], eventLog := none, reader := none,
                         quote := some (.sev (List.replicate 48 0) (some [7])), forceFetch := true }
    (endorsement env o).out = .ok [1] ∧ (endorsement env o).urls.length = 1 := ⟨rfl, rfl⟩

/-! ## Witnesses on the previous object-name logic (D10, D17) -/

/-- D10 on the OLD logic: ForceFetch over a quote whose certificate table carries the endorsement
    requests the bucket ROOT (empty object name) and returns that body; so does an unreadable quote;
    a certificate-table-only input (1-byte measurement) yields a URL named after one byte. -/
theorem C16_old_forcefetch_root_url :
    let env : Env := { secureJoin := fun _ _ => none, readFile := fun _ => none, get := fun _ => some [1] }
    let o : Options := { provider := none, hasGetter := true, manufacturer := [], eventLog := none, reader := none,
                         quote := some (.sev (List.replicate 48 0) (some [7])), forceFetch := true }
    (endorsementOld env o).urls = [.derived (gceTcbURL "")] ∧ (endorsementOld env o).out = .ok [1] ∧
    (endorsementOld env { o with quote := none, forceFetch := false }).urls = [.derived (gceTcbURL "")] ∧
    (endorsementOld env { o with quote := some (.sev [0] none) }).urls =
      [.derived (gceTcbURL (sevObjectName Gen.Names.gceUefiFamilyID [0]))] ∧
    -- the fixed code on the same three inputs: right object, no fetch, no fetch
    (endorsement env o).urls = [.derived (gceTcbURL (sevObjectName Gen.Names.gceUefiFamilyID (List.replicate 48 0)))] ∧
    (endorsement env { o with quote := none, forceFetch := false }).urls = [] ∧
    (endorsement env { o with quote := some (.sev [0] none) }).urls = [] :=
  ⟨rfl, rfl, rfl, rfl, rfl, rfl, rfl⟩

/-- D17 on the OLD logic of `extractEndorsement`: the 4-byte measurement "blah" of the repository's own
    test produces a request; the gated code requests nothing. -/
theorem C16_old_sevvalidate_short_url :
    sevValidateFetchOld [98, 108, 97, 104] false true =
      [.derived (gceTcbURL (sevObjectName Gen.Names.gceUefiFamilyID [98, 108, 97, 104]))] ∧
    sevValidateFetch [98, 108, 97, 104] false true = [] :=
  ⟨rfl, rfl⟩

/-! ## Confinement -/

/-- PARTIAL (lexical; symlink resolution and TOCTOU between join and open belong to
    filepath-securejoin and the kernel): under the contract of `secureJoin` — its result is lexically
    inside the root — every path `Endorsement` opens is inside the configured efivarfs root, for every
    event log, every variable name and GUID. -/
theorem C16_confined (env : Env) (o : Options) (root : String)
    (hsj : ∀ r u p, env.secureJoin r u = some p → Inside r p) (hr : o.reader = some root) :
    ∀ p ∈ (endorsement env o).paths, Inside root p := by
  intro p hp
  obtain ⟨root', u, hr', hj⟩ := fromEventLog_paths env o p (endorsementWith_paths _ _ env o p hp)
  cases hr.symm.trans hr'
  exact hsj root u p hj

/-- Same for the reader alone, for every GUID and every name (including undecodable ones). -/
theorem C16_confined_reader (env : Env) (root : String) (guid name : Bytes)
    (hsj : ∀ r u p, env.secureJoin r u = some p → Inside r p) :
    ∀ p ∈ (readVariable env root guid name).paths, Inside root p := by
  intro p hp
  obtain ⟨u, hu⟩ := readVariable_paths env root guid name p hp
  exact hsj root u p hu

/-- The contract is satisfiable: the lexical behaviour of filepath-securejoin (no symlinks below the
    root) meets it for every root and every unsafe path — so the hypothesis of `C16_confined` is not
    vacuous, and `..`, `/`, NUL and over-long components are covered by it. -/
theorem C16_secureJoinLex_meets_contract (root u p : String) (h : secureJoinLex root u = some p) : Inside root p :=
  secureJoinLex_inside root u p h

set_option maxRecDepth 8000 in
/-- Non-vacuity: hostile names resolve inside the root (or are refused). -/
example : secureJoinLex "/efi" "../../etc/passwd-x" = some "/efi/etc/passwd-x" ∧
    secureJoinLex "/efi" "a/../../b/./c//d" = some "/efi/b/c/d" ∧
    secureJoinLex "/efi" "/abs" = some "/efi/abs" ∧
    secureJoinLex "/efi" "a\x00b" = none := by decide +kernel

end GceTcb.Extract
