import GceTcb.Proofs.Pipeline
/-
C03 — Whatever the signer produces verifies, also after key rotations.

All theorems assume only `Laws P` (sign/verify agreement, unmarshal ∘ marshal = id, a certificate issued
by a self-signed CA root inside both validity windows chains) and hold for every hash-and-signature
scheme, every history `bootstrap; rotate*` with arbitrary times, every request and every verification
time inside both certificates' validity.
-/
namespace GceTcb.Pipeline
open GceTcb GceTcb.Policy

/-- What every reachable authority state satisfies. -/
structure WellFormed (ca : CA) : Prop where
  root_self : ca.root.issuer = ca.root.subject
  root_ca : ca.root.isCA = true
  root_key : ca.root.subject = ca.rootKey
  prim_issuer : ca.primary.issuer = ca.root.subject
  prim_key : ca.primary.subject = ca.primaryKey

theorem wf_bootstrap (L : Lifetimes) (t : Nat) : WellFormed (bootstrap L t) :=
  ⟨rfl, rfl, rfl, rfl, rfl⟩

theorem wf_rotate (L : Lifetimes) (ca : CA) (t : Nat) (h : WellFormed ca) : WellFormed (rotate L ca t) :=
  ⟨h.root_self, h.root_ca, h.root_key, h.root_key.symm ▸ rfl, rfl⟩

theorem wf_history (L : Lifetimes) (t0 : Nat) (rots : List Nat) : WellFormed (history L t0 rots) :=
  List.foldlRecOn rots (rotate L) (wf_bootstrap L t0) fun ca h t _ => wf_rotate L ca t h

/-- Core lemma: an endorsement made in a well-formed state verifies under any root equal to that
    state's root, at any time inside both validity windows, for any options it satisfies. -/
theorem verify_endorse {β : Type} (P : Prims β) (hl : Laws P) (cd : Nat) (ca : CA) (hw : WellFormed ca)
    (r : Request) (hp : hasProvenance r) (t : Nat) (hr : ca.root.valid t) (hs : ca.primary.valid t)
    (ed : Bytes) (hed : ed = [] ∨ ed = r.digest) (so : Option SNPOptions)
    (hso : ∀ o, so = some o → snp r.sev o = true) :
    verifyEndorsement P cd (endorse P ca r) ⟨some [ca.root], t, ed, so⟩ = true :=
  verify_endorse_of P cd ca r hp t (hl.unmarshal_marshal _)
    (hl.chain_ok _ _ t hw.prim_issuer hw.root_self hw.root_ca hr hs)
    (hw.prim_key ▸ hl.sig_ok _ _) ed hed so hso

/-- The endorsement the pipeline writes is accepted under the authority's root certificate at any
    time inside the validity of both certificates — after bootstrap and after any number of rotations
    at any times. -/
theorem C03_signed_verifies {β : Type} (P : Prims β) (hl : Laws P) (L : Lifetimes) (cd t0 : Nat) (rots : List Nat)
    (r : Request) (hp : hasProvenance r) (t : Nat)
    (hr : (history L t0 rots).root.valid t) (hs : (history L t0 rots).primary.valid t) :
    verifyEndorsement P cd (endorse P (history L t0 rots) r) ⟨some [(history L t0 rots).root], t, [], none⟩ = true :=
  verify_endorse P hl cd _ (wf_history L t0 rots) r hp t hr hs [] (Or.inl rfl) none (fun _ h => nomatch h)

/-- …and also when the verifier names the firmware digest the document carries. -/
theorem C03_signed_verifies_digest {β : Type} (P : Prims β) (hl : Laws P) (L : Lifetimes) (cd t0 : Nat) (rots : List Nat)
    (r : Request) (hp : hasProvenance r) (t : Nat)
    (hr : (history L t0 rots).root.valid t) (hs : (history L t0 rots).primary.valid t) :
    verifyEndorsement P cd (endorse P (history L t0 rots) r) ⟨some [(history L t0 rots).root], t, r.digest, none⟩ = true :=
  verify_endorse P hl cd _ (wf_history L t0 rots) r hp t hr hs r.digest (Or.inr rfl) none (fun _ h => nomatch h)

/-- Endorsements issued before further rotations remain verifiable after them: the root is invariant
    under rotation, and the document carries its own signing certificate. -/
theorem C03_old_endorsements_survive {β : Type} (P : Prims β) (hl : Laws P) (L : Lifetimes) (cd t0 : Nat)
    (rots later : List Nat) (r : Request) (hp : hasProvenance r) (t : Nat)
    (hr : (history L t0 rots).root.valid t) (hs : (history L t0 rots).primary.valid t) :
    verifyEndorsement P cd (endorse P (history L t0 rots) r)
      ⟨some [(history L t0 (rots ++ later)).root], t, [], none⟩ = true :=
  history_append_root L t0 rots later ▸ C03_signed_verifies P hl L cd t0 rots r hp t hr hs

/-- Every SEV-SNP measurement the document lists is accepted for its configuration: presenting the
    48-byte value listed for `n` launch VMSAs with `n` named verifies. -/
theorem C03_every_listed_snp_accepted {β : Type} (P : Prims β) (hl : Laws P) (L : Lifetimes) (cd t0 : Nat) (rots : List Nat)
    (r : Request) (hp : hasProvenance r) (t : Nat)
    (hr : (history L t0 rots).root.valid t) (hs : (history L t0 rots).primary.valid t)
    (s : SevSnp) (hsev : r.sev = some s) (hkeys : (s.measurements.map (·.1)).Nodup)
    (n : Nat) (m : Bytes) (hn : n ≠ 0) (hmem : (n, m) ∈ s.measurements) :
    verifyEndorsement P cd (endorse P (history L t0 rots) r)
      ⟨some [(history L t0 rots).root], t, [], some ⟨some m, n⟩⟩ = true := by
  apply verify_endorse P hl cd _ (wf_history L t0 rots) r hp t hr hs [] (Or.inl rfl)
  rintro _ ⟨⟩
  have hne : s.measurements.isEmpty = false := List.isEmpty_eq_false_iff_exists_mem.mpr ⟨_, hmem⟩
  simp [hsev, snp, hn, hne, mlookup_of_mem s.measurements hkeys n m hmem]

/-- The SVSM measurement the document lists is accepted for its configuration, the single-VMSA
    launch — whether or not a measurement is also listed under one launch VMSA, and whichever other
    counts the request asked for — and also when no VMSA count is named. -/
theorem C03_listed_svsm_accepted {β : Type} (P : Prims β) (hl : Laws P) (L : Lifetimes) (cd t0 : Nat) (rots : List Nat)
    (r : Request) (hp : hasProvenance r) (t : Nat)
    (hr : (history L t0 rots).root.valid t) (hs : (history L t0 rots).primary.valid t)
    (s : SevSnp) (hsev : r.sev = some s) (hsv : s.svsm.isEmpty = false) (hne : s.measurements.isEmpty = false)
    (n : Nat) (hn : n = 1 ∨ n = 0) :
    verifyEndorsement P cd (endorse P (history L t0 rots) r)
      ⟨some [(history L t0 rots).root], t, [], some ⟨some s.svsm, n⟩⟩ = true := by
  apply verify_endorse P hl cd _ (wf_history L t0 rots) r hp t hr hs [] (Or.inl rfl)
  rintro _ ⟨⟩
  rcases hn with rfl | rfl
  · simp [hsev, snp, hne, hsv]
  · simp [hsev, snp]

/-- Non-vacuity: a document that lists only the 4-VMSA measurement and an SVSM measurement meets the
    hypotheses, and the pre-check order matters — looking the VMSA count up first would refuse it. -/
example :
    let s : SevSnp := ⟨0, 1, [(4, [7])], [9], []⟩
    s.svsm.isEmpty = false ∧ s.measurements.isEmpty = false ∧ mlookup s.measurements 1 = none ∧
    snp (some s) ⟨some s.svsm, 1⟩ = true ∧ snp (some s) ⟨some s.svsm, 0⟩ = true := by decide

/-- Every TDX measurement the document lists is accepted for its configuration (the policy derived
    for the row's RAM size admits the row's MRTD), for well-formed tables (48-byte MRTDs). -/
theorem C03_every_listed_mrtd_accepted (rows : List TdxRow) (hwf : ∀ x ∈ rows, x.mrtd.length = mrTdSize)
    (row : TdxRow) (hmem : row ∈ rows) (hram : row.ramGib < 4294967296) :
    tdxValidateMeasurement () () (some rows) row.mrtd (none : Option (TdxPolicy Unit Unit)) false
      (row.ramGib : Int) true = true :=
  every_listed_mrtd_accepted () () rows hwf row hmem hram

/-- The signed bytes are stored and re-emitted verbatim: an independent signature check over the
    emitted payload and signature under the key of the emitted certificate succeeds. -/
theorem C03_bytes_verbatim {β : Type} (P : Prims β) (hl : Laws P) (ca : CA) (hw : WellFormed ca) (r : Request) :
    ∃ c, inspectCert P (endorse P ca r) = some c ∧ c = ca.primary ∧
      P.checkSig c.subject (inspectPayload (endorse P ca r)) (inspectSignature (endorse P ca r)) = true := by
  refine ⟨ca.primary, ?_, rfl, ?_⟩
  · simp [inspectCert, endorse, hl.unmarshal_marshal]
  · exact hw.prim_key ▸ hl.sig_ok _ _

/-- Non-vacuity: the laws are satisfiable (the identity wire format with a signature scheme that
    records the signer), and a history with two rotations has a non-empty window in which both
    certificates are valid. -/
example : Laws refPrims := by
  refine ⟨?_, ?_, ?_⟩
  · intro k m; simp [refPrims]
  · intro g; rfl
  · intro c r now h1 h2 h3 h4 h5
    simp [refPrims, h1, h2, h3, h4.1, h4.2, h5.1, h5.2]

example :
    let L : Lifetimes := ⟨9131 * 86400, 1826 * 86400⟩
    let ca := history L 1000 [2000, 3000]
    ca.primaryKey = 3 ∧ ca.root.valid 3500 ∧ ca.primary.valid 3500 := by
  simp [history, bootstrap, rotate, Cert.valid]

end GceTcb.Pipeline
