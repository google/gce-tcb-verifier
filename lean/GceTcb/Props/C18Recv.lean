import GceTcb.Proofs.Codecs
import GceTcb.Proofs.EventLog
import GceTcb.Proofs.EventLogRecv
import GceTcb.Gen.RecvStores
import GceTcb.Gen.AbiSizes
import GceTcb.Spec.AbiLayouts
/-
C18 — Binary codecs are mutually inverse, size-exact and strict: the clauses for a REUSED receiver / buffer.

The Go decoders decode INTO a value the caller supplies, the `Put…` encoders write INTO a buffer the caller supplies.
Props/C18.lean states round-trip and canonicity for the functional decoders (a decode into a fresh value).
Here, over Model/EventLogRecv.lean (`…Into recv input : RRes Value`, the receiver's state after the call on every
path, following the Go stores one by one):

  `C18_recv_X_indep`     for ALL receivers and inputs the decode into the receiver reports what the functional decoder
                         reports — success, value, rest, error class (`toRes … = read…`); `C18_recv_X_iff` is the
                         two-directional reading `…Into recv b = ok v rest ↔ read… b = ok v rest`;
  `C18_recv_X_roundtrip` / `C18_recv_X_canon`   the round-trip and canonicity theorems of Props/C18.lean for a reused
                         receiver (whatever it held: earlier successful decodings or the leftovers of failed ones);
  `C18_recv_X_failed*`   what a FAILED decode leaves in the receiver: unchanged (sized array, string, GUID), the exact
                         partial stores (digest, SHA-1 array, digest array = the elements decoded so far), and the
                         observations `C18_recv_*_failed_reencodes` (a failed decode can leave a receiver that
                         re-encodes to bytes that were never accepted — with witnesses);
  `C18_recv_finding_*`   the four store variants that are NOT the tree (seeded C18-G `keepOnEmpty`; `digestsAppend`;
                         `logAppends` = CryptoAgileLog.Unmarshal before the repair; `event3Reuse`) each violate
                         `C18_recv_*_indep`, by a concrete receiver and input;
  `C18_recv_put_*`       buffer-writing encoders: the bytes written do not depend on the previous buffer contents and
                         nothing beyond the documented size is touched; the buffer after a refused PutSevEsResetBlock;
  `C18_recv_fields_assigned`   regenerated from the Go source: per Unmarshal method the receiver fields assigned and that
                         every successful return is preceded by the stores the model makes.
-/
namespace GceTcb.C18Recv
open GceTcb GceTcb.Codec GceTcb.Codecs GceTcb.EventLog
open GceTcb.Gen GceTcb.Spec

/-! ## success does not depend on the receiver -/

theorem C18_recv_SizedArray_indep (k : RKind) (w : Nat) (recv b : Bytes) :
    (readSizedArrayInto .tree k w recv b).toRes = readSizedArray ⟨true, k⟩ w b := toRes_readSizedArrayInto k w recv b

theorem C18_recv_SizedArray_iff (k : RKind) (w : Nat) (recv b d rest : Bytes) :
    readSizedArrayInto .tree k w recv b = .ok d rest ↔ readSizedArray ⟨true, k⟩ w b = .ok d rest :=
  RRes.eq_ok_iff (C18_recv_SizedArray_indep k w recv b)

theorem C18_recv_CStr_indep (k : RKind) (recv b : Bytes) :
    (readCStrInto .tree k recv b).toRes = readCStr ⟨true, k⟩ b := toRes_readCStrInto k recv b

theorem C18_recv_CStr_iff (k : RKind) (recv b s rest : Bytes) :
    readCStrInto .tree k recv b = .ok s rest ↔ readCStr ⟨true, k⟩ b = .ok s rest :=
  RRes.eq_ok_iff (C18_recv_CStr_indep k recv b)

theorem C18_recv_U32Array_indep (k : RKind) (recv b : Bytes) :
    (readU32ArrayInto .tree k recv b).toRes = readU32Array ⟨true, k⟩ b := toRes_readU32ArrayInto k recv b

theorem C18_recv_U32Array_iff (k : RKind) (recv b d rest : Bytes) :
    readU32ArrayInto .tree k recv b = .ok d rest ↔ readU32Array ⟨true, k⟩ b = .ok d rest :=
  RRes.eq_ok_iff (C18_recv_U32Array_indep k recv b)

theorem C18_recv_Guid_indep (recv b : Bytes) : (readGuidInto recv b).toRes = readGuid b := toRes_readGuidInto recv b

theorem C18_recv_Guid_iff (recv b u rest : Bytes) : readGuidInto recv b = .ok u rest ↔ readGuid b = .ok u rest :=
  RRes.eq_ok_iff (C18_recv_Guid_indep recv b)

theorem C18_recv_Digest_indep (recv : Digest) (b : Bytes) : (readDigestInto recv b).toRes = readDigest b :=
  toRes_readDigestInto recv b

theorem C18_recv_Digest_iff (recv d : Digest) (b rest : Bytes) :
    readDigestInto recv b = .ok d rest ↔ readDigest b = .ok d rest :=
  RRes.eq_ok_iff (C18_recv_Digest_indep recv b)

theorem C18_recv_DigestArray_indep (recv : List Digest) (b : Bytes) :
    (readDigestArrayInto .tree recv b).toRes = readDigestArray b := toRes_readDigestArrayInto recv b

theorem C18_recv_DigestArray_iff (recv ds : List Digest) (b rest : Bytes) :
    readDigestArrayInto .tree recv b = .ok ds rest ↔ readDigestArray b = .ok ds rest :=
  RRes.eq_ok_iff (C18_recv_DigestArray_indep recv b)

theorem C18_recv_Event3_indep (recv : Event3) (data : Bytes) :
    (unmarshalEvent3Into .tree recv data).toRes = unmarshalEvent3 true data := toRes_unmarshalEvent3Into recv data

theorem C18_recv_Event3_iff (recv e : Event3) (data rest : Bytes) :
    unmarshalEvent3Into .tree recv data = .ok e rest ↔ unmarshalEvent3 true data = .ok e rest :=
  RRes.eq_ok_iff (C18_recv_Event3_indep recv data)

theorem C18_recv_EventData_indep (k : RKind) (recv : EventData) (b : Bytes) :
    (readEventDataInto .tree k recv b).toRes = readEventData ⟨true, k⟩ b := toRes_readEventDataInto k recv b

theorem C18_recv_EventData_iff (k : RKind) (recv d : EventData) (b rest : Bytes) :
    readEventDataInto .tree k recv b = .ok d rest ↔ readEventData ⟨true, k⟩ b = .ok d rest :=
  RRes.eq_ok_iff (C18_recv_EventData_indep k recv b)

theorem C18_recv_PcrEvent_indep (k : RKind) (recv : PcrEvent) (b : Bytes) :
    (readPcrEventInto .tree k recv b).toRes = readPcrEvent ⟨true, k⟩ b := toRes_readPcrEventInto k recv b

theorem C18_recv_PcrEvent_iff (k : RKind) (recv e : PcrEvent) (b rest : Bytes) :
    readPcrEventInto .tree k recv b = .ok e rest ↔ readPcrEvent ⟨true, k⟩ b = .ok e rest :=
  RRes.eq_ok_iff (C18_recv_PcrEvent_indep k recv b)

theorem C18_recv_Event2_indep (k : RKind) (recv : Event2) (b : Bytes) :
    (readEvent2Into .tree k recv b).toRes = readEvent2 ⟨true, k⟩ b := toRes_readEvent2Into k recv b

theorem C18_recv_Event2_iff (k : RKind) (recv e : Event2) (b rest : Bytes) :
    readEvent2Into .tree k recv b = .ok e rest ↔ readEvent2 ⟨true, k⟩ b = .ok e rest :=
  RRes.eq_ok_iff (C18_recv_Event2_indep k recv b)

/-- the whole log, after the repair of CryptoAgileLog.Unmarshal (`cel.Events = nil`) -/
theorem C18_recv_Log_indep (k : RKind) (recv : Log) (b : Bytes) :
    (readLogInto .tree k recv b).toRes = readLog ⟨true, k⟩ b := toRes_readLogInto k recv b

theorem C18_recv_Log_iff (k : RKind) (recv l : Log) (b rest : Bytes) :
    readLogInto .tree k recv b = .ok l rest ↔ readLog ⟨true, k⟩ b = .ok l rest :=
  RRes.eq_ok_iff (C18_recv_Log_indep k recv b)

/-- two receivers, one input: the same report (so also: a receiver that holds the leftovers of a failed decode
    behaves like a fresh one) — stated for the three top-level entry points -/
theorem C18_recv_same_result (k : RKind) (b : Bytes) :
    (∀ r1 r2 : Log, (readLogInto .tree k r1 b).toRes = (readLogInto .tree k r2 b).toRes) ∧
    (∀ r1 r2 : Event3, (unmarshalEvent3Into .tree r1 b).toRes = (unmarshalEvent3Into .tree r2 b).toRes) ∧
    (∀ r1 r2 : Event2, (readEvent2Into .tree k r1 b).toRes = (readEvent2Into .tree k r2 b).toRes) ∧
    (∀ r1 r2 : PcrEvent, (readPcrEventInto .tree k r1 b).toRes = (readPcrEventInto .tree k r2 b).toRes) := by
  refine ⟨?_, ?_, ?_, ?_⟩ <;> intro r1 r2 <;> simp

/-- a history: whatever sequence of inputs was decoded into the receiver before (each successfully or not), the
    next decode reports what a fresh decode reports -/
theorem C18_recv_Log_after_history (k : RKind) (history : List Bytes) (start : Log) (b : Bytes) :
    (readLogInto .tree k (history.foldl (fun r p => (readLogInto .tree k r p).recv) start) b).toRes = readLog ⟨true, k⟩ b :=
  toRes_readLogInto k _ b

theorem C18_recv_Event3_after_history (history : List Bytes) (start : Event3) (b : Bytes) :
    (unmarshalEvent3Into .tree (history.foldl (fun r p => (unmarshalEvent3Into .tree r p).recv) start) b).toRes =
      unmarshalEvent3 true b :=
  toRes_unmarshalEvent3Into _ b

/-! ## round trip and canonicity for reused receivers (from the lemmas of Proofs/EventLog.lean that Props/C18.lean's theorems rest on) -/

theorem C18_recv_SizedArray_roundtrip (k : RKind) (w : Nat) (recv d t : Bytes) (h : d.length < 256 ^ w) :
    ∃ bs, writeSizedArray w d = some bs ∧ readSizedArrayInto .tree k w recv (bs ++ t) = .ok d t :=
  ⟨_, writeSizedArray_eq w d h,
    (C18_recv_SizedArray_iff k w recv _ d t).2 (readSizedArray_enc ⟨true, k⟩ w d t h (Or.inl rfl))⟩

theorem C18_recv_SizedArray_canon (k : RKind) (w : Nat) (recv b d rest : Bytes)
    (h : readSizedArrayInto .tree k w recv b = .ok d rest) : b = leBytes w d.length ++ d ++ rest :=
  (readSizedArray_canon (cfg := ⟨true, k⟩) rfl ((C18_recv_SizedArray_iff k w recv b d rest).1 h)).1

theorem C18_recv_CStr_roundtrip (k : RKind) (recv s t : Bytes) (h : s.length ≤ 254) :
    ∃ bs, writeCStr s = some bs ∧ readCStrInto .tree k recv (bs ++ t) = .ok s t :=
  ⟨_, writeCStr_eq s h, (C18_recv_CStr_iff k recv _ s t).2 (readCStr_enc ⟨true, k⟩ s t h)⟩

theorem C18_recv_CStr_canon (k : RKind) (recv b s rest : Bytes) (h : readCStrInto .tree k recv b = .ok s rest) :
    ∃ bs, writeCStr s = some bs ∧ b = bs ++ rest := by
  obtain ⟨h1, h2⟩ := readCStr_canon (cfg := ⟨true, k⟩) rfl ((C18_recv_CStr_iff k recv b s rest).1 h)
  exact ⟨_, writeCStr_eq s h2, h1⟩

theorem C18_recv_Guid_roundtrip (recv u t : Bytes) (h : u.length = 16) : readGuidInto recv (writeGuid u ++ t) = .ok u t :=
  (C18_recv_Guid_iff recv _ u t).2 (readGuid_enc u t h)

theorem C18_recv_Guid_canon (recv b u rest : Bytes) (h : readGuidInto recv b = .ok u rest) : b = writeGuid u ++ rest :=
  (readGuid_canon ((C18_recv_Guid_iff recv b u rest).1 h)).1

theorem C18_recv_Digest_roundtrip (recv d : Digest) (t : Bytes) (h : d.InRange) :
    ∃ bs, writeDigest d = some bs ∧ readDigestInto recv (bs ++ t) = .ok d t :=
  ⟨_, writeDigest_eq d h, (C18_recv_Digest_iff recv d _ t).2 (readDigest_enc d t h)⟩

theorem C18_recv_Digest_canon (recv d : Digest) (b rest : Bytes) (h : readDigestInto recv b = .ok d rest) :
    ∃ bs, writeDigest d = some bs ∧ b = bs ++ rest := by
  obtain ⟨h1, h2⟩ := readDigest_canon ((C18_recv_Digest_iff recv d b rest).1 h)
  exact ⟨_, writeDigest_eq d h2, h1⟩

theorem C18_recv_Event3_roundtrip (recv e : Event3) (n : Nat) (h : e.InRange) :
    unmarshalEvent3Into .tree recv (encEvent3Fields e ++ zeros n) = .ok e [] :=
  (C18_recv_Event3_iff recv e _ []).2 (unmarshalEvent3_enc true e n h)

/-- an SP800-155 payload accepted into a reused receiver is the fields' encoding followed by zeros only -/
theorem C18_recv_Event3_canon (recv e : Event3) (data r : Bytes) (h : unmarshalEvent3Into .tree recv data = .ok e r) :
    e.InRange ∧ ∃ f n, writeEvent3Fields e = some f ∧ data = f ++ zeros n := by
  obtain ⟨_, h2, n, h3⟩ := unmarshalEvent3_canon ((C18_recv_Event3_iff recv e data r).1 h)
  exact ⟨h2, _, n, writeEvent3Fields_eq e h2, h3⟩

theorem C18_recv_PcrEvent_roundtrip (k : RKind) (recv e : PcrEvent) (t : Bytes) (h : e.InRange) :
    ∃ bs, writePcrEvent e = some bs ∧ readPcrEventInto .tree k recv (bs ++ t) = .ok e t :=
  ⟨_, writePcrEvent_eq e h, (C18_recv_PcrEvent_iff k recv e _ t).2 (readPcrEvent_enc ⟨true, k⟩ e 0 t (Or.inl rfl) h.pad)⟩

theorem C18_recv_PcrEvent_canon (k : RKind) (recv e : PcrEvent) (b rest : Bytes)
    (h : readPcrEventInto .tree k recv b = .ok e rest) : ∃ n, b = encPcrEventPad e n ++ rest ∧ e.InRangePad n :=
  readPcrEvent_canon (cfg := ⟨true, k⟩) rfl ((C18_recv_PcrEvent_iff k recv e b rest).1 h)

theorem C18_recv_Event2_roundtrip (k : RKind) (recv e : Event2) (t : Bytes) (h : e.InRange) :
    ∃ bs, writeEvent2 e = some bs ∧ readEvent2Into .tree k recv (bs ++ t) = .ok e t :=
  ⟨_, writeEvent2_eq e h, (C18_recv_Event2_iff k recv e _ t).2 (readEvent2_enc ⟨true, k⟩ e 0 t (Or.inl rfl) h.pad)⟩

theorem C18_recv_Event2_canon (k : RKind) (recv e : Event2) (b rest : Bytes)
    (h : readEvent2Into .tree k recv b = .ok e rest) : ∃ n, b = encEvent2Pad e n ++ rest ∧ e.InRangePad n :=
  readEvent2_canon (cfg := ⟨true, k⟩) rfl ((C18_recv_Event2_iff k recv e b rest).1 h)

theorem C18_recv_Log_roundtrip (k : RKind) (recv l : Log) (h : l.InRange) :
    ∃ bs, writeLog l = some bs ∧ readLogInto .tree k recv bs = .ok l [] :=
  ⟨_, writeLog_eq l h, (C18_recv_Log_iff k recv l _ []).2 (readLog_enc ⟨true, k⟩ (Or.inl rfl) l h)⟩

/-- a log accepted into a reused receiver is an encoding of the returned log — nothing kept from the receiver, nothing
    dropped, nothing completed -/
theorem C18_recv_Log_canon (k : RKind) (recv l : Log) (b r : Bytes) (h : readLogInto .tree k recv b = .ok l r) :
    LogEnc l b :=
  readLog_canon (cfg := ⟨true, k⟩) rfl ((C18_recv_Log_iff k recv l b r).1 h)

/-! ## what a failed decode leaves in the receiver -/

/-- sized arrays (in every store variant): a failed decode leaves the receiver as it was -/
theorem C18_recv_SizedArray_failed_unchanged (v : Variant) (k : RKind) (w : Nat) (recv b : Bytes)
    (h : (readSizedArrayInto v k w recv b).isOk = false) : (readSizedArrayInto v k w recv b).recv = recv := by
  revert h
  simp only [readSizedArrayInto]
  cases readLE w b with
  | eof => intro _; rfl
  | fail => intro _; rfl
  | ok size rest =>
    simp only
    split
    · intro h; cases h
    · cases readBody (treeCfg k) true size rest with
      | eof => intro _; rfl
      | fail => intro _; rfl
      | ok _ _ => intro h; cases h

theorem C18_recv_CStr_failed_unchanged (v : Variant) (k : RKind) (recv b : Bytes)
    (h : (readCStrInto v k recv b).isOk = false) : (readCStrInto v k recv b).recv = recv := by
  revert h
  simp only [readCStrInto]
  cases readSizedArrayInto v k 1 [] b with
  | eof _ => intro _; rfl
  | fail _ => intro _; rfl
  | ok data rest =>
    simp only
    split
    · intro _; rfl
    · intro h; cases h

theorem C18_recv_Guid_failed_unchanged (recv b : Bytes) (h : (readGuidInto recv b).isOk = false) :
    (readGuidInto recv b).recv = recv :=
  RRes.ofRes_recv_of_not_ok recv _ h

/-- TaggedDigest, exactly: a failed decode leaves the receiver unchanged (the id could not be read), or with the NEW
    algorithm id and the OLD digest (unknown id), or with the new id and the bytes that were there COMPLETED WITH ZEROS
    to the algorithm's size (short digest) -/
theorem C18_recv_Digest_failed (recv : Digest) (b : Bytes) (h : (readDigestInto recv b).isOk = false) :
    (b.length < 2 ∧ (readDigestInto recv b).recv = recv) ∨
    (2 ≤ b.length ∧ tpmAlgoSize (leVal (b.take 2)) = none ∧
      (readDigestInto recv b).recv = ⟨leVal (b.take 2), recv.digest⟩) ∨
    (∃ sz, 2 ≤ b.length ∧ tpmAlgoSize (leVal (b.take 2)) = some sz ∧ b.length - 2 < sz ∧
      (readDigestInto recv b).recv = ⟨leVal (b.take 2), b.drop 2 ++ zeros (sz - (b.length - 2))⟩) := by
  by_cases h2 : 2 ≤ b.length
  · have hle := readLE_long h2
    cases ha : tpmAlgoSize (leVal (b.take 2)) with
    | none =>
      refine Or.inr (Or.inl ⟨h2, rfl, ?_⟩)
      simp [readDigestInto, hle, ha, RRes.recv]
    | some sz =>
      by_cases hs : sz ≤ b.length - 2
      · exfalso; simp [readDigestInto, hle, ha, hs, RRes.isOk] at h
      · refine Or.inr (Or.inr ⟨sz, h2, rfl, by omega, ?_⟩)
        simp [readDigestInto, hle, ha, hs, RRes.recv]
  · refine Or.inl ⟨by omega, ?_⟩
    rcases readLE_eof_or_fail h2 with he | he <;> simp [readDigestInto, he, RRes.recv]

/-- OBSERVATION: a failed TaggedDigest decode can leave a receiver that re-encodes to bytes that were never accepted:
    the receiver held a SHA-256 digest; the five bytes `04 00 01 02 03` (SHA-1 id, three of twenty digest bytes) are
    refused, and the receiver now marshals to the 22 bytes `04 00 01 02 03 00 … 00` -/
theorem C18_recv_Digest_failed_reencodes :
    readDigest [4, 0, 1, 2, 3] = .fail ∧
    readDigestInto ⟨11, zeros 32⟩ [4, 0, 1, 2, 3] = .fail ⟨4, [1, 2, 3] ++ zeros 17⟩ ∧
    writeDigest ⟨4, [1, 2, 3] ++ zeros 17⟩ = some ([4, 0, 1, 2, 3] ++ zeros 17) := by decide +kernel

/-- the SHA-1 array of a TCG_PCClientPCREvent is read in place: a failed read leaves the bytes that were there over
    the start of the old array -/
theorem C18_recv_Sha1_failed (recv b : Bytes) (h : (readSha1Into recv b).isOk = false) :
    b.length < 20 ∧ (readSha1Into recv b).recv = b ++ recv.drop b.length := by
  unfold readSha1Into at h ⊢
  split at h
  · cases h
  · next h20 =>
    rw [if_neg h20]
    refine ⟨Nat.lt_of_not_le h20, ?_⟩
    split
    · next he => rw [List.isEmpty_iff.mp he]; rfl
    · rfl

/-- OBSERVATION: header event with SHA-1 `aa…aa`, then the 11 bytes of a truncated event are refused; the receiver
    holds the new PCR index and event type and a SHA-1 array that mixes three new bytes with seventeen old ones, and
    marshals to 32 bytes that were never accepted -/
theorem C18_recv_PcrEvent_failed_reencodes (k : RKind) :
    readPcrEventInto .tree k ⟨9, 9, List.replicate 20 0xaa, .raw []⟩ [1, 0, 0, 0, 2, 0, 0, 0, 7, 7, 7] =
      .fail ⟨1, 2, [7, 7, 7] ++ List.replicate 17 0xaa, .raw []⟩ ∧
    writePcrEvent ⟨1, 2, [7, 7, 7] ++ List.replicate 17 0xaa, .raw []⟩ =
      some ([1, 0, 0, 0, 2, 0, 0, 0, 7, 7, 7] ++ List.replicate 17 0xaa ++ [0, 0, 0, 0]) := by
  cases k <;> decide +kernel

/-- the digest array: a failed decode leaves the receiver unchanged (the count could not be read) or holding exactly
    the elements that decoded before the failing one — a proper prefix of the declared count, decodable from the input -/
theorem C18_recv_DigestArray_failed_prefix (recv : List Digest) (b : Bytes)
    (h : (readDigestArrayInto .tree recv b).isOk = false) :
    (b.length < 4 ∧ (readDigestArrayInto .tree recv b).recv = recv) ∨
    (∃ m rest, m < leVal (b.take 4) ∧ readDigests m (b.drop 4) = .ok (readDigestArrayInto .tree recv b).recv rest) := by
  by_cases h4 : 4 ≤ b.length
  · have hle := readLE_long h4
    simp only [readDigestArrayInto, hle, Variant.tree, Bool.false_eq_true, if_false] at h ⊢
    obtain ⟨m, ds, rest, hm, hr, he⟩ := readDigestsInto_failed _ [] _ h
    refine Or.inr ⟨m, rest, hm, ?_⟩
    rw [he]; simpa using hr
  · refine Or.inl ⟨by omega, ?_⟩
    rcases readLE_eof_or_fail h4 with he | he <;> simp [readDigestArrayInto, he, RRes.recv]

/-- OBSERVATION: TCGEventData.Unmarshal replaces `d.Event` by a fresh SP800155Event3 BEFORE decoding the payload into
    it: a refused payload (here: the signature and nothing else) leaves the receiver holding the all-zero event, which
    marshals to 62 bytes that were never accepted -/
theorem C18_recv_EventData_failed_reencodes (k : RKind) :
    readEventDataInto .tree k (.raw [1, 2, 3]) ([16, 0, 0, 0] ++ event3Signature) = .eof (.event3 Event3.zero) ∧
    (writeEventData (.event3 Event3.zero)).isSome = true := by
  cases k <;> decide +kernel

/-- OBSERVATION: a failed log decode has already replaced what the receiver held: the header and the events that decoded
    before the failing one are in the receiver (here: a log cut inside its second event; the receiver, which held another
    header and another event, now holds the new header and the first new event, and marshals to the 48-byte prefix) -/
theorem C18_recv_Log_failed_keeps_prefix (k : RKind) :
    readLogInto .tree k ⟨⟨9, 9, zeros 20, .raw [1]⟩, [⟨7, 7, [], .raw []⟩]⟩
        (zeros 32 ++ [5, 0, 0, 0] ++ zeros 12 ++ [1, 0, 0, 0]) =
      .fail ⟨⟨0, 0, zeros 20, .raw []⟩, [⟨5, 0, [], .raw []⟩]⟩ ∧
    writeLog ⟨⟨0, 0, zeros 20, .raw []⟩, [⟨5, 0, [], .raw []⟩]⟩ = some (zeros 32 ++ [5, 0, 0, 0] ++ zeros 12) := by
  cases k <;> decide +kernel

/-! ## the store variants that are not the tree violate receiver independence -/

/-- seeded change C18-G (`readSizedArray` returns early for a declared size 0 without storing the empty result):
    a Uint32SizedArray that held `01 02` still holds it after the input `00 00 00 00` was accepted, and marshals to
    `02 00 00 00 01 02` -/
theorem C18_recv_finding_keepOnEmpty (k : RKind) :
    ¬ ∀ recv b, (readU32ArrayInto ⟨true, false, false, false⟩ k recv b).toRes = readU32Array ⟨true, k⟩ b := by
  intro h
  have := h [1, 2] [0, 0, 0, 0]
  revert this; cases k <;> decide +kernel

/-- the same change at the level of SP800155Event3.UnmarshalFromBytes: the event decoded second has an empty
    PlatformCertLocator, the receiver keeps the first one's -/
theorem C18_recv_finding_keepOnEmpty_event3 :
    ∃ recv data e, unmarshalEvent3 true data = .ok e [] ∧
      unmarshalEvent3Into ⟨true, false, false, false⟩ recv data = .ok { e with platformCertLocator := [0xcc] } [] ∧
      e.platformCertLocator = [] :=
  ⟨{ Event3.zero with platformCertLocator := [0xcc] }, encEvent3Fields Event3.zero, Event3.zero, by decide +kernel, by decide +kernel, rfl⟩

/-- Uint32SizedArrayT.Unmarshal without `d.Array = nil` -/
theorem C18_recv_finding_digestsAppend :
    ¬ ∀ recv b, (readDigestArrayInto ⟨false, true, false, false⟩ recv b).toRes = readDigestArray b := by
  intro h
  have := h [⟨4, zeros 20⟩] [0, 0, 0, 0]
  revert this; decide +kernel

/-- CryptoAgileLog.Unmarshal BEFORE the repair (`cel.Events = append(cel.Events, evt)` with no reset): a receiver that
    holds one event, given a log of one event, ends with two — the defect repaired in this tree -/
theorem C18_recv_finding_logAppends (k : RKind) :
    ¬ ∀ recv b, (readLogInto ⟨false, false, true, false⟩ k recv b).toRes = readLog ⟨true, k⟩ b := by
  intro h
  have := h ⟨⟨0, 0, zeros 20, .raw []⟩, [⟨1, 2, [], .raw []⟩]⟩ (zeros 32)
  revert this; cases k <;> decide +kernel

/-- TCGEventData.Unmarshal decoding into the SP800155Event3 the receiver already holds — harmless in the tree, where
    every field is stored on every success path; together with C18-G it shows through the event data -/
theorem C18_recv_finding_event3Reuse (k : RKind) :
    ¬ ∀ recv b, (readEventDataInto ⟨true, false, false, true⟩ k recv b).toRes = readEventData ⟨true, k⟩ b := by
  intro h
  have := h (.event3 { Event3.zero with rimLocator := [7] })
    (leBytes 4 (16 + (encEvent3Fields Event3.zero).length) ++ event3Signature ++ encEvent3Fields Event3.zero)
  revert this; cases k <;> decide +kernel

/-! ## buffer-writing encoders -/

/-- every record `Put` (EFIGUID, PutUUID, FwGUIDEntry, SevMetadata(Section), MetadataOffset, TDX descriptor/section,
    PAGE_INFO): over two buffers of one length the outcome is the same; on success the first `size` bytes are the
    encoding of the value — whatever the buffer held — and the bytes from `size` on are the buffer's -/
theorem C18_recv_put_buffer_independent {α : Type} (c : Rec α) (v : α) (d1 d2 : Bytes) (h : d1.length = d2.length) :
    ((c.put v d1).isOk = (c.put v d2).isOk) ∧
    (∀ o1, c.put v d1 = .ok o1 → ∃ o2, c.put v d2 = .ok o2 ∧ o1.take c.size = c.enc v ∧ o2.take c.size = c.enc v ∧
      o1.drop c.size = d1.drop c.size ∧ o2.drop c.size = d2.drop c.size ∧ o1.length = d1.length) := by
  have hl : (c.enc v).length = c.size := Rec.enc_length c v
  by_cases hs : d1.length < c.size
  · rw [Rec.put_short c v d1 hs, Rec.put_short c v d2 (h ▸ hs)]
    exact ⟨rfl, nofun⟩
  · rw [Rec.put_ok c v d1 (Nat.le_of_not_lt hs), Rec.put_ok c v d2 (h ▸ Nat.le_of_not_lt hs)]
    refine ⟨rfl, fun o1 ho => ?_⟩
    cases ho
    refine ⟨_, rfl, List.take_left' hl, List.take_left' hl, List.drop_left' hl, List.drop_left' hl, ?_⟩
    rw [List.length_append, List.length_drop, hl]; omega

/-- The Put encoders STORE BY STORE: a `Put` is the list of its stores `data[off:off+w] = image` in source order
    (`putStores (layoutStores layout images)`).  Over a layout without holes or overlap the result is the images in
    order followed by the buffer's bytes beyond the layout's total — for every previous content of the buffer: the
    bytes written do not depend on it and nothing outside the range is touched. -/
theorem C18_recv_put_stores_independent (l : List (Nat × Nat × String)) (imgs : List Bytes) (d1 d2 : Bytes)
    (hc : AbiLayouts.contiguous l = true) (hf : ImagesFit l imgs) (h1 : AbiLayouts.total l ≤ d1.length)
    (h : d1.length = d2.length) :
    putStores (layoutStores l imgs) d1 = imgs.flatten ++ d1.drop (AbiLayouts.total l) ∧
    putStores (layoutStores l imgs) d2 = imgs.flatten ++ d2.drop (AbiLayouts.total l) :=
  ⟨putStores_layout l imgs d1 hc hf h1, putStores_layout l imgs d2 hc hf (by omega)⟩

/-- … and that hypothesis holds for the store lists REGENERATED from the Go source (`Gen.AbiSizes.…PutLayout`: the
    explicit `data[a:b]` ranges of every Put in ovmf/abi/abi.go and sev/abi.go): each is contiguous from offset 0 and its
    total is the size the model encodes.  A Put that leaves a range unwritten (a reserved byte skipped) has a hole in
    its regenerated store list and breaks this obligation. -/
theorem C18_recv_put_layouts_contiguous :
    (∀ l ∈ [AbiSizes.EfiGuidPutLayout, AbiSizes.UuidPutLayout, AbiSizes.FwGuidEntryPutLayout,
        AbiSizes.SevMetadataSectionPutLayout, AbiSizes.SevMetadataPutLayout, AbiSizes.MetadataOffsetPutLayout,
        AbiSizes.ResetBlockPutLayout, AbiSizes.TdxDescriptorPutLayout, AbiSizes.TdxSectionPutLayout,
        AbiSizes.PageInfoPutLayout, AbiSizes.VmcbSegPutLayout], AbiLayouts.contiguous l = true) ∧
    AbiLayouts.total AbiSizes.EfiGuidPutLayout = efiGuidRec.size ∧
    AbiLayouts.total AbiSizes.UuidPutLayout = uuidRec.size ∧
    AbiLayouts.total AbiSizes.FwGuidEntryPutLayout = fwGuidEntryRec.size ∧
    AbiLayouts.total AbiSizes.SevMetadataSectionPutLayout = sevMetadataSectionRec.size ∧
    AbiLayouts.total AbiSizes.SevMetadataPutLayout = sevMetadataRec.size ∧
    AbiLayouts.total AbiSizes.MetadataOffsetPutLayout = metadataOffsetRec.size ∧
    AbiLayouts.total AbiSizes.ResetBlockPutLayout = resetBlockRec.size ∧
    AbiLayouts.total AbiSizes.TdxDescriptorPutLayout = tdxDescriptorRec.size ∧
    AbiLayouts.total AbiSizes.TdxSectionPutLayout = tdxSectionRec.size ∧
    AbiLayouts.total AbiSizes.PageInfoPutLayout = pageInfoRec.size ∧
    AbiLayouts.total AbiSizes.VmcbSegPutLayout = vmcbSegRec.size := by decide +kernel

/-- the value-level `Put` model that the stream compares with the real code (`Rec.put`) IS the store-by-store model
    over any hole-free layout with the record's widths — in particular over the regenerated one -/
theorem C18_recv_put_stores_eq_put {α : Type} (c : Rec α) (l : List (Nat × Nat × String)) (v : α) (data : Bytes)
    (hc : AbiLayouts.contiguous l = true) (hw : AbiLayouts.widths l = c.ws) (h : c.size ≤ data.length) :
    c.put v data = .ok (putStores (layoutStores l (fieldImages c.ws (c.toVals v))) data) := by
  have ht : AbiLayouts.total l = c.size := by simp [AbiLayouts.total, hw, Rec.size]
  rw [Rec.put_ok c v data h, putStores_layout l _ data hc (hw ▸ fieldImages_fit l _) (by omega), fieldImages_flatten, ht]
  rfl

example : AbiLayouts.widths AbiSizes.PageInfoPutLayout = pageInfoRec.ws ∧
    AbiLayouts.widths AbiSizes.TdxSectionPutLayout = tdxSectionRec.ws := by decide +kernel

/-- a VMCB segment written store by store over a dirty 18-byte buffer — non-vacuity of the two theorems above on a
    regenerated layout -/
example : putStores (layoutStores AbiSizes.VmcbSegPutLayout [[1, 0], [2, 0], [3, 0, 0, 0], [4, 0, 0, 0, 0, 0, 0, 0]])
      (List.replicate 18 0xa5) = [1, 0, 2, 0, 3, 0, 0, 0, 4, 0, 0, 0, 0, 0, 0, 0, 0xa5, 0xa5] := by decide +kernel
example : ImagesFit AbiSizes.VmcbSegPutLayout [[1, 0], [2, 0], [3, 0, 0, 0], [4, 0, 0, 0, 0, 0, 0, 0]] := by
  simp [ImagesFit, AbiSizes.VmcbSegPutLayout]

/-- sev.putVmcbSeg: the range checks come before any write; an accepted segment overwrites exactly 16 bytes -/
theorem C18_recv_put_VmcbSeg (s : VmcbSeg) (d1 d2 : Bytes) (h : d1.length = d2.length) :
    ((putVmcbSeg s d1).isOk = (putVmcbSeg s d2).isOk) ∧
    (∀ o1, putVmcbSeg s d1 = .ok o1 → o1 = vmcbSegRec.enc s ++ d1.drop 16 ∧
      putVmcbSeg s d2 = .ok (vmcbSegRec.enc s ++ d2.drop 16)) := by
  have hsz : vmcbSegRec.size = 16 := rfl
  simp only [putVmcbSeg, hsz, h]
  by_cases h1 : d2.length < 16
  · simp [h1, Outcome.isOk]
  · by_cases h2 : s.selector ≥ 2 ^ 16
    · simp [h1, h2, Outcome.isOk]
    · by_cases h3 : s.attrib ≥ 2 ^ 16
      · simp [h1, h2, h3, Outcome.isOk]
      · simp only [h1, h2, h3, if_false]
        refine ⟨rfl, fun o1 ho => ?_⟩
        injection ho with ho
        exact ⟨ho.symm, trivial⟩

/-- abi.PutSevEsResetBlock with the buffer on every path agrees with the value-only model; an accepted block overwrites
    exactly the 22 bytes; a refused one leaves the buffer — EXCEPT a Guid of the wrong length, which is detected after
    `Addr` and `Size` have been written: then the first six bytes are already overwritten -/
theorem C18_recv_put_ResetBlock (r : ResetBlock) (data : Bytes) :
    (∀ o, putSevEsResetBlock r data = .ok o ↔ putSevEsResetBlockInto r data = (.ok (), o)) ∧
    ((putSevEsResetBlock r data).isOk = false →
      (putSevEsResetBlockInto r data).2 = data ∨
      (22 ≤ data.length ∧ r.guid.length ≠ 16 ∧
        (putSevEsResetBlockInto r data).2 = leBytes 4 r.addr ++ leBytes 2 r.size ++ data.drop 6)) := by
  have hsz : resetBlockRec.size = 22 := rfl
  by_cases h1 : data.length < 22
  · simp [putSevEsResetBlock, putSevEsResetBlockInto, hsz, h1, Outcome.isOk]
  · by_cases h2 : r.size ≥ 2 ^ 16
    · simp [putSevEsResetBlock, putSevEsResetBlockInto, hsz, h1, h2, Outcome.isOk]
    · by_cases h3 : r.guid.length = 16
      · refine ⟨fun o => ?_, fun h => ?_⟩
        · simp [putSevEsResetBlock, putSevEsResetBlockInto, hsz, h1, h2, h3]
        · simp [putSevEsResetBlock, hsz, h1, h2, h3, Outcome.isOk] at h
      · refine ⟨fun o => ?_, fun _ => Or.inr ⟨by omega, h3, ?_⟩⟩
        · simp [putSevEsResetBlock, putSevEsResetBlockInto, hsz, h1, h2, h3]
        · simp [putSevEsResetBlockInto, hsz, h1, h2, h3]

/-- OBSERVATION: a refused PutSevEsResetBlock that changed the buffer -/
theorem C18_recv_put_ResetBlock_refused_writes :
    putSevEsResetBlock ⟨5, 7, [1, 2]⟩ (List.replicate 22 0xaa) = .err "guid" ∧
    (putSevEsResetBlockInto ⟨5, 7, [1, 2]⟩ (List.replicate 22 0xaa)).2 = [5, 0, 0, 0, 7, 0] ++ List.replicate 16 0xaa := by
  decide +kernel

/-- (*FwGUIDEntry).PopulateFromBytes: the outcome is that of the value-only model whatever the receiver held; a
    successful call leaves the decoded entry; a panicking call on 2…17 bytes has already overwritten `Size` -/
theorem C18_recv_FwGuidEntry_populate (recv : FwGuidEntry) (b : Bytes) :
    (∀ e, fwGuidEntryFromBytes b = .ok e → fwGuidEntryPopulateInto recv b = (.ok (), e)) ∧
    ((fwGuidEntryPopulateInto recv b).1.isOk = true → (fwGuidEntryFromBytes b).isOk = true) ∧
    (2 ≤ b.length → b.length < 18 →
      fwGuidEntryPopulateInto recv b = (.panic "slice", { recv with size := leVal (b.take 2) })) ∧
    (b.length < 2 → fwGuidEntryPopulateInto recv b = (.panic "slice", recv)) := by
  have hsz : fwGuidEntryRec.size = 18 := rfl
  -- the three ranges of `len b`: both decoders panic below 18 bytes, and return the decoded fields from 18 on
  have hpanic (h : b.length < 18) : fwGuidEntryFromBytes b = .panic "slice" := if_pos h
  have hok (h : ¬ b.length < 18) :
      fwGuidEntryFromBytes b = .ok (fwGuidEntryRec.ofVals (decF fwGuidEntryRec.ws b)) := if_neg h
  have h2 (h : b.length < 2) : fwGuidEntryPopulateInto recv b = (.panic "slice", recv) := if_pos h
  have h18 (h2 : 2 ≤ b.length) (h : b.length < 18) :
      fwGuidEntryPopulateInto recv b = (.panic "slice", { recv with size := leVal (b.take 2) }) := by
    rw [fwGuidEntryPopulateInto, if_neg (Nat.not_lt.2 h2)]; exact if_pos h
  have hinto (h : ¬ b.length < 18) :
      fwGuidEntryPopulateInto recv b = (.ok (), fwGuidEntryRec.ofVals (decF fwGuidEntryRec.ws b)) := by
    have hx : ((b.drop 2).take 16).length = 16 := by simp; omega
    have hp : parseEFIGUID ((b.drop 2).take 16) = .ok (efiGuidRec.ofVals (decF [4, 2, 2, 8] ((b.drop 2).take 16))) :=
      if_neg fun h => h hx
    rw [decF_take _ _ 16 (by decide)] at hp
    simp only [fwGuidEntryPopulateInto, hsz, h, if_false, show ¬ b.length < 2 by omega, fromEFIGUID, hp]
    rfl
  refine ⟨fun e he => ?_, fun h => ?_, h18, h2⟩
  · by_cases h : b.length < 18
    · rw [hpanic h] at he; cases he
    · rw [hok h] at he; cases he; exact hinto h
  · by_cases h' : b.length < 18
    · by_cases h'' : b.length < 2
      · rw [h2 h''] at h; cases h
      · rw [h18 (Nat.le_of_not_lt h'') h'] at h; cases h
    · rw [hok h']; rfl

/-! ## regenerated from the Go source: which receiver fields each Unmarshal assigns -/

/-- Per decoder with a pointer receiver (regenerated by `verif-extract RecvStores` from the AST of eventlog/*.go and
    ovmf/abi/abi.go): the receiver fields it assigns (directly or by handing `&recv.field` to a reader), whether every
    `return nil` is preceded by a store to each of them, and the number of `return nil` statements.  These are the
    stores Model/EventLogRecv.lean makes.  A new early `return nil` before a store (seeded C18-G: one more `return nil`
    in readSizedArray, not preceded by `*data = result`), a dropped reset, or a new field left unassigned changes
    this table and breaks this obligation. -/
theorem C18_recv_fields_assigned :
    Gen.RecvStores.table =
      [("abi.FwGUIDEntry.PopulateFromBytes", ["Size", "GUID"], true, 0),
       ("eventlog.ByteSizedCStr.Unmarshal", ["Data"], true, 1),
       ("eventlog.CryptoAgileLog.Unmarshal", ["Header", "Events"], true, 1),
       ("eventlog.EfiGUID.Unmarshal", ["UUID"], true, 1),
       ("eventlog.SP800155Event3.UnmarshalFromBytes",
        ["PlatformManufacturerID", "ReferenceManifestGUID", "PlatformManufacturerStr", "PlatformModel", "PlatformVersion",
         "FirmwareManufacturerStr", "FirmwareManufacturerID", "FirmwareVersion", "RIMLocatorType", "RIMLocator",
         "PlatformCertLocatorType", "PlatformCertLocator"], true, 1),
       ("eventlog.TCGEventData.Unmarshal", ["Event"], true, 2),
       ("eventlog.TCGPCClientPCREvent.Unmarshal", ["PCRIndex", "EventType", "SHA1Digest", "EventData"], true, 1),
       ("eventlog.TCGPCREvent2.Unmarshal", ["PCRIndex", "EventType", "Digests", "EventData"], true, 1),
       ("eventlog.TaggedDigest.Unmarshal", ["AlgID", "Digest"], true, 1),
       ("eventlog.Uint32SizedArray.Unmarshal", ["Data"], true, 0),
       ("eventlog.Uint32SizedArrayT.Unmarshal", ["Array"], true, 1),
       ("eventlog.UnknownEvent.UnmarshalFromBytes", ["Data"], true, 1),
       ("eventlog.readSizedArray", ["*data"], true, 1)] ∧
    Gen.RecvStores.resets =
      [("eventlog.CryptoAgileLog.Unmarshal", "Events", "nil"), ("eventlog.TCGEventData.Unmarshal", "Event", "factory()"),
       ("eventlog.Uint32SizedArrayT.Unmarshal", "Array", "nil")] :=
  ⟨rfl, rfl⟩

example : readU32ArrayInto .tree .reader [1, 2] [0, 0, 0, 0] = .ok [] [] := by decide +kernel
example : readU32ArrayInto ⟨true, false, false, false⟩ .reader [1, 2] [0, 0, 0, 0] = .ok [1, 2] [] := by decide +kernel
example : readU32ArrayInto .tree .reader [1, 2] [5, 0, 0, 0, 9] = .fail [1, 2] := by decide +kernel
example : readCStrInto .tree .buffer [0x61] [3, 0x62, 0x63, 0] = .ok [0x62, 0x63] [] := by decide +kernel
example : readDigestArrayInto .tree [⟨4, zeros 20⟩] ([2, 0, 0, 0, 11, 0] ++ zeros 32 ++ [4, 0, 1]) =
    .fail [⟨11, zeros 32⟩] := by decide +kernel
example : readLogInto .tree .reader ⟨⟨0, 0, zeros 20, .raw []⟩, [⟨1, 2, [], .raw []⟩]⟩ (zeros 32 ++ [5, 0, 0, 0] ++ zeros 12) =
    .ok ⟨⟨0, 0, zeros 20, .raw []⟩, [⟨5, 0, [], .raw []⟩]⟩ [] := by decide +kernel
example : (Event3.zero).InRange := by decide +kernel
example : (fwGuidEntryPopulateInto ⟨7, zeros 16⟩ [1, 2, 0xff]) = (.panic "slice", ⟨513, zeros 16⟩) := by decide +kernel
example : (efiGuidRec.put ⟨1, 2, 3, zeros 8⟩ (List.replicate 18 0xa5)).isOk = true := by decide +kernel

end GceTcb.C18Recv
