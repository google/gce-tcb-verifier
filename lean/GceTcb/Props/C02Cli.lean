import GceTcb.Proofs.RpCli
import GceTcb.Props.C02
import GceTcb.Gen.RpFlags
/-
C02 at the command line — "the configuration the caller named" includes naming it on the command line:
`gcetcbendorsement sev validate --launch_vmsas N` / `tdx validate --ram_gib N` validate the configuration N.

`--launch_vmsas` / `--ram_gib` are PERSISTENT flags defined on the parent commands `sev` / `tdx`; the sub-commands
`validate` (and `policy`) inherit them, and their RunE must take them from the parent's struct.  The defect D2b was
exactly there: `validate` did not forward them, so configuration 0 ("any listed measurement") was validated
whatever the command line named.  The theorems below are about the wiring as repaired (commit 2362f53); the
pre-repair wiring is kept as `callOfPreRepair` for the witnesses.

The measurement reading (`measure`) interprets the options record the command line produces with the measurement
model of Model/Policy.lean (Props/C02.lean), for every choice of the primitives.
-/
namespace GceTcb.RpCli
open GceTcb

variable {Cert Roots Time R Q : Type}

/-! ### obligations on the regenerated command-line facts -/

/-- Where the two configuration flags live: defined on `sev` / `tdx` as persistent flags (uint32 / int, default
    0), seen from `validate` and `policy` below them, and from no other command. -/
theorem C02_cli_flag_scope :
    ("sev", "persistent", "launch_vmsas", "Uint32", "0", "sevCommand.launchVmsas") ∈ Gen.RpFlags.flags ∧
    ("tdx", "persistent", "ram_gib", "Int", "0", "tdxCommand.ramGiB") ∈ Gen.RpFlags.flags ∧
    flagTable = Gen.RpFlags.flags ∧
    (∀ c ∈ ["sev", "sev validate", "sev policy"], ownerOf c "launch_vmsas" = some "sev") ∧
    (∀ c ∈ ["", "verify", "tdx", "tdx validate", "tdx policy", "extract", "inspect", "inspect mask"],
      ownerOf c "launch_vmsas" = none) ∧
    (∀ c ∈ ["tdx", "tdx validate", "tdx policy"], ownerOf c "ram_gib" = some "tdx") ∧
    (∀ c ∈ ["", "verify", "sev", "sev validate", "sev policy", "extract", "inspect", "inspect mask"],
      ownerOf c "ram_gib" = none) :=
  ⟨List.mem_of_getElem? (i := 13) rfl, List.mem_of_getElem? (i := 22) rfl, rfl,
   fun c hc => owner_sev c hc _ (by simp), by decide +kernel, fun c hc => owner_tdx c hc _ (by simp), by decide +kernel⟩

/-- The RunE bodies of the validate and policy commands take the configuration from the parent command's struct
    (`s`, obtained with sevFrom / tdxFrom) and put it into the field of the options record that names the
    configuration; the wiring table, the statement skeletons of RunE / PersistentPreRunE of the two validate commands
    and of PersistentPreRunE of `sev` / `tdx`, and the command tree are the ones the model was written from. -/
theorem C02_cli_wiring :
    ("ExpectedLaunchVmsas", "s.launchVmsas") ∈ Skeleton.wiringOf Gen.RpFlags.wiring "sevValidateCommand.runE" ∧
    ("ExpectedRAMGiB", "s.ramGiB") ∈ Skeleton.wiringOf Gen.RpFlags.wiring "tdxValidateCommand.runE" ∧
    ("LaunchVmsas", "s.launchVmsas") ∈ Skeleton.wiringOf Gen.RpFlags.wiring "sevPolicyCommand.runE" ∧
    ("RAMGiB", "s.ramGiB") ∈ Skeleton.wiringOf Gen.RpFlags.wiring "tdxPolicyCommand.runE" ∧
    Skeleton.wiring = Gen.RpFlags.wiring ∧
    Skeleton.sevValidateRunSteps = Gen.RpFlags.sevValidateRunSteps ∧
    Skeleton.tdxValidateRunSteps = Gen.RpFlags.tdxValidateRunSteps ∧
    Skeleton.sevValidatePreRunSteps = Gen.RpFlags.sevValidatePreRunSteps ∧
    Skeleton.tdxValidatePreRunSteps = Gen.RpFlags.tdxValidatePreRunSteps ∧
    Skeleton.sevPreRunSteps = Gen.RpFlags.sevPreRunSteps ∧ Skeleton.tdxPreRunSteps = Gen.RpFlags.tdxPreRunSteps ∧
    commands = Gen.RpFlags.commands :=
  ⟨by decide +kernel, by decide +kernel, by decide +kernel, by decide +kernel, rfl, rfl, rfl, rfl, rfl, rfl, rfl, rfl⟩

/-! ### the configuration named is the configuration validated -/

/-- `sev validate`: the options record handed to SevValidate carries, as ExpectedLaunchVmsas, the value written in
    the LAST `--launch_vmsas` occurrence of the command line (none: 0), a 32-bit value; `--overwrite` likewise. -/
theorem C02_cli_sev_config_forwarded (W : World Cert Roots Time R Q) (E : Env Time) (cl : CmdLine)
    (content : Bytes) (o : SevValidateOptions Roots Time R) (hv : cl.cmd = "sev validate")
    (h : callOf W.P W.L E cl = .ok (.sevValidate content o)) :
    o.expectedLaunchVmsas = namedVmsas W.L cl ∧ namedVmsas W.L cl < 2 ^ 32 ∧ o.overwrite = namedOverwrite cl := by
  rcases callOf_sevValidate_ok h hv with ⟨_, ⟨⟩⟩ | ⟨_, hw, base, att, content', oe, rot, _, _, _, _, ⟨⟩⟩
  exact ⟨rfl, namedVmsas_lt W.L cl hw (Or.inl hv), rfl⟩

/-- `tdx validate`: ExpectedRAMGiB is the value written in the last `--ram_gib` occurrence (none: 0). -/
theorem C02_cli_tdx_config_forwarded (W : World Cert Roots Time R Q) (E : Env Time) (cl : CmdLine)
    (content : Bytes) (o : TdxValidateOptions Roots Time R Q) (hv : cl.cmd = "tdx validate")
    (h : callOf W.P W.L E cl = .ok (.tdxValidate content o)) :
    o.expectedRAMGiB = namedRamGiB W.L cl ∧ o.overwrite = namedOverwrite cl := by
  rcases callOf_tdxValidate_ok h hv with ⟨_, ⟨⟩⟩ | ⟨_, base, att, content', oe, rot, _, _, _, _, ⟨⟩⟩
  exact ⟨rfl, rfl⟩

/-- The policy commands forward the same flags: LaunchVmsas / RAMGiB of the policy options are the named values. -/
theorem C02_cli_policy_config_forwarded (W : World Cert Roots Time R Q) (E : Env Time) (cl : CmdLine)
    (c : Call Roots Time R Q) (h : callOf W.P W.L E cl = .ok c) :
    (cl.cmd = "sev policy" → ∀ e o out, c = .sevPolicy e o out → o.launchVmsas = namedVmsas W.L cl) ∧
    (cl.cmd = "tdx policy" → ∀ e o out, c = .tdxPolicy e o out → o.ramGib = namedRamGiB W.L cl) := by
  constructor
  · intro hv e o out hc
    subst hc
    rcases callOf_sevPolicy_ok h hv with hc | ⟨base, path, out', e', _, _, _, _, ⟨⟩⟩
    · cases hc
    · rfl
  · intro hv e o out hc
    subst hc
    rcases callOf_tdxPolicy_ok h hv with hc | ⟨base, path, out', e', _, _, _, _, ⟨⟩⟩
    · cases hc
    · rfl

/-- a validate command line whose measurement reading accepts reached the library call -/
theorem C02_cli_measure_call (W : World Cert Roots Time R Q) (M : MeasurePrims) (E : Env Time) (cl : CmdLine)
    (h : measure W M E cl = true) : ∃ c, callOf W.P W.L E cl = .ok c ∧ measureCall W.G M c = true := by
  unfold measure at h
  cases hc : callOf W.P W.L E cl with
  | ok c => exact ⟨c, rfl, by simpa [hc] using h⟩
  | err c => simp [hc] at h
  | panic s => simp [hc] at h

/-- C02 through `sev validate`: when the command line is accepted (measurement reading), the report's measurement is
    48 bytes and is one the endorsement lists for the VMSA count NAMED ON THE COMMAND LINE (table entry for that
    count; for one VMSA also the SVSM measurement); when none (or 0) is named, one it lists at all. -/
theorem C02_cli_sev_named_measurement (W : World Cert Roots Time R Q) (M : MeasurePrims) (E : Env Time)
    (cl : CmdLine) (hv : cl.cmd = "sev validate") (h : measure W M E cl = true) :
    ∃ content o rm e s, callOf W.P W.L E cl = .ok (.sevValidate content o) ∧
      M.reportMeasurement content = some rm ∧ W.G.goldenSev e = some (some s) ∧ rm.length = 48 ∧
      (namedVmsas W.L cl ≠ 0 → rm ∈ Policy.listedFor s (namedVmsas W.L cl)) ∧
      (namedVmsas W.L cl = 0 → rm ∈ Policy.allListed s) := by
  obtain ⟨c, hc, hm⟩ := C02_cli_measure_call W M E cl h
  rcases callOf_sevValidate_ok hc hv with ⟨_, rfl⟩ | ⟨_, _, base, att, content, oe, rot, _, _, _, _, rfl⟩
  · simp [measureCall] at hm
  · simp only [measureCall, measureSev] at hm
    split at hm
    · cases hm
    · rename_i rm hrm
      split at hm
      · cases hm
      · rename_i e _
        split at hm
        · cases hm
        · rename_i g hg
          obtain ⟨hlen, s, hs, h1, h2⟩ := Policy.C02_sevValidate _ _ _ _ _ _ _ _ _ hm
          subst hs
          exact ⟨content, _, rm, e, s, hc, hrm, hg, hlen, h1, h2⟩

/-- C02 through `tdx validate`: an accepted quote's MRTD is the MRTD of a row of the endorsement for the RAM size
    named on the command line (after Go's uint32 conversion of the `int`; any row when 0 or none is named). -/
theorem C02_cli_tdx_named_mrtd (W : World Cert Roots Time R Q) (M : MeasurePrims) (E : Env Time)
    (cl : CmdLine) (hv : cl.cmd = "tdx validate") (h : measure W M E cl = true) :
    ∃ content o mrtd e rs, callOf W.P W.L E cl = .ok (.tdxValidate content o) ∧
      M.quoteMrtd content = some mrtd ∧ W.G.goldenTdx e = some (some rs) ∧
      ∃ r ∈ rs, (namedRamGiB W.L cl = 0 ∨ r.ramGib = Policy.u32 (namedRamGiB W.L cl)) ∧ r.mrtd = mrtd := by
  obtain ⟨c, hc, hm⟩ := C02_cli_measure_call W M E cl h
  rcases callOf_tdxValidate_ok hc hv with ⟨_, rfl⟩ | ⟨_, base, att, content, oe, rot, _, _, _, _, rfl⟩
  · simp [measureCall] at hm
  · simp only [measureCall, measureTdx] at hm
    split at hm
    · cases hm
    · rename_i mrtd hq
      split at hm
      · cases hm
      · rename_i e _
        split at hm
        · cases hm
        · rename_i rows hg
          obtain ⟨rs, hrs, r, hr, hram, hm'⟩ := Policy.C02_tdxValidate _ _ _ _ _ _ _ _ hm
          subst hrs
          exact ⟨content, _, mrtd, e, rs, hc, hq, hg, r, hr, hram, hm'⟩

/-- A value that is not a 32-bit unsigned numeral in ANY `--launch_vmsas` occurrence (`sev validate`, `sev policy`),
    or not a 64-bit numeral in any `--ram_gib` occurrence (`tdx …`), refuses the command line before anything is
    read: the tool never substitutes a default for a malformed configuration. -/
theorem C02_cli_malformed_config_rejected (W : World Cert Roots Time R Q) (E : Env Time) (cl : CmdLine) (v : String)
    (h : (cl.cmd = "sev validate" ∨ cl.cmd = "sev policy") ∧ ("launch_vmsas", v) ∈ cl.flags ∧
           (∀ n, W.L.parseUint v = some n → 2 ^ 32 ≤ n) ∨
         (cl.cmd = "tdx validate" ∨ cl.cmd = "tdx policy") ∧ ("ram_gib", v) ∈ cl.flags ∧
           (∀ i, W.L.parseInt v = some i → i < -(2 ^ 63) ∨ 2 ^ 63 ≤ i)) :
    run W E cl = ⟨[], .err "parse"⟩ := by
  have hnw : wellFormed W.L cl = false := by
    cases hw : wellFormed W.L cl with
    | false => rfl
    | true =>
      exfalso
      rcases h with ⟨hc, hm, hbad⟩ | ⟨hc, hm, hbad⟩
      · obtain ⟨n, hp, hlt⟩ := wellFormed_uint32 W.L cl _ v hw (kind_launch _ (by simpa using hc)) hm
        have := hbad n hp
        omega
      · obtain ⟨i, hp, hlo, hhi⟩ := wellFormed_int W.L cl _ v hw (kind_ram _ (by simpa using hc)) hm
        have := hbad i hp
        omega
  simp [run, callOf, hnw]

/-- Naming a VMSA count for which the endorsement lists no table entry: refused. -/
theorem C02_cli_absent_config_rejected (W : World Cert Roots Time R Q) (M : MeasurePrims) (E : Env Time)
    (cl : CmdLine) (hv : cl.cmd = "sev validate") (hn : namedVmsas W.L cl ≠ 0)
    (hno : ∀ e s, W.G.goldenSev e = some (some s) → Policy.listedFor s (namedVmsas W.L cl) = []) :
    measure W M E cl = false := by
  cases hm : measure W M E cl with
  | false => rfl
  | true =>
    obtain ⟨_, _, rm, e, s, _, _, hg, _, h1, _⟩ := C02_cli_sev_named_measurement W M E cl hv hm
    have := h1 hn
    rw [hno e s hg] at this
    cases this

/-! ### the pre-repair wiring (D2b), as a witness -/

/-- What D2b was: with the pre-repair wiring EVERY `sev validate` / `tdx validate` command line validates
    configuration 0, whatever it names. -/
theorem C02_cli_prerepair_drops_config (W : World Cert Roots Time R Q) (E : Env Time) (cl : CmdLine)
    (c : Call Roots Time R Q) (h : callOfPreRepair W.P W.L E cl = .ok c) :
    (∀ content o, c = .sevValidate content o → o.expectedLaunchVmsas = 0) ∧
    (∀ content o, c = .tdxValidate content o → o.expectedRAMGiB = 0) := by
  unfold callOfPreRepair at h
  split at h
  · rename_i c0 _
    cases h
    constructor
    · intro content o h
      cases c0 <;> cases h
      rfl
    · intro content o h
      cases c0 <;> cases h
      rfl
  · cases h
  · cases h

open ExampleM in
/-- Non-vacuity: naming the configuration the report was launched with is accepted; naming another one is refused. -/
example :
    measure W M E (sevLine "4") = true ∧ measure W M E (sevLine "8") = false ∧
    measure W M E (sevLine "16") = false ∧
    measure W M E (tdxLine "16") = true ∧ measure W M E (tdxLine "32") = false ∧
    measure W M E (tdxLine "64") = false := by decide +kernel

open ExampleM in
/-- D2b as a witness: `sev validate --launch_vmsas 8` on a report carrying the measurement listed for FOUR VMSAs —
    not listed for the 8 named — is accepted by the pre-repair wiring and refused by the repaired one; the same
    for `tdx validate --ram_gib 32` on a quote carrying the 16 GiB MRTD. -/
theorem C02_cli_prerepair_witness :
    measurePreRepair W M E (sevLine "8") = true ∧ m4 ∉ Policy.listedFor ⟨0x30000, 1, [(4, m4), (8, m8)], [], []⟩ 8 ∧
    measure W M E (sevLine "8") = false ∧
    measurePreRepair W M E (tdxLine "32") = true ∧ measure W M E (tdxLine "32") = false := by decide +kernel

end GceTcb.RpCli
