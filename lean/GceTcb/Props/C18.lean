import GceTcb.Gen.AbiSizes
import GceTcb.Gen.EvlConsts
import GceTcb.Spec.AbiLayouts
import GceTcb.Proofs.Codecs
import GceTcb.Proofs.EventLog
/-
C18 — Binary codecs are mutually inverse, size-exact and strict.
Property theorems only (helper lemmas live in Proofs/Codecs.lean and Proofs/EventLog.lean).

For every structure S the clauses are
  (1) `C18_S_roundtrip`  decoding the encoding of an in-range value gives the value back;
  (2) `C18_S_size`       the encoding has the regenerated ABI size `Gen.AbiSizes.Sizeof…`, and
      `C18_S_layout`     the field offsets regenerated from the Go source equal the table written from
                         the external document, the table is contiguous, and the model uses its widths;
  (3) `C18_S_short`, `C18_S_strict_*`  short input, out-of-range fields and non-zero reserved fields are refused;
  (4) `C18_S_canon`      an accepted byte string re-encodes to the bytes that were consumed.
Prefix decoders (`…FromBytes` that read the start of a larger block) state (4) for the consumed prefix
`b.take size`; the exact-size decoders state it for the whole input.

`panic` outcomes: the four ovmf/abi decoders without a length check (`SevMetadataFromBytes`,
`SevMetadataSectionFromBytes`, `MetadataOffsetFromBytes`, `FwGUIDEntry.PopulateFromBytes`) panic on a short
slice; "refused" below means "not decoded" (`isOk = false`). That these panics are unreachable from the
firmware parsers is C08's subject.

Event log: `cfg.strict` selects the repaired (`true`) or original (`false`) size-prefixed readers,
`cfg.kind` the reader type (see Model/EventLog.lean).
-/
namespace GceTcb.C18
open GceTcb GceTcb.Codec GceTcb.Codecs GceTcb.EventLog
open GceTcb.Gen GceTcb.Spec

/-! ## EFI GUID (mixed-endian) -/

theorem C18_EfiGuid_roundtrip (g : EfiGuid) (h : g.InRange) : parseEFIGUID (efiGuidRec.enc g) = .ok g :=
  Rec.dec_exact_enc efiGuidLaws g h

theorem C18_EfiGuid_put (g : EfiGuid) (data : Bytes) :
    (16 ≤ data.length → efiGuidPut g data = .ok (efiGuidRec.enc g ++ data.drop 16)) ∧
    (data.length < 16 → efiGuidPut g data = .err "short") :=
  ⟨Rec.put_ok efiGuidRec g data, Rec.put_short efiGuidRec g data⟩

theorem C18_EfiGuid_size (g : EfiGuid) : (efiGuidRec.enc g).length = 16 := Rec.enc_length _ _

theorem C18_EfiGuid_layout :
    AbiSizes.EfiGuidPutLayout = AbiLayouts.efiGuid ∧ AbiSizes.EfiGuidParseLayout = AbiLayouts.efiGuid ∧
    AbiSizes.EfiGuidConvertLayout = AbiLayouts.uuidOfEfiGuid ∧ AbiSizes.UuidPutLayout = AbiLayouts.efiGuidOfUuid ∧
    AbiLayouts.contiguous AbiLayouts.efiGuid = true ∧ efiGuidRec.ws = AbiLayouts.widths AbiLayouts.efiGuid ∧
    uuidRec.ws = AbiLayouts.widths AbiLayouts.efiGuidOfUuid :=
  ⟨rfl, rfl, rfl, rfl, rfl, rfl, rfl⟩

/-- parseEFIGUID / FromEFIGUID accept exactly 16 bytes -/
theorem C18_EfiGuid_strict_size (b : Bytes) (h : b.length ≠ 16) :
    parseEFIGUID b = .err "size" ∧ fromEFIGUID b = .err "size" :=
  ⟨Rec.dec_exact_long efiGuidRec b h, fromEFIGUID_eq_dec b ▸ Rec.dec_exact_long uuidRec b h⟩

theorem C18_EfiGuid_canon (b : Bytes) (g : EfiGuid) (h : parseEFIGUID b = .ok g) :
    efiGuidRec.enc g = b ∧ g.InRange := Rec.dec_exact_canon efiGuidLaws b g h

/-- uuid.UUID → EFI_GUID bytes → uuid.UUID -/
theorem C18_Uuid_roundtrip (u : Bytes) (h : u.length = 16) : fromEFIGUID (uuidRec.enc u) = .ok u := by
  rw [fromEFIGUID_eq_dec]; exact Rec.dec_exact_enc uuidLaws u h

/-- EFI_GUID bytes → uuid.UUID → EFI_GUID bytes: every 16-byte string is the encoding of what it decodes to -/
theorem C18_Uuid_canon (b u : Bytes) (h : fromEFIGUID b = .ok u) : uuidRec.enc u = b ∧ u.length = 16 :=
  Rec.dec_exact_canon uuidLaws b u (fromEFIGUID_eq_dec b ▸ h)

/-- The mixed-endian rule itself (UEFI Appendix A): the EFI form of a UUID is the UUID with its first
    three fields byte-reversed and the last eight bytes unchanged. -/
theorem C18_Uuid_mixed_endian (u : Bytes) (h : u.length = 16) :
    uuidRec.enc u = (field u 0 4).reverse ++ (field u 4 2).reverse ++ (field u 6 2).reverse ++ field u 8 8 := by
  simp only [Rec.enc, uuidRec, uuidVals, encF, leBytes_beVal _ _ (field_length u 0 4 (by omega)),
    leBytes_beVal _ _ (field_length u 4 2 (by omega)), leBytes_beVal _ _ (field_length u 6 2 (by omega)),
    leBytes_leVal' _ _ (field_length u 8 8 (by omega)), List.append_nil, List.append_assoc]

example : fromEFIGUID [0xde, 0x82, 0xb5, 0x96, 0xb2, 0x1f, 0xf7, 0x45, 0xba, 0xea, 0xa3, 0x66, 0xc5, 0x5a, 0x08, 0x2d]
    = .ok [0x96, 0xb5, 0x82, 0xde, 0x1f, 0xb2, 0x45, 0xf7, 0xba, 0xea, 0xa3, 0x66, 0xc5, 0x5a, 0x08, 0x2d] := by decide +kernel
example : (⟨0x96b582de, 0x1fb2, 0x45f7, [0xba, 0xea, 0xa3, 0x66, 0xc5, 0x5a, 0x08, 0x2d]⟩ : EfiGuid).InRange := by decide +kernel

/-! ## FwGUIDEntry -/

theorem C18_FwGuidEntry_roundtrip (e : FwGuidEntry) (t : Bytes) (h : e.InRange) :
    fwGuidEntryFromBytes (fwGuidEntryRec.enc e ++ t) = .ok e :=
  Rec.dec_enc fwGuidEntryLaws .panicShort e h t nofun

theorem C18_FwGuidEntry_put (e : FwGuidEntry) (data : Bytes) :
    (AbiSizes.SizeofFwGUIDEntry ≤ data.length → fwGuidEntryPut e data = .ok (fwGuidEntryRec.enc e ++ data.drop 18)) ∧
    (data.length < AbiSizes.SizeofFwGUIDEntry → fwGuidEntryPut e data = .err "short") :=
  ⟨Rec.put_ok fwGuidEntryRec e data, Rec.put_short fwGuidEntryRec e data⟩

theorem C18_FwGuidEntry_size (e : FwGuidEntry) : (fwGuidEntryRec.enc e).length = AbiSizes.SizeofFwGUIDEntry :=
  Rec.enc_length _ _

theorem C18_FwGuidEntry_layout :
    AbiSizes.FwGuidEntryPutLayout = AbiLayouts.fwGuidEntryPut ∧
    AbiSizes.FwGuidEntryFromBytesLayout = AbiLayouts.fwGuidEntryFromBytes ∧
    AbiLayouts.contiguous AbiLayouts.fwGuidEntryPut = true ∧
    AbiLayouts.total AbiLayouts.fwGuidEntryPut = AbiLayouts.sizeofFwGuidEntry ∧
    AbiSizes.SizeofFwGUIDEntry = AbiLayouts.sizeofFwGuidEntry ∧
    fwGuidEntryRec.ws = [2] ++ uuidRec.ws ∧ AbiLayouts.widths AbiLayouts.fwGuidEntryPut = [2, uuidRec.ws.sum] :=
  ⟨rfl, rfl, rfl, rfl, rfl, rfl, rfl⟩

theorem C18_FwGuidEntry_short (b : Bytes) (h : b.length < AbiSizes.SizeofFwGUIDEntry) :
    (fwGuidEntryFromBytes b).isOk = false := Rec.dec_short fwGuidEntryRec .panicShort b h

theorem C18_FwGuidEntry_canon (b : Bytes) (e : FwGuidEntry) (h : fwGuidEntryFromBytes b = .ok e) :
    fwGuidEntryRec.enc e = b.take AbiSizes.SizeofFwGUIDEntry ∧ e.InRange :=
  Rec.dec_take fwGuidEntryLaws .panicShort b e h

example : (⟨22, [0, 0xf7, 0x71, 0xde, 0x1a, 0x7e, 0x4f, 0xcb, 0x89, 0x0e, 0x68, 0xc7, 0x7e, 0x2f, 0xb4, 0x4e]⟩ : FwGuidEntry).InRange := by
  decide +kernel

/-! ## SevMetadata, SevMetadataSection -/

theorem C18_SevMetadata_roundtrip (s : SevMetadata) (t : Bytes) (h : s.InRange) :
    sevMetadataFromBytes (sevMetadataRec.enc s ++ t) = .ok s :=
  Rec.dec_enc sevMetadataLaws .panicShort s h t nofun

theorem C18_SevMetadata_put (s : SevMetadata) (data : Bytes) :
    (AbiSizes.SizeofSevMetadata ≤ data.length → sevMetadataPut s data = .ok (sevMetadataRec.enc s ++ data.drop 16)) ∧
    (data.length < AbiSizes.SizeofSevMetadata → sevMetadataPut s data = .err "short") :=
  ⟨Rec.put_ok sevMetadataRec s data, Rec.put_short sevMetadataRec s data⟩

theorem C18_SevMetadata_size (s : SevMetadata) : (sevMetadataRec.enc s).length = AbiSizes.SizeofSevMetadata :=
  Rec.enc_length _ _

theorem C18_SevMetadata_layout :
    AbiSizes.SevMetadataPutLayout = AbiLayouts.sevMetadata ∧ AbiSizes.SevMetadataFromBytesLayout = AbiLayouts.sevMetadata ∧
    AbiLayouts.contiguous AbiLayouts.sevMetadata = true ∧ AbiLayouts.total AbiLayouts.sevMetadata = AbiLayouts.sizeofSevMetadata ∧
    AbiSizes.SizeofSevMetadata = AbiLayouts.sizeofSevMetadata ∧
    sevMetadataRec.ws = AbiLayouts.widths AbiLayouts.sevMetadata :=
  ⟨rfl, rfl, rfl, rfl, rfl, rfl⟩

theorem C18_SevMetadata_short (b : Bytes) (h : b.length < AbiSizes.SizeofSevMetadata) :
    (sevMetadataFromBytes b).isOk = false := Rec.dec_short sevMetadataRec .panicShort b h

theorem C18_SevMetadata_canon (b : Bytes) (s : SevMetadata) (h : sevMetadataFromBytes b = .ok s) :
    sevMetadataRec.enc s = b.take AbiSizes.SizeofSevMetadata ∧ s.InRange :=
  Rec.dec_take sevMetadataLaws .panicShort b s h

example : (⟨0x56455341, 52, 1, 3⟩ : SevMetadata).InRange := by decide +kernel

theorem C18_SevMetadataSection_roundtrip (s : SevMetadataSection) (t : Bytes) (h : s.InRange) :
    sevMetadataSectionFromBytes (sevMetadataSectionRec.enc s ++ t) = .ok s :=
  Rec.dec_enc sevMetadataSectionLaws .panicShort s h t nofun

theorem C18_SevMetadataSection_put (s : SevMetadataSection) (data : Bytes) :
    (AbiSizes.SizeofSevMetadataSection ≤ data.length →
      sevMetadataSectionPut s data = .ok (sevMetadataSectionRec.enc s ++ data.drop 12)) ∧
    (data.length < AbiSizes.SizeofSevMetadataSection → sevMetadataSectionPut s data = .err "short") :=
  ⟨Rec.put_ok sevMetadataSectionRec s data, Rec.put_short sevMetadataSectionRec s data⟩

theorem C18_SevMetadataSection_size (s : SevMetadataSection) :
    (sevMetadataSectionRec.enc s).length = AbiSizes.SizeofSevMetadataSection := Rec.enc_length _ _

theorem C18_SevMetadataSection_layout :
    AbiSizes.SevMetadataSectionPutLayout = AbiLayouts.sevMetadataSection ∧
    AbiSizes.SevMetadataSectionFromBytesLayout = AbiLayouts.sevMetadataSection ∧
    AbiLayouts.contiguous AbiLayouts.sevMetadataSection = true ∧
    AbiLayouts.total AbiLayouts.sevMetadataSection = AbiLayouts.sizeofSevMetadataSection ∧
    AbiSizes.SizeofSevMetadataSection = AbiLayouts.sizeofSevMetadataSection ∧
    sevMetadataSectionRec.ws = AbiLayouts.widths AbiLayouts.sevMetadataSection :=
  ⟨rfl, rfl, rfl, rfl, rfl, rfl⟩

theorem C18_SevMetadataSection_short (b : Bytes) (h : b.length < AbiSizes.SizeofSevMetadataSection) :
    (sevMetadataSectionFromBytes b).isOk = false := Rec.dec_short sevMetadataSectionRec .panicShort b h

theorem C18_SevMetadataSection_canon (b : Bytes) (s : SevMetadataSection) (h : sevMetadataSectionFromBytes b = .ok s) :
    sevMetadataSectionRec.enc s = b.take AbiSizes.SizeofSevMetadataSection ∧ s.InRange :=
  Rec.dec_take sevMetadataSectionLaws .panicShort b s h

example : (⟨0x800000, 0x9000, 1⟩ : SevMetadataSection).InRange := by decide +kernel

/-! ## MetadataOffset -/

theorem C18_MetadataOffset_roundtrip (m : MetadataOffset) (t : Bytes) (h : m.InRange) :
    metadataOffsetFromBytes (metadataOffsetRec.enc m ++ t) = .ok m :=
  Rec.dec_enc metadataOffsetLaws .panicShort m h t nofun

theorem C18_MetadataOffset_put (m : MetadataOffset) (data : Bytes) :
    (AbiSizes.SizeofMetadataOffset ≤ data.length → metadataOffsetPut m data = .ok (metadataOffsetRec.enc m ++ data.drop 22)) ∧
    (data.length < AbiSizes.SizeofMetadataOffset → metadataOffsetPut m data = .err "short") :=
  ⟨Rec.put_ok metadataOffsetRec m data, Rec.put_short metadataOffsetRec m data⟩

theorem C18_MetadataOffset_size (m : MetadataOffset) : (metadataOffsetRec.enc m).length = AbiSizes.SizeofMetadataOffset :=
  Rec.enc_length _ _

theorem C18_MetadataOffset_layout :
    AbiSizes.MetadataOffsetPutLayout = AbiLayouts.metadataOffsetPut ∧
    AbiSizes.MetadataOffsetFromBytesLayout = AbiLayouts.metadataOffsetFromBytes ∧
    AbiLayouts.contiguous AbiLayouts.metadataOffsetPut = true ∧
    AbiLayouts.total AbiLayouts.metadataOffsetPut = AbiLayouts.sizeofMetadataOffset ∧
    AbiSizes.SizeofMetadataOffset = AbiLayouts.sizeofMetadataOffset ∧
    metadataOffsetRec.ws = [4] ++ fwGuidEntryRec.ws ∧
    AbiLayouts.widths AbiLayouts.metadataOffsetPut = [4, fwGuidEntryRec.ws.sum] :=
  ⟨rfl, rfl, rfl, rfl, rfl, rfl, rfl⟩

theorem C18_MetadataOffset_short (b : Bytes) (h : b.length < AbiSizes.SizeofMetadataOffset) :
    (metadataOffsetFromBytes b).isOk = false := Rec.dec_short metadataOffsetRec .panicShort b h

theorem C18_MetadataOffset_canon (b : Bytes) (m : MetadataOffset) (h : metadataOffsetFromBytes b = .ok m) :
    metadataOffsetRec.enc m = b.take AbiSizes.SizeofMetadataOffset ∧ m.InRange :=
  Rec.dec_take metadataOffsetLaws .panicShort b m h

example : (⟨0x1234, ⟨22, [0xdc, 0x88, 0x65, 0x66, 0x98, 0x4a, 0x47, 0x98, 0xa7, 0x5e, 0x55, 0x85, 0xa7, 0xbf, 0x67, 0xcc]⟩⟩ : MetadataOffset).InRange := by
  decide +kernel

/-! ## SEV-ES reset block -/

theorem C18_ResetBlock_roundtrip (r : ResetBlock) (h : r.InRange) :
    sevEsResetBlockFromBytes (resetBlockRec.enc r) = .ok r := Rec.dec_exact_enc resetBlockLaws r h

theorem C18_ResetBlock_put (r : ResetBlock) (data : Bytes) (h : r.InRange) (hd : AbiSizes.SizeofSevEsResetBlock ≤ data.length) :
    putSevEsResetBlock r data = .ok (resetBlockRec.enc r ++ data.drop 22) := by
  unfold putSevEsResetBlock
  rw [if_neg (show ¬ data.length < resetBlockRec.size from Nat.not_lt.mpr hd), if_neg (Nat.not_le.mpr h.2.1),
    if_neg (not_not_intro h.2.2)]
  rfl

theorem C18_ResetBlock_size (r : ResetBlock) : (resetBlockRec.enc r).length = AbiSizes.SizeofSevEsResetBlock :=
  Rec.enc_length _ _

theorem C18_ResetBlock_layout :
    AbiSizes.ResetBlockPutLayout = AbiLayouts.resetBlockPut ∧ AbiSizes.ResetBlockFromBytesLayout = AbiLayouts.resetBlockFromBytes ∧
    AbiLayouts.contiguous AbiLayouts.resetBlockPut = true ∧
    AbiLayouts.total AbiLayouts.resetBlockPut = AbiLayouts.sizeofSevEsResetBlock ∧
    AbiSizes.SizeofSevEsResetBlock = AbiLayouts.sizeofSevEsResetBlock ∧
    resetBlockRec.ws = [4, 2] ++ uuidRec.ws ∧ AbiLayouts.widths AbiLayouts.resetBlockPut = [4, 2, uuidRec.ws.sum] :=
  ⟨rfl, rfl, rfl, rfl, rfl, rfl, rfl⟩

/-- a Size that does not fit 16 bits, or a Guid that is not 16 bytes, is refused (never truncated) -/
theorem C18_ResetBlock_strict_range (r : ResetBlock) (data : Bytes) (_ht : r.TypeOK) (h : ¬ r.InRange) :
    (putSevEsResetBlock r data).isOk = false := by
  unfold putSevEsResetBlock
  by_cases h1 : data.length < resetBlockRec.size
  · rw [if_pos h1]; rfl
  · by_cases h2 : r.size ≥ 2 ^ 16
    · rw [if_neg h1, if_pos h2]; rfl
    · rw [if_neg h1, if_neg h2, if_pos (show r.guid.length ≠ 16 from fun h3 => h ⟨_ht.1, Nat.not_le.mp h2, h3⟩)]; rfl

/-- exactly 22 bytes are accepted: shorter and longer inputs are refused -/
theorem C18_ResetBlock_strict_size (b : Bytes) (h : b.length ≠ AbiSizes.SizeofSevEsResetBlock) :
    sevEsResetBlockFromBytes b = .err "size" := Rec.dec_exact_long resetBlockRec b h

theorem C18_ResetBlock_canon (b : Bytes) (r : ResetBlock) (h : sevEsResetBlockFromBytes b = .ok r) :
    resetBlockRec.enc r = b ∧ r.InRange := Rec.dec_exact_canon resetBlockLaws b r h

example : (⟨0xfffff000, 22, [0, 0xf7, 0x71, 0xde, 0x1a, 0x7e, 0x4f, 0xcb, 0x89, 0x0e, 0x68, 0xc7, 0x7e, 0x2f, 0xb4, 0x4e]⟩ : ResetBlock).InRange := by
  decide +kernel
example : (putSevEsResetBlock ⟨1, 0x10005, zeros 16⟩ (zeros 22)).isOk = false := by decide +kernel

/-! ## TDX metadata -/

theorem C18_TdxDescriptor_roundtrip (d : TdxDescriptor) (t : Bytes) (h : d.InRange) :
    tdxDescriptorFromBytes (tdxDescriptorRec.enc d ++ t) = .ok d :=
  Rec.dec_enc tdxDescriptorLaws .errShort d h t nofun

theorem C18_TdxDescriptor_put (d : TdxDescriptor) (data : Bytes) :
    (AbiSizes.SizeofTDXMetadataDescriptor ≤ data.length → tdxDescriptorPut d data = .ok (tdxDescriptorRec.enc d ++ data.drop 16)) ∧
    (data.length < AbiSizes.SizeofTDXMetadataDescriptor → tdxDescriptorPut d data = .err "short") :=
  ⟨Rec.put_ok tdxDescriptorRec d data, Rec.put_short tdxDescriptorRec d data⟩

theorem C18_TdxDescriptor_size (d : TdxDescriptor) :
    (tdxDescriptorRec.enc d).length = AbiSizes.SizeofTDXMetadataDescriptor := Rec.enc_length _ _

theorem C18_TdxDescriptor_layout :
    AbiSizes.TdxDescriptorPutLayout = AbiLayouts.tdxDescriptor ∧ AbiSizes.TdxDescriptorFromBytesLayout = AbiLayouts.tdxDescriptor ∧
    AbiLayouts.contiguous AbiLayouts.tdxDescriptor = true ∧ AbiLayouts.total AbiLayouts.tdxDescriptor = AbiLayouts.sizeofTdxDescriptor ∧
    AbiSizes.SizeofTDXMetadataDescriptor = AbiLayouts.sizeofTdxDescriptor ∧
    tdxDescriptorRec.ws = AbiLayouts.widths AbiLayouts.tdxDescriptor :=
  ⟨rfl, rfl, rfl, rfl, rfl, rfl⟩

theorem C18_TdxDescriptor_short (b : Bytes) (h : b.length < AbiSizes.SizeofTDXMetadataDescriptor) :
    tdxDescriptorFromBytes b = .err "short" := Rec.dec_errShort tdxDescriptorRec b h

theorem C18_TdxDescriptor_canon (b : Bytes) (d : TdxDescriptor) (h : tdxDescriptorFromBytes b = .ok d) :
    tdxDescriptorRec.enc d = b.take AbiSizes.SizeofTDXMetadataDescriptor ∧ d.InRange :=
  Rec.dec_take tdxDescriptorLaws .errShort b d h

theorem C18_TdxSection_roundtrip (s : TdxSection) (t : Bytes) (h : s.InRange) :
    tdxSectionFromBytes (tdxSectionRec.enc s ++ t) = .ok s :=
  Rec.dec_enc tdxSectionLaws .errShort s h t nofun

theorem C18_TdxSection_put (s : TdxSection) (data : Bytes) :
    (AbiSizes.SizeofTDXMetdataSection ≤ data.length → tdxSectionPut s data = .ok (tdxSectionRec.enc s ++ data.drop 32)) ∧
    (data.length < AbiSizes.SizeofTDXMetdataSection → tdxSectionPut s data = .err "short") :=
  ⟨Rec.put_ok tdxSectionRec s data, Rec.put_short tdxSectionRec s data⟩

theorem C18_TdxSection_size (s : TdxSection) : (tdxSectionRec.enc s).length = AbiSizes.SizeofTDXMetdataSection :=
  Rec.enc_length _ _

theorem C18_TdxSection_layout :
    AbiSizes.TdxSectionPutLayout = AbiLayouts.tdxSection ∧ AbiSizes.TdxSectionFromBytesLayout = AbiLayouts.tdxSection ∧
    AbiLayouts.contiguous AbiLayouts.tdxSection = true ∧ AbiLayouts.total AbiLayouts.tdxSection = AbiLayouts.sizeofTdxSection ∧
    AbiSizes.SizeofTDXMetdataSection = AbiLayouts.sizeofTdxSection ∧
    tdxSectionRec.ws = AbiLayouts.widths AbiLayouts.tdxSection :=
  ⟨rfl, rfl, rfl, rfl, rfl, rfl⟩

theorem C18_TdxSection_short (b : Bytes) (h : b.length < AbiSizes.SizeofTDXMetdataSection) :
    tdxSectionFromBytes b = .err "short" := Rec.dec_errShort tdxSectionRec b h

theorem C18_TdxSection_canon (b : Bytes) (s : TdxSection) (h : tdxSectionFromBytes b = .ok s) :
    tdxSectionRec.enc s = b.take AbiSizes.SizeofTDXMetdataSection ∧ s.InRange :=
  Rec.dec_take tdxSectionLaws .errShort b s h

theorem C18_TdxMetadata_roundtrip (m : TdxMetadata) (t : Bytes) (h : m.InRange) :
    tdxMetadataFromBytes (tdxMetadataEnc m ++ t) = .ok m := by
  obtain ⟨hh, hc, hs, _⟩ := h
  have hl : (tdxDescriptorRec.enc m.header).length = 16 := Rec.enc_length _ _
  have hd := Rec.dec_enc tdxDescriptorLaws .errShort m.header hh (tdxSectionsEnc m.sections ++ t) nofun
  simp only [tdxMetadataFromBytes, tdxDescriptorFromBytes, tdxMetadataEnc, List.append_assoc, hd]
  rw [if_neg (by simp only [List.length_append, hl, tdxSectionsEnc_length]; omega), List.drop_left' hl, hc,
    tdxReadSections_enc _ _ hs]

theorem C18_TdxMetadata_put (m : TdxMetadata) (data : Bytes) (h : m.InRange) :
    (16 + 32 * m.sections.length ≤ data.length →
      tdxMetadataPut m data = .ok (tdxMetadataEnc m ++ data.drop (16 + 32 * m.sections.length))) ∧
    (data.length < 16 + 32 * m.sections.length → tdxMetadataPut m data = .err "short") := by
  obtain ⟨_, hc, _, hs⟩ := h
  -- no 32-bit wrap in `Size()`
  have hsz : tdxMetadataSize m = 16 + 32 * m.sections.length := by unfold tdxMetadataSize; omega
  unfold tdxMetadataPut
  rw [if_neg (not_not_intro hc), hsz, tdxMetadataEnc_length]
  exact ⟨fun hd => by rw [if_neg (Nat.not_lt.mpr hd), if_pos hd], fun hd => if_pos hd⟩

theorem C18_TdxMetadata_size (m : TdxMetadata) :
    (tdxMetadataEnc m).length =
      AbiSizes.SizeofTDXMetadataDescriptor + AbiSizes.SizeofTDXMetdataSection * m.sections.length :=
  tdxMetadataEnc_length m

/-- a section count that differs from the number of sections is refused by Put -/
theorem C18_TdxMetadata_strict_count (m : TdxMetadata) (data : Bytes) (h : m.header.sectionCount ≠ m.sections.length) :
    tdxMetadataPut m data = .err "count" := if_pos h

/-- short input: fewer than 16 bytes, or fewer bytes than the declared section count needs, is
    refused — the decoder never completes missing sections (no 32-bit wrap of `count * 32`) -/
theorem C18_TdxMetadata_short (b : Bytes) :
    (b.length < AbiSizes.SizeofTDXMetadataDescriptor → tdxMetadataFromBytes b = .err "short") ∧
    (∀ m, tdxMetadataFromBytes b = .ok m →
      AbiSizes.SizeofTDXMetadataDescriptor + AbiSizes.SizeofTDXMetdataSection * m.header.sectionCount ≤ b.length) := by
  refine ⟨fun h => by rw [tdxMetadataFromBytes, tdxDescriptorFromBytes, Rec.dec_errShort tdxDescriptorRec b h], ?_⟩
  intro m hm
  obtain ⟨_, h2, h3, _⟩ := tdxMetadata_canon b m hm
  rw [h3]; exact h2

theorem C18_TdxMetadata_canon (b : Bytes) (m : TdxMetadata) (h : tdxMetadataFromBytes b = .ok m) :
    tdxMetadataEnc m = b.take (16 + 32 * m.sections.length) ∧ m.header.sectionCount = m.sections.length ∧
    m.header.InRange ∧ (∀ s ∈ m.sections, s.InRange) := by
  obtain ⟨h1, _, h3, h4, h5⟩ := tdxMetadata_canon b m h
  exact ⟨h1, h3, h4, h5⟩

example : (⟨⟨0x46564454, 80, 1, 2⟩, [⟨0, 0x1000, 0xfffff000, 0x1000, 0, 1⟩, ⟨0, 0, 0x809000, 0x2000, 2, 0⟩]⟩ : TdxMetadata).InRange := by
  decide +kernel
/-- a 16-byte block declaring 2^27 sections (the wrap-around input) is refused -/
example : tdxMetadataFromBytes (tdxDescriptorRec.enc ⟨0x46564454, 16, 1, 2 ^ 27⟩) = .err "short" := by decide +kernel

/-! ## PAGE_INFO and VMCB segment (light; the VMSA/PAGE_INFO tables are C04's) -/

theorem C18_PageInfo_roundtrip (p : PageInfo) (t : Bytes) (h : p.InRange) : pageInfoDec (pageInfoRec.enc p ++ t) = .ok p :=
  Rec.dec_enc pageInfoLaws .errShort p h t nofun

theorem C18_PageInfo_put (p : PageInfo) (data : Bytes) :
    (AbiSizes.SizeofPageInfo ≤ data.length → pageInfoPut p data = .ok (pageInfoRec.enc p ++ data.drop 112)) ∧
    (data.length < AbiSizes.SizeofPageInfo → pageInfoPut p data = .err "short") :=
  ⟨Rec.put_ok pageInfoRec p data, Rec.put_short pageInfoRec p data⟩

theorem C18_PageInfo_size (p : PageInfo) : (pageInfoRec.enc p).length = AbiSizes.SizeofPageInfo := Rec.enc_length _ _

theorem C18_PageInfo_layout :
    AbiSizes.PageInfoPutLayout = AbiLayouts.pageInfo ∧ AbiLayouts.contiguous AbiLayouts.pageInfo = true ∧
    AbiLayouts.total AbiLayouts.pageInfo = AbiLayouts.sizeofPageInfo ∧ AbiSizes.SizeofPageInfo = AbiLayouts.sizeofPageInfo ∧
    pageInfoRec.ws = AbiLayouts.widths AbiLayouts.pageInfo :=
  ⟨rfl, rfl, rfl, rfl, rfl⟩

/-- the reserved byte 0x64 is written as zero and a reader refuses it when set -/
theorem C18_PageInfo_strict_reserved (b : Bytes) (h : pageInfoRec.valid (decF pageInfoRec.ws b) = false) :
    (pageInfoDec b).isOk = false := Rec.dec_reserved pageInfoRec .errShort b h

theorem C18_PageInfo_canon (b : Bytes) (p : PageInfo) (h : pageInfoDec b = .ok p) :
    pageInfoRec.enc p = b.take AbiSizes.SizeofPageInfo ∧ p.InRange :=
  Rec.dec_take pageInfoLaws .errShort b p h

example : (⟨zeros 48, zeros 48, 0x70, 1, 0, 0, 0, 0, 0xfffff000⟩ : PageInfo).InRange := by decide +kernel
example : (pageInfoDec (zeros 100 ++ [1] ++ zeros 11)).isOk = false := by decide +kernel

theorem C18_VmcbSeg_roundtrip (s : VmcbSeg) (t : Bytes) (h : s.InRange) : vmcbSegDec (vmcbSegRec.enc s ++ t) = .ok s :=
  Rec.dec_enc vmcbSegLaws .errShort s h t nofun

theorem C18_VmcbSeg_put (s : VmcbSeg) (data : Bytes) (h : s.InRange) (hd : AbiSizes.SizeofVmcbSeg ≤ data.length) :
    putVmcbSeg s data = .ok (vmcbSegRec.enc s ++ data.drop 16) := by
  unfold putVmcbSeg
  rw [if_neg (show ¬ data.length < vmcbSegRec.size from Nat.not_lt.mpr hd), if_neg (Nat.not_le.mpr h.1),
    if_neg (Nat.not_le.mpr h.2.1)]
  rfl

theorem C18_VmcbSeg_size (s : VmcbSeg) : (vmcbSegRec.enc s).length = AbiSizes.SizeofVmcbSeg := Rec.enc_length _ _

theorem C18_VmcbSeg_layout :
    AbiSizes.VmcbSegPutLayout = AbiLayouts.vmcbSeg ∧ AbiLayouts.contiguous AbiLayouts.vmcbSeg = true ∧
    AbiLayouts.total AbiLayouts.vmcbSeg = AbiLayouts.sizeofVmcbSeg ∧ AbiSizes.SizeofVmcbSeg = AbiLayouts.sizeofVmcbSeg ∧
    vmcbSegRec.ws = AbiLayouts.widths AbiLayouts.vmcbSeg :=
  ⟨rfl, rfl, rfl, rfl, rfl⟩

/-- a selector or attribute that does not fit 16 bits is refused -/
theorem C18_VmcbSeg_strict_range (s : VmcbSeg) (data : Bytes) (ht : s.TypeOK) (h : ¬ s.InRange) :
    (putVmcbSeg s data).isOk = false := by
  unfold putVmcbSeg
  by_cases h1 : data.length < vmcbSegRec.size
  · rw [if_pos h1]; rfl
  · by_cases h2 : s.selector ≥ 2 ^ 16
    · rw [if_neg h1, if_pos h2]; rfl
    · rw [if_neg h1, if_neg h2,
        if_pos (Nat.le_of_not_lt fun h3 => h ⟨Nat.not_le.mp h2, h3, ht.2.2.1, ht.2.2.2⟩ : s.attrib ≥ 2 ^ 16)]; rfl

example : (⟨0xf000, 0x9b, 0xffff, 0xffff0000⟩ : VmcbSeg).InRange := by decide +kernel
example : (putVmcbSeg ⟨0x10000, 0, 0, 0⟩ (zeros 16)).isOk = false := by decide +kernel

/-! ## PI hand-off blocks -/

theorem C18_HobHeader_roundtrip (h : HobHeader) (t : Bytes) (hr : h.InRange) : hobHeaderDec (hobHeaderWriteTo h ++ t) = .ok h :=
  Rec.dec_enc hobHeaderLaws .errShort h hr t nofun

theorem C18_HobHeader_size (h : HobHeader) : (hobHeaderWriteTo h).length = AbiSizes.SizeofHOBGenericHeader := Rec.enc_length _ _

theorem C18_HobHeader_layout :
    AbiSizes.HobHeaderWriteToLayout = AbiLayouts.hobHeader ∧ AbiLayouts.contiguous AbiLayouts.hobHeader = true ∧
    AbiLayouts.total AbiLayouts.hobHeader = AbiLayouts.sizeofHobHeader ∧ AbiSizes.SizeofHOBGenericHeader = AbiLayouts.sizeofHobHeader ∧
    hobHeaderRec.ws = AbiLayouts.widths AbiLayouts.hobHeader ∧
    AbiSizes.EFIHOBTypeHandoff = AbiLayouts.hobTypeHandoff ∧ AbiSizes.EFIHOBTypeResourceDescriptor = AbiLayouts.hobTypeResourceDescriptor ∧
    AbiSizes.EFIHOBTypeGUIDExtension = AbiLayouts.hobTypeGuidExtension ∧ AbiSizes.EFIHOBTypeEndOfHOBList = AbiLayouts.hobTypeEndOfHobList ∧
    AbiSizes.EFIHOBHandoffTableVersion = AbiLayouts.hobHandoffTableVersion :=
  ⟨rfl, rfl, rfl, rfl, rfl, rfl, rfl, rfl, rfl, rfl⟩

theorem C18_HobHeader_strict_reserved (b : Bytes) (h : hobHeaderRec.valid (decF hobHeaderRec.ws b) = false) :
    (hobHeaderDec b).isOk = false := Rec.dec_reserved hobHeaderRec .errShort b h

theorem C18_HobHeader_short (b : Bytes) (h : b.length < AbiSizes.SizeofHOBGenericHeader) : (hobHeaderDec b).isOk = false :=
  Rec.dec_short hobHeaderRec .errShort b h

theorem C18_HobHeader_canon (b : Bytes) (h : HobHeader) (hd : hobHeaderDec b = .ok h) :
    hobHeaderWriteTo h = b.take AbiSizes.SizeofHOBGenericHeader ∧ h.InRange :=
  Rec.dec_take hobHeaderLaws .errShort b h hd

example : (⟨0xFFFF, 8⟩ : HobHeader).InRange := by decide +kernel
example : (hobHeaderDec [4, 0, 32, 0, 0, 0, 1, 0]).isOk = false := by decide +kernel

theorem C18_Handoff_roundtrip (t : HandoffInfoTable) (tl : Bytes) (h : t.InRange) : handoffDec (handoffWriteTo t ++ tl) = .ok t :=
  Rec.dec_enc handoffLaws .errShort t h tl nofun

theorem C18_Handoff_size (t : HandoffInfoTable) : (handoffWriteTo t).length = AbiSizes.SizeOfEFIHOBHandoffInfoTable :=
  Rec.enc_length _ _

theorem C18_Handoff_layout :
    AbiSizes.HandoffWriteToLayout = AbiLayouts.handoff ∧ AbiLayouts.contiguous AbiLayouts.handoff = true ∧
    AbiLayouts.total AbiLayouts.handoff = AbiLayouts.sizeofHandoff ∧ AbiSizes.SizeOfEFIHOBHandoffInfoTable = AbiLayouts.sizeofHandoff ∧
    handoffRec.ws = hobHeaderRec.ws ++ (AbiLayouts.widths AbiLayouts.handoff).drop 1 ∧
    (AbiLayouts.widths AbiLayouts.handoff).take 1 = [hobHeaderRec.ws.sum] :=
  ⟨rfl, rfl, rfl, rfl, rfl, rfl⟩

theorem C18_Handoff_strict_reserved (b : Bytes) (h : handoffRec.valid (decF handoffRec.ws b) = false) :
    (handoffDec b).isOk = false := Rec.dec_reserved handoffRec .errShort b h

theorem C18_Handoff_short (b : Bytes) (h : b.length < AbiSizes.SizeOfEFIHOBHandoffInfoTable) : (handoffDec b).isOk = false :=
  Rec.dec_short handoffRec .errShort b h

theorem C18_Handoff_canon (b : Bytes) (t : HandoffInfoTable) (hd : handoffDec b = .ok t) :
    handoffWriteTo t = b.take AbiSizes.SizeOfEFIHOBHandoffInfoTable ∧ t.InRange :=
  Rec.dec_take handoffLaws .errShort b t hd

example : (⟨⟨1, 56⟩, 9, 0, 0x80000000, 0x809000, 0x80000000, 0x80b000, 0x809100⟩ : HandoffInfoTable).InRange := by decide +kernel

theorem C18_Resource_roundtrip (d : ResourceDescriptor) (t : Bytes) (h : d.InRange) : resourceDec (resourceWriteTo d ++ t) = .ok d :=
  Rec.dec_enc resourceLaws .errShort d h t nofun

theorem C18_Resource_size (d : ResourceDescriptor) : (resourceWriteTo d).length = AbiSizes.SizeofEFIHOBResourceDescriptor :=
  Rec.enc_length _ _

theorem C18_Resource_layout :
    AbiSizes.ResourceWriteToLayout = AbiLayouts.resource ∧ AbiLayouts.contiguous AbiLayouts.resource = true ∧
    AbiLayouts.total AbiLayouts.resource = AbiLayouts.sizeofResource ∧
    AbiSizes.SizeofEFIHOBResourceDescriptor = AbiLayouts.sizeofResource ∧
    resourceRec.ws = hobHeaderRec.ws ++ efiGuidRec.ws ++ (AbiLayouts.widths AbiLayouts.resource).drop 2 ∧
    (AbiLayouts.widths AbiLayouts.resource).take 2 = [hobHeaderRec.ws.sum, efiGuidRec.ws.sum] :=
  ⟨rfl, rfl, rfl, rfl, rfl, rfl⟩

theorem C18_Resource_strict_reserved (b : Bytes) (h : resourceRec.valid (decF resourceRec.ws b) = false) :
    (resourceDec b).isOk = false := Rec.dec_reserved resourceRec .errShort b h

theorem C18_Resource_short (b : Bytes) (h : b.length < AbiSizes.SizeofEFIHOBResourceDescriptor) : (resourceDec b).isOk = false :=
  Rec.dec_short resourceRec .errShort b h

theorem C18_Resource_canon (b : Bytes) (d : ResourceDescriptor) (hd : resourceDec b = .ok d) :
    resourceWriteTo d = b.take AbiSizes.SizeofEFIHOBResourceDescriptor ∧ d.InRange :=
  Rec.dec_take resourceLaws .errShort b d hd

example : (⟨⟨3, 48⟩, ⟨0, 0, 0, zeros 8⟩, 7, 0x10000003, 0xffe00000, 0x200000⟩ : ResourceDescriptor).InRange := by decide +kernel

/-- WriteTo of an in-range GUID HOB succeeds and a PI-spec reader gets the HOB (and the rest) back -/
theorem C18_GuidHob_roundtrip (h : GuidHob) (t : Bytes) (hr : h.InRange) :
    ∃ bs, guidHobWriteTo h = .ok bs ∧ guidHobDec (bs ++ t) = .ok (h, t) :=
  ⟨_, guidHobWriteTo_ok h hr, guidHob_roundtrip h t hr⟩

/-- the bytes written are HobLength = 24 + len(Data) bytes -/
theorem C18_GuidHob_size (h : GuidHob) (bs : Bytes) (hw : guidHobWriteTo h = .ok bs) :
    bs.length = h.header.hobLength ∧ bs.length = AbiSizes.SizeofHOBGUID + h.data.length := by
  unfold guidHobWriteTo at hw
  obtain ⟨_, hw⟩ := Outcome.ite_err_eq_ok hw
  obtain ⟨hl, hw⟩ := Outcome.ite_err_eq_ok hw
  cases hw
  have hb : (hobHeaderRec.enc h.header ++ efiGuidRec.enc h.guid ++ h.data).length = 24 + h.data.length := by
    simp only [List.length_append, Rec.enc_length]; rfl
  exact ⟨hb.trans (Decidable.of_not_not hl).symm, hb⟩

theorem C18_GuidHob_layout :
    AbiSizes.GuidHobWriteToLayout = AbiLayouts.guidHob ∧ AbiLayouts.contiguous AbiLayouts.guidHob = true ∧
    AbiLayouts.total AbiLayouts.guidHob = AbiLayouts.sizeofHobGuid ∧ AbiSizes.SizeofHOBGUID = AbiLayouts.sizeofHobGuid ∧
    AbiSizes.MaxGUIDHOBDataSize = AbiLayouts.maxGuidHobDataSize ∧ maxGuidHobDataSize = AbiSizes.MaxGUIDHOBDataSize ∧
    (AbiLayouts.widths AbiLayouts.guidHob).take 2 = [hobHeaderRec.ws.sum, efiGuidRec.ws.sum] :=
  ⟨rfl, rfl, rfl, rfl, rfl, rfl, rfl⟩

/-- a wrong HOB type, or a HobLength that is not 24 + len(Data), is refused by WriteTo -/
theorem C18_GuidHob_strict_header (h : GuidHob)
    (hn : ¬ (h.header.hobType = AbiSizes.EFIHOBTypeGUIDExtension ∧ h.header.hobLength = AbiSizes.SizeofHOBGUID + h.data.length)) :
    (guidHobWriteTo h).isOk = false := by
  unfold guidHobWriteTo
  by_cases ht : h.header.hobType ≠ 4
  · rw [if_pos ht]; rfl
  · rw [if_neg ht,
      if_pos (show h.header.hobLength ≠ 24 + h.data.length from fun hl => hn ⟨Decidable.of_not_not ht, hl⟩)]; rfl

/-- CreateEFIHOBGUID: the HOB is accepted by WriteTo, its length is a multiple of 8 that fits 16 bits,
    and its data is the caller's data followed by fewer than 8 zero bytes -/
theorem C18_GuidHob_create (u d : Bytes) (h : GuidHob) (hu : u.length = 16) (hc : createEFIHOBGUID u d = .ok h) :
    h.InRange ∧ h.header.hobLength % 8 = 0 ∧ h.data = d ++ zeros (h.data.length - d.length) ∧
    h.data.length - d.length < 8 ∧ d.length ≤ h.data.length := by
  obtain ⟨p1, p2, p3⟩ := pad8 d.length
  unfold createEFIHOBGUID at hc
  generalize (d.length + 7) / 8 * 8 = p at *
  obtain ⟨hl, hc⟩ := Outcome.ite_err_eq_ok hc
  cases hc
  have hp : p ≤ 65504 := Nat.le_of_not_gt hl
  have hm : (24 + p) % 2 ^ 16 = 24 + p := Nat.mod_eq_of_lt (by omega)
  have e : d.length + (p - d.length) = p := Nat.add_sub_cancel' p1
  simp only [GuidHob.InRange, List.length_append, zeros_length, hm, e]
  exact ⟨⟨trivial, trivial, Nat.lt_of_le_of_lt (Nat.add_le_add_left hp 24) (by decide), fromUUID_inRange u⟩,
    by omega, trivial, Nat.sub_lt_left_of_lt_add p1 p2, p1⟩

/-- CreateEFIHOBGUID refuses exactly the data whose padded size exceeds MaxGUIDHOBDataSize -/
theorem C18_GuidHob_strict_create (u d : Bytes) :
    ((d.length + 7) / 8 * 8 > AbiSizes.MaxGUIDHOBDataSize → createEFIHOBGUID u d = .err "long") ∧
    ((d.length + 7) / 8 * 8 ≤ AbiSizes.MaxGUIDHOBDataSize → (createEFIHOBGUID u d).isOk = true) :=
  ⟨fun hl => if_pos hl, fun hl => congrArg Outcome.isOk (if_neg (Nat.not_lt.mpr hl))⟩

/-- what the reader accepts is what WriteTo writes: nothing is completed or dropped -/
theorem C18_GuidHob_canon (b rest : Bytes) (h : GuidHob) (hd : guidHobDec b = .ok (h, rest)) :
    h.InRange ∧ ∃ bs, guidHobWriteTo h = .ok bs ∧ b = bs ++ rest := by
  obtain ⟨h1, h2⟩ := guidHob_canon b rest h hd
  exact ⟨h1, _, guidHobWriteTo_ok h h1, h2⟩

theorem C18_GuidHob_short (b : Bytes) (h : b.length < AbiSizes.SizeofHOBGenericHeader) : (guidHobDec b).isOk = false := by
  rw [guidHobDec, hobHeaderDec, Rec.dec_errShort hobHeaderRec b h]; rfl

example : (⟨⟨4, 32⟩, ⟨0xe2c3bc69, 0x615c, 0x4b5b, [0x8e, 0x5c, 0xa0, 0x33, 0xa9, 0xc2, 0x5e, 0xd6]⟩, [0x66, 0x6f, 0x6f, 0, 0, 0, 0, 0]⟩ : GuidHob).InRange := by
  decide +kernel
example : (createEFIHOBGUID (zeros 16) [0x66, 0x6f, 0x6f]).isOk = true := by decide +kernel

/-! ## size-prefixed strings and arrays -/

/-- full canonicity of the size-prefixed array reader (prefix width `w` bytes) -/
def SizedArrayCanon (cfg : Cfg) (w : Nat) : Prop :=
  ∀ b d rest, readSizedArray cfg w b = .ok d rest → b = leBytes w d.length ++ d ++ rest

theorem C18_SizedArray_roundtrip (cfg : Cfg) (w : Nat) (d t : Bytes) (h : d.length < 256 ^ w)
    (he : cfg.strict = true ∨ cfg.kind = .buffer ∨ d ++ t ≠ []) :
    ∃ bs, writeSizedArray w d = some bs ∧ bs.length = w + d.length ∧ readSizedArray cfg w (bs ++ t) = .ok d t := by
  refine ⟨_, writeSizedArray_eq w d h, by simp [encSized], readSizedArray_enc cfg w d t h he⟩

/-- with the repaired readers (`strictShortRead = true`) the full statement holds -/
theorem C18_SizedArray_canon (cfg : Cfg) (w : Nat) (hs : cfg.strict = true) : SizedArrayCanon cfg w := by
  intro b d rest h
  exact (readSizedArray_canon hs h).1

/-- D4/D11a: the original reader ignores the count returned by `r.Read`: the 6-byte input
    `05 00 00 00 01 02` is accepted as the 5-byte array `01 02 00 00 00` -/
theorem C18_finding_short_read (k : RKind) : ¬ SizedArrayCanon ⟨false, k⟩ 4 := by
  intro h
  have := h [5, 0, 0, 0, 1, 2] [1, 2, 0, 0, 0] [] (by cases k <;> decide)
  revert this; decide

/-- the original reader is canonical on inputs that are long enough for their declared size -/
theorem C18_SizedArray_canon_partial (cfg : Cfg) (w : Nat) (b d rest : Bytes) (hl : leVal (b.take w) ≤ b.length - w)
    (h : readSizedArray cfg w b = .ok d rest) : b = leBytes w d.length ++ d ++ rest :=
  ((readSizedArray_ok_cases h).resolve_right fun h' => Nat.not_lt.2 hl h'.2).1

/-- repaired readers: a declared size that exceeds what remains is refused -/
theorem C18_SizedArray_short (cfg : Cfg) (w : Nat) (b : Bytes) (hs : cfg.strict = true)
    (hl : b.length < w ∨ b.length - w < leVal (b.take w)) : (readSizedArray cfg w b).isOk = false := by
  rw [readSizedArray]
  cases h1 : readLE w b with
  | eof => rfl
  | fail => rfl
  | ok size r1 =>
    obtain ⟨hv, hn⟩ := readLE_ok_val h1
    rw [andThen_ok, readBody_strict hs]
    exact readFull_short (by omega)

/-- the writer refuses a length that does not fit the prefix -/
theorem C18_SizedArray_strict_length (w : Nat) (d : Bytes) (h : ¬ d.length < 256 ^ w) : writeSizedArray w d = none :=
  if_neg h

/-- original readers over a bytes.Reader: an empty array at the very end of the input — a valid
    encoding — is rejected, because a zero-length Read at end of input returns io.EOF -/
theorem C18_finding_empty_at_eof :
    writeSizedArray 4 [] = some [0, 0, 0, 0] ∧ readSizedArray ⟨false, .reader⟩ 4 [0, 0, 0, 0] = .eof ∧
    readSizedArray ⟨false, .buffer⟩ 4 [0, 0, 0, 0] = .ok [] [] ∧
    (∀ k, readSizedArray ⟨true, k⟩ 4 [0, 0, 0, 0] = .ok [] []) := by
  refine ⟨by decide, by decide, by decide, ?_⟩
  intro k; cases k <;> decide

example : readSizedArray ⟨true, .reader⟩ 4 [5, 0, 0, 0, 1, 2] = .fail := by decide +kernel
example : readSizedArray ⟨true, .reader⟩ 4 [2, 0, 0, 0, 1, 2, 9] = .ok [1, 2] [9] := by decide +kernel

theorem C18_CStr_roundtrip (cfg : Cfg) (s t : Bytes) (h : s.length ≤ 254) :
    ∃ bs, writeCStr s = some bs ∧ bs.length = s.length + 2 ∧ readCStr cfg (bs ++ t) = .ok s t :=
  ⟨_, writeCStr_eq s h, by simp [encCStr]; omega, readCStr_enc cfg s t h⟩

theorem C18_CStr_canon (cfg : Cfg) (hs : cfg.strict = true) (b s rest : Bytes) (h : readCStr cfg b = .ok s rest) :
    ∃ bs, writeCStr s = some bs ∧ b = bs ++ rest := by
  obtain ⟨h1, h2⟩ := readCStr_canon hs h
  exact ⟨_, writeCStr_eq s h2, h1⟩

/-- a string longer than 254 bytes (255 with the terminator) is refused by Marshal -/
theorem C18_CStr_strict_length (s : Bytes) (h : 254 < s.length) : writeCStr s = none :=
  if_pos (Nat.succ_lt_succ h)

/-- a body that does not end in the zero terminator is refused -/
theorem C18_CStr_strict_terminator (cfg : Cfg) (data t : Bytes) (h : data.length < 256) (hne : data ≠ [])
    (hl : data.getLast? ≠ some 0) : readCStr cfg (leBytes 1 data.length ++ data ++ t) = .fail := by
  show readCStr cfg (encSized 1 data ++ t) = .fail
  rw [readCStr, readSizedArray_enc cfg 1 data t (by simpa using h) (Or.inr (Or.inr (by simp [hne]))), andThen_ok,
    if_pos (by simp [hl])]

example : readCStr ⟨true, .buffer⟩ [4, 0x66, 0x6f, 0x6f, 0, 7] = .ok [0x66, 0x6f, 0x6f] [7] := by decide +kernel
example : readCStr ⟨false, .buffer⟩ [5, 0x61, 0x62] = .ok [0x61, 0x62, 0, 0] [] := by decide +kernel
example : readCStr ⟨true, .buffer⟩ [5, 0x61, 0x62] = .fail := by decide +kernel

/-! ## tagged digests -/

theorem C18_Digest_roundtrip (d : Digest) (t : Bytes) (h : d.InRange) :
    ∃ bs, writeDigest d = some bs ∧ readDigest (bs ++ t) = .ok d t :=
  ⟨_, writeDigest_eq d h, readDigest_enc d t h⟩

/-- the encoding is the 2-byte algorithm id followed by a digest of the algorithm's size -/
theorem C18_Digest_size (d : Digest) (bs : Bytes) (sz : Nat) (ha : tpmAlgoSize d.alg = some sz) (h : writeDigest d = some bs) :
    bs.length = 2 + sz := by
  simp only [writeDigest, ha] at h
  by_cases hl : d.digest.length = sz
  · rw [if_pos hl] at h; injection h with h; subst h; simp [hl]
  · rw [if_neg hl] at h; cases h

theorem C18_Digest_layout :
    AbiSizes.tpmAlgoSize = AbiLayouts.tpmAlgoSize ∧
    (∀ p ∈ AbiLayouts.tpmAlgoSize, tpmAlgoSize p.1 = some p.2) ∧
    AbiSizes.DigestReadOrder = AbiLayouts.digestOrder ∧ AbiSizes.DigestWriteOrder = AbiLayouts.digestOrder :=
  ⟨rfl, by decide, rfl, rfl⟩

/-- the model's digest-size function IS the regenerated map: the same size for every listed algorithm id and
    `none` for every other id (C18_Digest_layout alone would admit a model that knows more algorithms) -/
theorem C18_Digest_table_exact (alg : Nat) : tpmAlgoSize alg = AbiSizes.tpmAlgoSize.lookup alg :=
  tpmAlgoSize_eq_lookup alg

/-- the widths of the size prefixes / counts the readers of Model/EventLog.lean use (`readSizedArray cfg 1` in
    readCStr, `readSizedArray cfg 4` in readU32Array, `readLE 4` in readDigestArray and readEventData) are the
    widths of the `size` locals of the Go readers, regenerated from their static types -/
theorem C18_SizePrefix_widths :
    Gen.EvlConsts.sizePrefixWidths =
      [("eventlog.TCGEventData.Unmarshal", 4), ("eventlog.ByteSizedCStr.Unmarshal", 1),
       ("eventlog.Uint32SizedArray.Unmarshal", 4), ("eventlog.Uint32SizedArrayT.Unmarshal", 4)] :=
  rfl

/-- an unknown algorithm, or a digest whose length is not the algorithm's, is refused by Marshal -/
theorem C18_Digest_strict_write (d : Digest) (h : ¬ d.InRange) : writeDigest d = none := writeDigest_strict d h

/-- an unknown algorithm id is refused by Unmarshal -/
theorem C18_Digest_strict_alg (b : Bytes) (h : b.length ≥ 2) (hu : tpmAlgoSize (leVal (b.take 2)) = none) :
    readDigest b = .fail := by
  rw [readDigest, readLE_long h, andThen_ok, hu]

theorem C18_Digest_canon (b rest : Bytes) (d : Digest) (h : readDigest b = .ok d rest) :
    ∃ bs, writeDigest d = some bs ∧ b = bs ++ rest := by
  obtain ⟨h1, h2⟩ := readDigest_canon h
  exact ⟨_, writeDigest_eq d h2, h1⟩

example : (⟨4, zeros 20⟩ : Digest).InRange := by decide +kernel
example : readDigest ([4, 0] ++ zeros 19) = .fail := by decide +kernel
example : readDigest ([0xde, 0xc0] ++ zeros 48) = .fail := by decide +kernel

/-! ## SP800-155 Event3 -/

theorem C18_Event3_roundtrip (strict : Bool) (e : Event3) (k : Nat) (h : e.InRange)
    (hl : 16 + (encEvent3Fields e).length ≤ AbiSizes.MaxGUIDHOBDataSize) :
    ∃ f, marshalEvent3 e = some (event3Signature ++ f) ∧ unmarshalEvent3 strict (f ++ zeros k) = .ok e [] := by
  refine ⟨encEvent3Fields e, ?_, unmarshalEvent3_enc strict e k h⟩
  simp only [marshalEvent3, writeEvent3Fields_eq e h]
  rw [if_neg]
  have : maxGuidHobDataSize = AbiSizes.MaxGUIDHOBDataSize := rfl
  simp only [List.length_append, sig_length]; omega

theorem C18_Event3_layout :
    AbiSizes.Event3ReadOrder = AbiLayouts.event3Order ∧ AbiSizes.Event3WriteOrder = AbiLayouts.event3Order ∧
    AbiSizes.TcgSP800155Event3Signature = AbiLayouts.event3Signature ∧
    event3Signature.map UInt8.toNat = AbiLayouts.event3Signature ∧ AbiSizes.EventSignatureSize = event3Signature.length :=
  ⟨rfl, rfl, rfl, rfl, rfl⟩

/-- the documented tolerance, exactly: after the twelve fields any number of ZERO bytes may follow;
    with the repaired readers an accepted payload is the fields' encoding followed by zeros only -/
theorem C18_Event3_canon (data r : Bytes) (e : Event3) (h : unmarshalEvent3 true data = .ok e r) :
    e.InRange ∧ ∃ f k, writeEvent3Fields e = some f ∧ data = f ++ zeros k := by
  obtain ⟨_, h2, k, h3⟩ := unmarshalEvent3_canon h
  exact ⟨h2, _, k, writeEvent3Fields_eq e h2, h3⟩

/-- a non-zero byte after the fields is refused -/
theorem C18_Event3_strict_padding (strict : Bool) (e : Event3) (pad : Bytes) (h : e.InRange) (hp : allZero pad = false) :
    unmarshalEvent3 strict (encEvent3Fields e ++ pad) = .fail := by
  rw [unmarshalEvent3, readEvent3Fields_enc ⟨strict, .buffer⟩ e pad h (Or.inr (Or.inl rfl)), andThen_ok, hp]
  rfl

/-- an event that would not fit a GUID HOB is refused by MarshalToBytes -/
theorem C18_Event3_strict_size (e : Event3) (h : e.InRange)
    (hl : 16 + (encEvent3Fields e).length > AbiSizes.MaxGUIDHOBDataSize) : marshalEvent3 e = none := by
  simp only [marshalEvent3, writeEvent3Fields_eq e h]
  rw [if_pos]
  have : maxGuidHobDataSize = AbiSizes.MaxGUIDHOBDataSize := rfl
  simp only [List.length_append, sig_length]; omega

def sampleEvent3 : Event3 :=
  ⟨0x2b03, zeros 16, [0x47], [0x47, 0x43, 0x45], [], [0x47], 11129, [0x31], 1, [0x68, 0x74, 0x74, 0x70], 0, []⟩
example : sampleEvent3.InRange := by decide +kernel
example : unmarshalEvent3 true (encEvent3Fields sampleEvent3 ++ zeros 5) = .ok sampleEvent3 [] := by decide +kernel
example : unmarshalEvent3 true (encEvent3Fields sampleEvent3 ++ [0, 1]) = .fail := by decide +kernel

/-! ## TCG_PCClientPCREvent, TCG_PCR_EVENT2 -/

theorem C18_PcrEvent_roundtrip (cfg : Cfg) (g : cfg.strict = true ∨ cfg.kind = .buffer) (e : PcrEvent) (t : Bytes) (h : e.InRange) :
    ∃ bs, writePcrEvent e = some bs ∧ readPcrEvent cfg (bs ++ t) = .ok e t :=
  ⟨_, writePcrEvent_eq e h, readPcrEvent_enc cfg e 0 t g h.pad⟩

theorem C18_PcrEvent_layout :
    AbiSizes.PcrEventReadOrder = AbiLayouts.pcrEventOrder ∧ AbiSizes.PcrEventWriteOrder = AbiLayouts.pcrEventOrder :=
  ⟨rfl, rfl⟩

/-- repaired readers: an accepted event is the encoding of the value, up to zero padding inside an
    SP800-155 payload (`k` bytes, counted by the size prefix) -/
theorem C18_PcrEvent_canon (cfg : Cfg) (hs : cfg.strict = true) (b rest : Bytes) (e : PcrEvent)
    (h : readPcrEvent cfg b = .ok e rest) : ∃ k, b = encPcrEventPad e k ++ rest ∧ e.InRangePad k :=
  readPcrEvent_canon hs h

theorem C18_PcrEvent_short (cfg : Cfg) (b : Bytes) (h : b.length < 32) : (readPcrEvent cfg b).isOk = false := by
  cases hr : readPcrEvent cfg b with
  | eof => rfl
  | fail => rfl
  | ok e rest =>
    exfalso
    simp only [readPcrEvent] at hr
    obtain ⟨v1, b1, r1, hr⟩ := andThen_ok_inv hr
    obtain ⟨v2, b2, r2, hr⟩ := andThen_ok_inv hr
    obtain ⟨v3, b3, r3, hr⟩ := andThen_ok_inv hr
    obtain ⟨v4, b4, r4, hr⟩ := andThen_ok_inv hr
    obtain ⟨q1, _⟩ := readLE_ok_inv r1
    obtain ⟨q2, _⟩ := readLE_ok_inv r2
    obtain ⟨q3, p3⟩ := readFull_ok_inv r3
    have q4 := readEventData_consumes r4
    rw [q1, q2, q3] at h
    simp only [List.length_append, leBytes_length, p3] at h
    omega

theorem C18_Event2_roundtrip (cfg : Cfg) (g : cfg.strict = true ∨ cfg.kind = .buffer) (e : Event2) (t : Bytes) (h : e.InRange) :
    ∃ bs, writeEvent2 e = some bs ∧ readEvent2 cfg (bs ++ t) = .ok e t :=
  ⟨_, writeEvent2_eq e h, readEvent2_enc cfg e 0 t g h.pad⟩

theorem C18_Event2_layout :
    AbiSizes.Event2ReadOrder = AbiLayouts.event2Order ∧ AbiSizes.Event2WriteOrder = AbiLayouts.event2Order :=
  ⟨rfl, rfl⟩

theorem C18_Event2_canon (cfg : Cfg) (hs : cfg.strict = true) (b rest : Bytes) (e : Event2)
    (h : readEvent2 cfg b = .ok e rest) : ∃ k, b = encEvent2Pad e k ++ rest ∧ e.InRangePad k :=
  readEvent2_canon hs h

/-- a digest that Marshal would refuse makes the whole event unencodable -/
theorem C18_Event2_strict_digest (e : Event2) (h : ¬ ∀ d ∈ e.digests, d.InRange) : writeEvent2 e = none := by
  simp only [writeEvent2, writeDigestArray, writeDigests_strict e.digests h, optAppend]

/-- original readers over a bytes.Reader: a valid event whose event data is empty, at the end of the
    input, is rejected (zero-length Read at end of input → io.EOF) -/
theorem C18_finding_empty_event_data :
    writeEvent2 ⟨1, 2, [], .raw []⟩ = some [1, 0, 0, 0, 2, 0, 0, 0, 0, 0, 0, 0, 0, 0, 0, 0] ∧
    readEvent2 ⟨false, .reader⟩ [1, 0, 0, 0, 2, 0, 0, 0, 0, 0, 0, 0, 0, 0, 0, 0] = .eof ∧
    readEvent2 ⟨true, .reader⟩ [1, 0, 0, 0, 2, 0, 0, 0, 0, 0, 0, 0, 0, 0, 0, 0] = .ok ⟨1, 2, [], .raw []⟩ [] := by
  decide +kernel

example : (⟨2, 5, zeros 20, .raw [0x66, 0x6f, 0x6f]⟩ : PcrEvent).InRange := by decide +kernel
example : (⟨3, 7, [⟨4, zeros 20⟩, ⟨11, zeros 32⟩], .event3 sampleEvent3⟩ : Event2).InRange := by decide +kernel

/-! ## crypto-agile log -/

/-- full canonicity of the log reader: an accepted input is an encoding of the returned log (up to
    Event3 zero padding) — nothing dropped, nothing completed -/
def LogCanon (cfg : Cfg) : Prop := ∀ b l r, readLog cfg b = .ok l r → LogEnc l b

theorem C18_Log_roundtrip (cfg : Cfg) (g : cfg.strict = true ∨ cfg.kind = .buffer) (l : Log) (h : l.InRange) :
    ∃ bs, writeLog l = some bs ∧ readLog cfg bs = .ok l [] :=
  ⟨_, writeLog_eq l h, readLog_enc cfg g l h⟩

/-- the repaired code (`strictShortRead = true`): the full statement holds — the log ends only where
    no byte of a further event remains, so nothing is dropped and nothing is completed -/
theorem C18_Log_canon (cfg : Cfg) (hs : cfg.strict = true) : LogCanon cfg := by
  intro b l r h
  exact readLog_canon hs h

/-- The ORIGINAL log reader took ANY error that wraps io.EOF as the end of the log, for every reader
    kind: the header event followed by the four bytes `01 00 00 00` — an event cut right after its PCR
    index — was accepted as a log with no events. (Repaired by bff5b71; `C18_Log_truncated_refused`.) -/
theorem C18_finding_log_truncated (k : RKind) : ¬ LogCanon ⟨false, k⟩ := by
  intro h
  have hb : readLog ⟨false, k⟩ ([0, 0, 0, 0, 3, 0, 0, 0] ++ zeros 20 ++ [1, 0, 0, 0, 0x61] ++ [1, 0, 0, 0]) =
      .ok ⟨⟨0, 3, zeros 20, .raw [0x61]⟩, []⟩ [] := by
    cases k <;> decide +kernel
  obtain ⟨k, tl, h1, _, h3⟩ := h _ _ _ hb
  simp only [EventsEnc] at h3
  subst h3
  have := congrArg List.length h1
  simp [encPcrEventPad, encEventDataPad, zeros] at this

/-- repaired code: that same truncated log is refused, over every reader kind -/
theorem C18_Log_truncated_refused (k : RKind) :
    readLog ⟨true, k⟩ ([0, 0, 0, 0, 3, 0, 0, 0] ++ zeros 20 ++ [1, 0, 0, 0, 0x61] ++ [1, 0, 0, 0]) = .fail := by
  rw [readLog_kind_irrelevant k .buffer]; decide +kernel

/-- repaired code: the decoded log does not depend on the kind of reader (no zero-length Read is issued) -/
theorem C18_Log_reader_independent (k k' : RKind) (b : Bytes) : readLog ⟨true, k⟩ b = readLog ⟨true, k'⟩ b :=
  readLog_kind_irrelevant k k' b

/-- a truncated header event is never accepted -/
theorem C18_Log_short (cfg : Cfg) (b : Bytes) (h : b.length < 32) : (readLog cfg b).isOk = false := by
  have := C18_PcrEvent_short cfg b h
  unfold readLog
  generalize readPcrEvent cfg b = r at this
  cases r with
  | ok e rest => cases this
  | _ => rfl

example : readLog ⟨true, .reader⟩ ([0, 0, 0, 0, 3, 0, 0, 0] ++ zeros 20 ++ [0, 0, 0, 0] ++
    [1, 0, 0, 0, 2, 0, 0, 0, 1, 0, 0, 0, 4, 0] ++ zeros 20 ++ [2, 0, 0, 0, 7, 8]) =
    .ok ⟨⟨0, 3, zeros 20, .raw []⟩, [⟨1, 2, [⟨4, zeros 20⟩], .raw [7, 8]⟩]⟩ [] := by decide +kernel

end GceTcb.C18
