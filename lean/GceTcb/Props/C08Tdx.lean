import GceTcb.Model.Mrtd
import GceTcb.Gen.PanicSitesTdx
import GceTcb.Gen.TdxConsts
import GceTcb.Proofs.TdxNoPanic
import GceTcb.Proofs.TdxTicks
import GceTcb.Proofs.TdxShapes
import GceTcb.Proofs.TdxHob
import GceTcb.Proofs.TdxUnsigned
import GceTcb.Proofs.TdxGlue
import GceTcb.Proofs.TdxIndexLimit
/-
C08 (TDX half) — firmware analysis is total and resource-bounded on arbitrary images:
tdx.MRTD, tdx.UnsignedTDX, ovmf.ExtractMaterialGuestPhysicalRegions*, TDX metadata extraction.
Quantifiers: every byte string `fw` (as `List UInt8`), every option combination, every bank list
(`Nat` fields read as uint64, wrap-around included).  The one size hypothesis `fw.length < 2^36`
(64 GiB) of the no-panic theorems is where the code stores the TD HOB section index in an int32;
`C08_parse_panics_exactly` says precisely which images beyond that bound panic.
-/
namespace GceTcb.Props.C08Tdx
open GceTcb GceTcb.Intervals GceTcb.TdxMeta GceTcb.TdxHob GceTcb.Mrtd

/-! ## inventory of panic-capable expressions -/

/-- The model's list of panic-capable expressions (with how each is treated) is exactly the inventory
    regenerated from the Go source: a new index / slice / make / conversion / Grow expression in any of
    the listed functions breaks this obligation. -/
theorem C08_sites : Mrtd.siteKeys = Gen.PanicSitesTdx.sites := rfl

/-- The GUID and magic constants of the model are the ones in the source. -/
theorem C08_guid_constants :
    Gen.TdxConsts.TDXMetadataOffsetGUID = "e47a6535-984a-4798-865e-4685a7bf8ec2" ∧
    Gen.TdxConsts.TDXMetadataGUID = "e9eaf9f3-168e-44d5-a8eb-7f4d8738f6ae" ∧
    Gen.TdxConsts.FwGUIDTableFooterGUID = "96b582de-1fb2-45f7-baea-a366c55a082d" ∧
    Gen.TdxConsts.TDXMetadataDescriptorMagic = TdxMeta.tdvfMagic ∧
    Gen.TdxConsts.maxTDVFInitialMemory = TdxMeta.maxInitialMemory ∧
    Gen.TdxConsts.maxTDVFPhysicalAddressBits = TdxMeta.maxPhysBits ∧
    Gen.TdxConsts.SizeofFwGUIDEntry = 18 ∧ Gen.TdxConsts.FwGUIDTableEndOffset = 32 ∧
    Gen.TdxConsts.SizeofTDXMetadataDescriptor = 16 ∧ Gen.TdxConsts.SizeofTDXMetdataSection = 32 :=
  ⟨rfl, rfl, rfl, rfl, rfl, rfl, rfl, rfl, rfl, rfl⟩

/-- The GUID bytes the models compare against are the regenerated GUID texts (uuid.MustParse of the
    constants; `uuidOfString` is kernel-evaluable), including the footer GUID of the shared GUID-table
    model. -/
theorem C08_guid_bytes :
    TdxMeta.tdxOffsetUuid = uuidOfString Gen.TdxConsts.TDXMetadataOffsetGUID ∧
    TdxMeta.tdxMetadataUuid = uuidOfString Gen.TdxConsts.TDXMetadataGUID ∧
    GuidTable.footerGuid = uuidOfString Gen.TdxConsts.FwGUIDTableFooterGUID :=
  ⟨rfl, rfl, by decide +kernel⟩

/-! ## no panic -/

/-- TDX metadata extraction (the shared GUID-table walk of Model/GuidTable.lean, offset arithmetic in
    uint32, descriptor and section decoding, validation) never panics — no size hypothesis. -/
theorem C08_no_panic_extract_metadata (fw : Bytes) : ¬ (extractTDXMetadata fw).isPanic :=
  extract_no_panic fw

/-- ovmf.ExtractMaterialGuestPhysicalRegions (default), …TDHOBBug, …NoUnacceptedMemory. -/
theorem C08_no_panic_extract_regions (fw : Bytes) (banks : List Gpr) (hfw : fw.length < 2 ^ 36) :
    ¬ (extractDefault fw).isPanic ∧ ¬ (extractTDHOBBug fw banks).isPanic ∧
    ¬ (extractNoUnacceptedMemory fw banks).isPanic :=
  ⟨parse_no_panic _ fw _ hfw, parse_no_panic _ fw _ hfw, parse_no_panic _ fw _ hfw⟩

/-- EXACTLY when tdxFwParser.parse (all three ExtractMaterialGuestPhysicalRegions* entry points) panics,
    with no hypothesis on the image: the metadata passes validation, its sections are pairwise
    disjoint, and 2^31 or more section entries precede the TD_HOB section — `int32(index)` is then
    negative and `p.Regions[tdHOBregionIndex.Value]` is out of range.  With 32 bytes per entry such
    an image has at least 64 GiB (`C08_validated_sections`), hence the hypothesis of the theorems above
    and below; the conversion is modelled exactly (`% 2^32 ≥ 2^31`), and SectionCount being a uint32
    rules out an index that wraps back into range. -/
theorem C08_parse_panics_exactly (o : ParserOpts) (fw : Bytes) (banks : List Gpr) :
    (parse o fw banks).isPanic = true ↔
      ∃ md, extractTDXMetadata fw = .ok md ∧ DisjointL (md.sections.map gprOf) ∧
        2 ^ 31 ≤ md.sections.findIdx isHob :=
  parse_panic_iff o fw banks

/-- … and validation does not exclude that condition: there is metadata (2^31 empty temporary-memory
    sections, then the TD_HOB section, then a 4 KiB boot firmware volume; a section count that fits the
    uint32 header field) that satisfies everything validateTDXMetadataSections checks for a 4 KiB
    firmware volume, has pairwise disjoint sections, and has its TD_HOB section at index 2^31.  So the
    size / index hypothesis of the no-panic theorems cannot be dropped; it can only fail for images of
    64 GiB or more (32 bytes per entry), which no run can present — the harness does not list it as a
    finding, the theorems state it as their one hypothesis. -/
theorem C08_index_limit_not_excluded_by_validation :
    ∃ md : Codecs.TdxMetadata, MetaValid 4096 md ∧ DisjointL (md.sections.map gprOf) ∧
      2 ^ 31 ≤ md.sections.findIdx isHob ∧ md.sections.length = md.header.sectionCount ∧
      md.header.sectionCount < 2 ^ 32 :=
  index_limit_consistent

/-- No panic under the exact condition instead of a size bound: if the TD_HOB section of the image's
    accepted metadata (if any) is among the first 2^31 entries (`IndexFits`; implied by
    `|image| < 2^36`, `C08_index_fits_of_small`), then none of the entry points panics — the three
    region extractions, tdx.MRTD (every hash, option combination, bank list) and tdx.UnsignedTDX. -/
theorem C08_no_panic_index_fits (H : Bytes → Bytes) (fw : Bytes) (hidx : IndexFits fw) :
    (∀ o banks, ¬ (parse o fw banks).isPanic) ∧ (∀ o, ¬ (mrtd H o fw).isPanic) ∧
    (∀ early names, ¬ (unsignedTDX H Gen.TdxConsts.shapes fw early names).isPanic) :=
  ⟨fun o banks => parse_no_panic_of_index o fw banks hidx, fun o => mrtd_no_panic_of_index H o fw hidx,
   fun early names => unsignedTDX_no_panic' H Gen.TdxConsts.shapes (by decide) fw
     (fun o => mrtd_no_panic_of_index H o fw hidx) early names⟩

theorem C08_index_fits_of_small (fw : Bytes) (hfw : fw.length < 2 ^ 36) : IndexFits fw :=
  indexFits_of_small fw hfw

/-- tdx.MRTD, every hash, every option combination, every bank list. -/
theorem C08_no_panic_mrtd (H : Bytes → Bytes) (o : LaunchOptions) (fw : Bytes) (hfw : fw.length < 2 ^ 36) :
    ¬ (mrtd H o fw).isPanic :=
  mrtd_no_panic H o fw hfw

/-- Every entry of the regenerated machine-shape table is well formed (in particular regionsForShape
    reaches neither `panic("bad shape constants")` nor a wrapped product on it). -/
theorem C08_shape_table_total : ∀ e ∈ Gen.TdxConsts.shapes, ShapeOK (shapeOfEntry e) := by decide

/-- tdx.UnsignedTDX (generateAllPossibleMRTDs): every hash, image, shape-name list (known or unknown
    names) and IncludeEarlyAccept value. -/
theorem C08_no_panic_unsigned_tdx (H : Bytes → Bytes) (fw : Bytes) (hfw : fw.length < 2 ^ 36) (early : Bool)
    (names : List String) : ¬ (unsignedTDX H Gen.TdxConsts.shapes fw early names).isPanic :=
  unsignedTDX_no_panic H Gen.TdxConsts.shapes C08_shape_table_total fw hfw early names

/-- The facts the repaired validation establishes for every section of accepted metadata: memory size
    at most 4 GiB, range inside the 52-bit physical address space, a supported type, and for firmware
    volumes a non-empty data range inside the file equal in size to the memory range; the declared
    sizes add up to at most 4 GiB; the section list fits the image. -/
theorem C08_validated_sections (fw : Bytes) (md : Codecs.TdxMetadata) (h : extractTDXMetadata fw = .ok md) :
    (∀ s ∈ md.sections, SecOK (fw.length % 2 ^ 32) s) ∧
    (md.sections.map (·.memorySize)).sum ≤ 4 * 1024 * 1024 * 1024 ∧ 32 * md.sections.length ≤ fw.length := by
  obtain ⟨hv, hl, _⟩ := extract_ok fw md h
  exact ⟨hv.secs, hv.total, hl⟩

/-! ## termination and iteration bounds -/

/-- ovmf.unacceptedMemRanges terminates on ALL inputs: `Intervals.inner` is the literal loop on
    wrap-around uint64 arithmetic and Lean's termination checker accepted it with the measure
    (|private| − privIndex, ramResource.Length) (`shrink_len_lt`).  Explicitly: the loop body runs at most
    2·(|private| + |banks|) times and at most that many ranges are returned — for unsorted, overlapping,
    empty and wrapping regions alike. -/
theorem C08_unaccepted_terminates (ps rs : List Gpr) :
    unacceptedTicks ps rs ≤ 2 * ps.length + 2 * rs.length ∧
    (unacceptedMemRanges ps rs).length ≤ 2 * ps.length + 2 * rs.length :=
  unaccepted_bounds ps rs

/-- the second component of the measure strictly decreases when the bank is shrunk and the loop continues -/
theorem C08_unaccepted_measure (r p : Gpr) (hr : r.len % 2 ^ 64 ≠ 0) (h0 : ¬ p.len % 2 ^ 64 = 0)
    (h1 : ¬ p.end_ ≤ r.start % 2 ^ 64) (h2 : ¬ p.start % 2 ^ 64 ≥ r.end_)
    (h3 : ¬ (shrink r (intersect r p)).len = 0) :
    (shrink r (intersect r p)).len % 2 ^ 64 < r.len % 2 ^ 64 :=
  shrink_len_lt r p hr h0 h1 h2 h3

/-- GUID-table walk (the shared model; the loop extractTDXMetadata runs first): at most |image| / 18 + 1
    iterations, the failing one included. -/
theorem C08_ticks_bound_guid_walk (fw : Bytes) : GuidTable.getFwGUIDToBlockMapTicks fw ≤ fw.length / 18 + 1 :=
  Proofs.SnpTotal.getFwGUIDToBlockMapTicks_le fw

/-- Section loop of parse, in the number n of sections (n ≤ |image| / 32): the overlap check runs at
    most n² times in total; the zero buffers requested from `make` add up to at most the memory the
    sections declare. -/
theorem C08_parse_loop_bounds (ma : Bool) (fw : Bytes) (md : Codecs.TdxMetadata) (st : PState)
    (hmd : extractTDXMetadata fw = .ok md) (h : parseLoop ma fw md.sections {} = .ok st) :
    st.ticks ≤ md.sections.length * md.sections.length ∧
    st.alloc ≤ (st.regions.map (·.gpr.len)).sum ∧ st.regions.length = md.sections.length := by
  obtain ⟨r1, _, r5, r6⟩ := parseLoop_ok ma fw md st hmd h
  refine ⟨r6, ?_, by rw [r1, List.length_map]⟩
  rw [r1, List.map_map]
  exact r5

/-- What the three ExtractMaterialGuestPhysicalRegions* entry points can return (parser options `o`
    cover all three): one region per section with n = |regions| ≤ |image| / 32; every range inside the
    52-bit physical address space; the declared sizes add up to at most 4 GiB.  This is the justified
    constant cap behind the listed finding: everything below is bounded by it, not by the image size. -/
theorem C08_declared_memory_bound (o : ParserOpts) (fw : Bytes) (banks : List Gpr) (regions : List Region)
    (h : parse o fw banks = .ok regions) :
    (∀ r ∈ regions, r.gpr.start + r.gpr.len ≤ 2 ^ 52) ∧
    (regions.map (·.gpr.len)).sum ≤ 4 * 1024 * 1024 * 1024 ∧ 32 * regions.length ≤ fw.length :=
  parse_ok_facts o fw banks regions h

/-- tdx.MRTD, iterations of the InitMemoryRegion loops over all regions: the sum of Length/256, at most
    2^24 (= 4 GiB / 256) — a constant cap that does NOT depend on the image size (listed finding D5f);
    each iteration hashes at most 128 + 384 bytes. -/
theorem C08_ticks_bound_mrtd (o : ParserOpts) (fw : Bytes) (banks : List Gpr) (regions : List Region)
    (h : parse o fw banks = .ok regions) :
    (regions.map (fun r => r.gpr.len / 256)).sum ≤ 2 ^ 24 := by
  have h2 := (parse_ok_facts o fw banks regions h).2.1
  have e : regions.map (fun r => r.gpr.len / 256) = (regions.map (·.gpr.len)).map (· / 256) := by
    rw [List.map_map]; rfl
  rw [e]
  have := sum_div_le (regions.map (·.gpr.len))
  have hm : maxInitialMemory = 2 ^ 32 := by decide
  omega

/-- Allocation recorded by the model for one parse: the zero buffers requested from `make` in the
    section loop add up to at most the declared memory (≤ 4 GiB); the TD HOB buffer has exactly the
    declared size of its section (≤ 4 GiB) and its contents before padding take 64 + 48·(n + u) bytes
    with u ≤ 2n + 2·|banks| unaccepted ranges — linear in the number of sections and banks. -/
theorem C08_alloc_bound_mrtd (ma : Bool) (fw : Bytes) (md : Codecs.TdxMetadata) (st : PState) (banks : List Gpr)
    (hmd : extractTDXMetadata fw = .ok md) (h : parseLoop ma fw md.sections {} = .ok st) :
    st.alloc ≤ 4 * 1024 * 1024 * 1024 ∧
    (∀ hob dea, (hobContent hob st.priv (unacceptedMemRanges st.priv banks) dea).length
        ≤ 64 + 48 * (3 * md.sections.length + 2 * banks.length)) ∧
    (∀ hob dea buf, hob.len < 2 ^ 63 →
        getTDHOBList hob st.priv (unacceptedMemRanges st.priv banks) dea = .ok buf → buf.length = hob.len) := by
  obtain ⟨_, r2, r5, _⟩ := parseLoop_ok ma fw md st hmd h
  refine ⟨Nat.le_trans r5 (extract_ok fw md hmd).1.total, fun hob dea => ?_,
    fun hob dea buf hl hb => getTDHOBList_ok_length hob _ _ dea buf hl hb⟩
  rw [hobContent_length]
  have := (unaccepted_bounds st.priv banks).2
  have : st.priv.length = md.sections.length := by rw [r2, List.length_map]
  omega

-- non-vacuity: an empty image is rejected (not a panic), and the hypotheses of the bounds are inhabited
example : extractTDXMetadata [] = .err "guidtable" := by decide
example : (unacceptedMemRanges [⟨10, 200⟩] [⟨100, 2 ^ 64 - 50⟩]).length ≤ 4 :=
  (C08_unaccepted_terminates [⟨10, 200⟩] [⟨100, 2 ^ 64 - 50⟩]).2

end GceTcb.Props.C08Tdx
