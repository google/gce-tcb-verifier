import GceTcb.Proofs.EventLogCost
import GceTcb.Model.EventLogSites
import GceTcb.Gen.PanicSitesEvl
import GceTcb.Gen.EvlConsts
import GceTcb.Gen.AbiSizes
/-
C07 (event-log half; one of the props modules of props/C07.json) — relying-party decoders are total on untrusted bytes:
TCG event-log and SP800-155 event parsing, and the locator decoding built on it.

Statements are over ALL byte strings.  `xRead…` is the checked, cost-instrumented model of the REPAIRED
readers (Model/EventLogCost.lean); `rt : Runtime` carries the two Go-runtime allocation functions
(`append` growth, `io.ReadAll`) with their laws `rt.Lawful` as an explicit hypothesis (measured by the
harness on the running toolchain).  The reader kind (bytes.Buffer / bytes.Reader / os.File) does not
occur: the repaired readers issue no zero-length Read (C18_Log_reader_independent).

The model is tied to the source by facts regenerated on every run (extract/xc07evl.go): `C07_evl_funcs`,
`C07_evl_sites`, `C07_evl_consts`, `C07_evl_factories`, `C07_evl_widths`, `C07_evl_libcalls`, `C07_evl_tpmAlgoSize`,
`C07_evl_guards`, `C07_evl_shape` at the end of this file.
-/
namespace GceTcb.C07Evl
open GceTcb GceTcb.Codec GceTcb.Codecs GceTcb.EventLog GceTcb.EvlCost

/-! ## C07's clause "none of them panics" -/

theorem C07_evl_no_panic_log (rt : Runtime) (b : Bytes) (p : String) : (xReadLog rt b).res ≠ .panic p :=
  sim_no_panic (xReadLog_sim rt .buffer b) p

theorem C07_evl_no_panic_event2 (rt : Runtime) (b : Bytes) (p : String) : (xReadEvent2 rt b).res ≠ .panic p :=
  sim_no_panic (xReadEvent2_sim rt .buffer b) p

theorem C07_evl_no_panic_pcrevent (rt : Runtime) (b : Bytes) (p : String) : (xReadPcrEvent rt b).res ≠ .panic p :=
  sim_no_panic (xReadPcrEvent_sim rt .buffer b) p

/-- TCGEventData.Unmarshal, including a nested SP800-155 payload -/
theorem C07_evl_no_panic_eventdata (rt : Runtime) (b : Bytes) (p : String) : (xReadEventData rt b).res ≠ .panic p :=
  sim_no_panic (xReadEventData_sim rt .buffer b) p

/-- SP800155Event3.UnmarshalFromBytes -/
theorem C07_evl_no_panic_event3 (rt : Runtime) (data : Bytes) (p : String) : (xUnmarshalEvent3 rt data).res ≠ .panic p :=
  sim_no_panic (xUnmarshalEvent3_sim rt data) p

theorem C07_evl_no_panic_digests (rt : Runtime) (b : Bytes) (p : String) : (xReadDigestArray rt b).res ≠ .panic p :=
  sim_no_panic (xReadDigestArray_sim rt b) p

theorem C07_evl_no_panic_cstr (b : Bytes) (p : String) : (xReadCStr b).res ≠ .panic p :=
  sim_no_panic (xReadCStr_sim .buffer b) p

theorem C07_evl_no_panic_sized_array (w : Nat) (hw : w ≤ 4) (b : Bytes) (p : String) : (xReadSizedArray w b).res ≠ .panic p :=
  sim_no_panic (xReadSizedArray_sim .buffer w hw b) p

/-- readExact for every declared size that a 4-byte prefix can carry (and far beyond) -/
theorem C07_evl_no_panic_readExact (size : Nat) (hs : size < 2 ^ 63) (rest : Bytes) (p : String) :
    (xReadExact size rest).res ≠ .panic p :=
  sim_no_panic ((xReadExact_spec .buffer false size rest hs).1) p

theorem C07_evl_no_panic_variableLocatorDecode (loc : Bytes) (p : String) : xVariableLocatorDecode loc ≠ .panic p :=
  (xVariableLocatorDecode_spec loc).1 p

/-- ucs2toUTF8 panics (`utf8encoding[len-1]` on an empty decoding) exactly on the empty name … -/
theorem C07_evl_ucs2toUTF8_panic_iff (name : Bytes) : (∃ p, xUcs2toUTF8 name = .panic p) ↔ name = [] :=
  ⟨fun ⟨p, h⟩ => ((xUcs2toUTF8_panic name p).mp h).1, fun h => ⟨_, (xUcs2toUTF8_panic name _).mpr ⟨h, rfl⟩⟩⟩

/-- … which Locate never hands it: a name variableLocatorDecode returns has at least 4 bytes. -/
theorem C07_evl_no_panic_ucs2toUTF8 (loc g name : Bytes) (h : xVariableLocatorDecode loc = .ok (g, name)) (p : String) :
    xUcs2toUTF8 name ≠ .panic p :=
  xUcs2toUTF8_decoded h p

/-- the pure part of exel.Locate on an untrusted (locator type, locator) -/
theorem C07_evl_no_panic_locate (t : Nat) (loc : Bytes) (p : String) : xLocateReq t loc ≠ .panic p := by
  unfold xLocateReq
  split
  · nofun
  · split
    · nofun
    · split
      · cases hv : xVariableLocatorDecode loc with
        | panic q => exact absurd hv ((xVariableLocatorDecode_spec loc).1 q)
        | err c => nofun
        | ok gn =>
          obtain ⟨g, name⟩ := gn
          simp only
          cases hu : xUcs2toUTF8 name with
          | panic q => exact absurd hu (xUcs2toUTF8_decoded hv q)
          | ok s => nofun
          | err c => nofun
      · nofun

/-- the parsing half of EfiVarFSReader.ReadVariable on the contents of a variable file -/
theorem C07_evl_no_panic_efivar (contents : Bytes) (p : String) : xEfiVarContents contents ≠ .panic p := by
  unfold xEfiVarContents
  by_cases h : contents.length < 4
  · simp [h]
  · have : 4 ≤ contents.length := by omega
    simp [h, this]

/-- the event-log path of extract.Endorsement on the bytes of an event-log file: parse, RIM-event
    selection, locator decoding -/
theorem C07_evl_no_panic_fromEventLog (rt : Runtime) (mfr b : Bytes) (p : String) : xFromEventLog rt mfr b ≠ .panic p := by
  unfold xFromEventLog
  rw [xReadLog_sim rt .buffer b]
  cases readLog ⟨true, .buffer⟩ b with
  | ok l r =>
    simp only [lift]
    split
    · exact C07_evl_no_panic_locate _ _ p
    · nofun
  | eof => nofun
  | fail => nofun

/-! ## values: the checked model is the C18 model of the repaired code (so C18's theorems apply to it) -/

theorem C07_evl_refines_C18 (rt : Runtime) (k : RKind) (b : Bytes) : (xReadLog rt b).res = lift (readLog ⟨true, k⟩ b) :=
  xReadLog_sim rt k b

/-- totality on what C18's canonicity theorems exclude: a declared size beyond the remaining input is an
    error (never a value, never a panic), whatever the size -/
theorem C07_evl_oversize_is_error (size : Nat) (hs : size < 2 ^ 63) (rest : Bytes) (h : rest.length < size) :
    (xReadExact size rest).res = (if rest.isEmpty then .eof else .fail) := by
  rw [(xReadExact_spec .buffer false size rest hs).1]
  simp only [readBody, readFull, if_true, if_neg (show size ≠ 0 by omega), if_neg (show ¬ size ≤ rest.length by omega)]
  cases rest <;> rfl

/-! ## C07's clauses "fails to terminate" and "memory out of proportion to the size of its input": ticks and allocation
linear in the input -/

/-- every accepted event consumes at least 16 bytes: the event loop makes at most |b|/16 + 1 iterations -/
theorem C07_evl_event_consumes (rt : Runtime) (hrt : rt.Lawful) (b rest : Bytes) (e : Event2)
    (h : (xReadEvent2 rt b).res = .ok e rest) : rest.length + 16 ≤ b.length :=
  ((xReadEvent2_lin rt hrt b).ok e rest h).1

theorem C07_evl_events_read_bound (b : Bytes) : 16 * eventsRead (b.length + 1) b ≤ b.length :=
  eventsRead_le _ b

/-- allocation + ticks of CryptoAgileLog.Unmarshal, for every byte string -/
theorem C07_evl_cost_bound (rt : Runtime) (hrt : rt.Lawful) (b : Bytes) :
    (xReadLog rt b).alloc + (xReadLog rt b).ticks ≤ 43 * b.length + 8600 :=
  xReadLog_cost rt hrt b

theorem C07_evl_alloc_bound (rt : Runtime) (hrt : rt.Lawful) (b : Bytes) : (xReadLog rt b).alloc ≤ 43 * b.length + 8600 := by
  have := xReadLog_cost rt hrt b; unfold Step.total at this; omega

/-- termination as a ticks bound (Lean's checker accepts the model by structural recursion on fuel
    `|b| + 1`, which `EventLog.readEvents_fuel` shows is never exhausted) -/
theorem C07_evl_terminates (rt : Runtime) (hrt : rt.Lawful) (b : Bytes) : (xReadLog rt b).ticks ≤ 43 * b.length + 8600 := by
  have := xReadLog_cost rt hrt b; unfold Step.total at this; omega

/-- readExact: memory in proportion to the bytes delivered, not to the declared size -/
theorem C07_evl_alloc_bound_readExact (size : Nat) (hs : size < 2 ^ 63) (rest : Bytes) :
    (xReadExact size rest).alloc ≤ 4 * rest.length + 4096 ∧ (xReadExact size rest).alloc ≤ 3 * size := by
  obtain ⟨_, h2, h3, _⟩ := xReadExact_spec .buffer false size rest hs
  exact ⟨h3, h2⟩

theorem C07_evl_alloc_bound_digests (rt : Runtime) (hrt : rt.Lawful) (b : Bytes) :
    (xReadDigestArray rt b).alloc ≤ 14 * b.length + 90 := by
  have := (xReadDigestArray_lin rt hrt b).any; unfold Step.total at this; omega

theorem C07_evl_alloc_bound_eventdata (rt : Runtime) (hrt : rt.Lawful) (b : Bytes) :
    (xReadEventData rt b).alloc ≤ 34 * b.length + 8478 := by
  have := (xReadEventData_lin rt hrt b).any; unfold Step.total at this; omega

theorem C07_evl_alloc_bound_event3 (rt : Runtime) (hrt : rt.Lawful) (data : Bytes) :
    (xUnmarshalEvent3 rt data).alloc ≤ 9 * data.length + 8233 := by
  have := (xUnmarshalEvent3_lin rt hrt data).any; unfold Step.total at this; omega

/-- the runtime laws are satisfiable: the instance the driver evaluates -/
theorem C07_evl_runtime_upper_lawful : Runtime.upper.Lawful := ⟨fun _ => Nat.le_refl _, fun _ => Nat.le_refl _⟩

/-! ## non-vacuity: the inputs of D4 -/

/-- the 44-byte log whose digest count is 0x7fffffff (16 GiB before the repair): an error, 204 bytes -/
def d4Log : Bytes := [0, 0, 0, 0, 3, 0, 0, 0] ++ zeros 20 ++ [0, 0, 0, 0] ++ [1, 0, 0, 0, 2, 0, 0, 0, 0xff, 0xff, 0xff, 0x7f]

example : d4Log.length = 44 := by decide +kernel
example : (xReadLog Runtime.upper d4Log).res = .fail := by decide +kernel
example : (xReadLog Runtime.upper d4Log).alloc ≤ 256 := by decide +kernel

/-- a 32-byte header whose event size is 0x7fffffff (2 GiB before the repair): one 4096-byte buffer -/
example : (xReadPcrEvent Runtime.upper ([0, 0, 0, 0, 3, 0, 0, 0] ++ zeros 20 ++ [0xff, 0xff, 0xff, 0x7f])).alloc = 4108 := by decide +kernel
example : (xReadPcrEvent Runtime.upper ([0, 0, 0, 0, 3, 0, 0, 0] ++ zeros 20 ++ [0xff, 0xff, 0xff, 0x7f])).res = .eof := by decide +kernel

/-- a complete log is accepted, with its cost -/
example : (xReadLog Runtime.upper ([0, 0, 0, 0, 3, 0, 0, 0] ++ zeros 20 ++ [0, 0, 0, 0] ++
    [1, 0, 0, 0, 2, 0, 0, 0, 1, 0, 0, 0, 4, 0] ++ zeros 20 ++ [2, 0, 0, 0, 7, 8])).res =
    .ok ⟨⟨0, 3, zeros 20, .raw []⟩, [⟨1, 2, [⟨4, zeros 20⟩], .raw [7, 8]⟩]⟩ [] := by decide +kernel

example : xVariableLocatorDecode (zeros 16 ++ [0x56, 0, 0, 0]) = .ok (zeros 16, [0x56, 0, 0, 0]) := by decide +kernel
example : xVariableLocatorDecode (zeros 16 ++ [0x56, 0]) = .err "short" := by decide +kernel
example : xEfiVarContents [7, 0, 0, 0, 1, 2] = .ok [1, 2] := by decide +kernel

/-! ## regenerated facts: the model accounts for what the current source contains -/

/-- The functions the model covers are exactly those reachable, in the static call graph of the source, from
    the decoder entry points; the calls that leave for other packages of the repository are those the model
    replaces by C18's / C16's codecs. -/
theorem C07_evl_funcs :
    modelledFuncs.map (·.1) = Gen.PanicSitesEvl.funcs ∧ modelledExternalCalls = Gen.PanicSitesEvl.externalCalls :=
  ⟨rfl, rfl⟩

/-- The model accounts for exactly the panic-capable expressions the current source contains: a new
    index / slice / make / append-in-a-loop / Grow / type assertion / narrowing conversion / dereference /
    dynamic call / division in any function in scope changes the regenerated inventory and breaks this
    obligation before any input is found. -/
theorem C07_evl_sites : modelledSites.map Site.key = Gen.PanicSitesEvl.sites := rfl

/-- the checked operations of the model, by the names they carry (grep Model/EventLogCost.lean) -/
theorem C07_evl_sites_checked :
    checkedNames =
      ["eventlog.TCGEventData.Unmarshal#1:slice", "eventlog.TCGEventData.Unmarshal#4:slice",
       "eventlog.TaggedDigest.Unmarshal#1:make",
       "eventlog.ByteSizedCStr.Unmarshal#1:index", "eventlog.ByteSizedCStr.Unmarshal#2:slice",
       "eventlog.readExact#1:make", "eventlog.readExact#2:slice", "eventlog.readExact#5:make",
       "exel.ucs2toUTF8#2:index", "exel.EfiVarFSReader.ReadVariable#1:slice",
       "exel.variableLocatorDecode#1:slice", "exel.variableLocatorDecode#2:slice",
       "exel.variableLocatorDecode#3:index", "exel.variableLocatorDecode#4:index"] := by decide +kernel

/-- the one checked site that does fire — and only there: ucs2toUTF8 on the empty name -/
theorem C07_evl_ucs2toUTF8_panic_site (name : Bytes) (p : String) (h : xUcs2toUTF8 name = .panic p) :
    p ∈ checkedNames := by
  rw [((xUcs2toUTF8_panic name p).mp h).2, C07_evl_sites_checked]; simp

/-- The sizes the cost model charges are those of the current source: every `&T{…}` / `new(T)` / in-memory
    reader constructor in scope with its gc/amd64 size, `maxPrealloc`, and the signature size (the literal 16 of
    `xReadEventData`; `hexKeyAlloc` is the 2·16-byte buffer and the 2·16-byte string of hex.EncodeToString). -/
theorem C07_evl_consts :
    modelledAllocs = Gen.EvlConsts.allocs ∧
    maxPrealloc = Gen.EvlConsts.maxPrealloc ∧
    Gen.EvlConsts.eventSignatureSize = 16 ∧ hexKeyAlloc = 4 * Gen.EvlConsts.eventSignatureSize :=
  ⟨rfl, rfl, rfl, rfl⟩

/-- The event-factory registry is the one the model has: a single key, the Event3 signature, whose factory
    allocates an SP800155Event3 (of the size the model charges); no function of the package writes to the
    registry — its only use is the lookup in TCGEventData.Unmarshal. -/
theorem C07_evl_factories :
    modelledFactoryKeys = Gen.EvlConsts.eventFactoryKeyBytes ∧
    modelledFactoryTypes = Gen.EvlConsts.eventFactoryTypes ∧
    modelledFactoryUses = Gen.EvlConsts.eventFactoriesUses :=
  ⟨rfl, rfl, rfl⟩

/-- The width of every size prefix / count, the fixed fields of the two event structures — hence the 16 bytes
    every accepted TCGPCREvent2 occupies at least (C07_evl_event_consumes) — and the EFI_GUID scratch. -/
theorem C07_evl_widths :
    modelledPrefixWidths = Gen.EvlConsts.sizePrefixWidths ∧
    modelledFixedFields = Gen.EvlConsts.fixedFields ∧
    minEvent2Size Gen.EvlConsts.fixedFields Gen.EvlConsts.sizePrefixWidths = 16 ∧
    modelledLocalArrays = Gen.EvlConsts.localArrays :=
  ⟨rfl, rfl, by decide +kernel, rfl⟩

/-- Every call that leaves the three packages (standard library, x/text, securejoin, go-sev-guest's getter) is
    one the cost model knows — charged, on an error path, free, metered only, or a parameter — and so is every
    []byte <-> string conversion. -/
theorem C07_evl_libcalls :
    modelledLibCalls.map (fun c => (c.1, c.2.1, c.2.2.1)) = Gen.EvlConsts.libCalls ∧
    modelledStringConvs = Gen.EvlConsts.stringConvs :=
  ⟨rfl, rfl⟩

/-- the digest-size table of the model is the regenerated map, entry for entry and nothing else -/
theorem C07_evl_tpmAlgoSize (alg : Nat) : tpmAlgoSize alg = Gen.AbiSizes.tpmAlgoSize.lookup alg :=
  tpmAlgoSize_eq_lookup alg

/-- the control skeleton of the functions in scope — every condition other than a bare `err != nil`, every
    loop, range operand, switch tag and case, in source order — is the one the model's branches were written from -/
theorem C07_evl_guards : modelledGuards = Gen.EvlConsts.guards := rfl

/-- the body of readExact, line by line: first buffer min(size, maxPrealloc), one io.ReadFull per iteration into
    buf[read:], io.EOF after at least one byte becomes io.ErrUnexpectedEOF, doubling capped at the declared size -/
theorem C07_evl_shape : readExactShape = Gen.EvlConsts.readExactShape := rfl

/-- non-vacuity: the checked operations are live — each returns its panic exactly when Go would -/
example : (xIndex [] 0 "eventlog.ByteSizedCStr.Unmarshal#1:index" []).res = .panic "eventlog.ByteSizedCStr.Unmarshal#1:index" := by decide +kernel
example : (xSlice [1, 2] 3 2 "eventlog.readExact#2:slice" []).res = .panic "eventlog.readExact#2:slice" := by decide +kernel
example : (xMake (2 ^ 63) "eventlog.readExact#1:make" []).res = .panic "eventlog.readExact#1:make" := by decide +kernel
example : xUcs2toUTF8 [] = .panic "exel.ucs2toUTF8#2:index" := by
  unfold xUcs2toUTF8 Extract.ucs2toUTF8 Extract.decodeUtf16; rfl
example : modelledSites.length = 53 ∧ checkedNames.length = 14 := by decide +kernel

end GceTcb.C07Evl
