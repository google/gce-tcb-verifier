import GceTcb.Proofs.Argv
import GceTcb.Model.ArgvTrees
import GceTcb.Props.C01Cli
import GceTcb.Props.C17Cli
import GceTcb.Props.C12Cli
import GceTcb.Props.C15Cli
import GceTcb.Gen.ArgvFlags
/-
argv tokenising (spf13/pflag `FlagSet.Parse` as cobra calls it) and cobra's command resolution, for the command lines
of C01 / C02 / C17 (gcetcbendorsement), C06 / C15 (endorse) and C12 (bootstrap / rotate / wipeout).
Model: Model/Argv.lean, trees: Model/ArgvTrees.lean, lemmas: Proofs/Argv.lean.  The theorems of the first section
(`C06_argv_roundtrip` … `C06_argv_total`) and `C15_argv_bool_*` are the laws of pflag's `parseArgs` for EVERY flag
table (all three tools rest on them); `C01_argv_roundtrip` is cobra's resolution of a canonical command line on ANY
tree meeting `canon`, and `C*_argv_canon_*` say the concrete trees meet it.  The other `C01_argv_*`, `C12_argv_*`,
`C17_argv_*` are observations on the concrete trees and the composition with the command-line models.
`C06_argv_cli_*` / `C15_argv_cli_*`: the headline theorems of Props/C06Cli and Props/C15Cli restated over RAW ARGV
(`endorseRun` = EndorseCli.cliRun ∘ endorseFlagsOf ∘ runTool), with the spellings of the Bool flags as theorems;
`C*_argv_flag_defs` / `C*_argv_flag_kinds`: the trees' per-flag columns equal the rows regenerated from the
flag-defining calls (Gen.ArgvFlags.flagDefs).
-/
namespace GceTcb.Props.CliArgv
open GceTcb GceTcb.Argv GceTcb.ArgvTrees

/-! ## pflag: laws for every flag table -/

/-- Canonical rendering round-trip: `--name=value` for every occurrence in order, then `--`, then the positionals, is
    read back as exactly those occurrences and positionals — for ANY value texts and ANY positional texts; the side
    condition (`renderable`, decidable) is on flag NAMES only: defined in the table, not empty, no `=`, no leading
    `-` or `=`. -/
theorem C06_argv_roundtrip (fs : List FlagSpec) (inter : Bool) (occs : List Occ) (pos : List Tok)
    (h : ∀ o ∈ occs, renderable fs o = true) :
    parseArgs fs inter (occs.map renderOcc ++ ['-', '-'] :: pos) = { occs := occs, pos := pos, err := none } :=
  parseArgs_render fs inter occs pos h

/-- Order and repetition are preserved: a rendered occurrence in front of ANY rest of the command line becomes the
    first occurrence, and the rest is read as it would be alone. -/
theorem C06_argv_order_preserved (fs : List FlagSpec) (inter : Bool) (o : Occ) (rest : List Tok)
    (h : renderable fs o = true) :
    parseArgs fs inter (renderOcc o :: rest) = (parseArgs fs inter rest).addOccs [o] :=
  parseArgs_renderOcc fs inter o rest h

/-- `--` terminator law: whatever follows `--` is positional, word for word; no flag is set, no error arises. -/
theorem C06_argv_dashdash_terminates (fs : List FlagSpec) (inter : Bool) (rest : List Tok) :
    parseArgs fs inter (['-', '-'] :: rest) = { occs := [], pos := rest, err := none } :=
  parseArgs_dashdash fs inter rest

/-- A value is never reinterpreted as a flag: `--name value` for a flag that needs a value consumes exactly the next
    word as its value — also when that word is `--`, `--help`, `-x` or another flag of the table — and reading goes
    on after it. -/
theorem C06_argv_value_not_reinterpreted (fs : List FlagSpec) (inter : Bool) (n v : Tok) (f : FlagSpec)
    (rest : List Tok) (hl : lookupLong fs n = some f) (hv : f.noOpt = []) (hne : n ≠ [])
    (hh : ∀ c cs, n = c :: cs → c ≠ '-' ∧ c ≠ '=') (heq : n.contains '=' = false) :
    parseArgs fs inter (('-' :: '-' :: n) :: v :: rest) = (parseArgs fs inter rest).addOccs [(n, v)] := by
  rw [parseArgs, List.head?_cons, (classify_long fs n f _ hl hne hh heq).2, if_neg (not_not_intro hv)]

/-- … and therefore the swallowed word sets nothing: with `--name --other` the flag `other` is NOT set by that word. -/
theorem C06_argv_swallowed_flag_not_set (fs : List FlagSpec) (n m : Tok) (f : FlagSpec)
    (hl : lookupLong fs n = some f) (hv : f.noOpt = []) (hne : n ≠ [])
    (hh : ∀ c cs, n = c :: cs → c ≠ '-' ∧ c ≠ '=') (heq : n.contains '=' = false) :
    parseArgs fs true [('-' :: '-' :: n), ('-' :: '-' :: m)] = { occs := [(n, '-' :: '-' :: m)], pos := [], err := none } := by
  rw [C06_argv_value_not_reinterpreted fs true n _ f [] hl hv hne hh heq]
  simp [parseArgs, Parse.addOccs]

/-- Interspersed positionals (cobra leaves pflag's `interspersed` on): a word that is empty, is `-`, or does not
    begin with `-` is a positional wherever it stands, and reading goes on. -/
theorem C06_argv_interspersed (fs : List FlagSpec) (s : Tok) (rest : List Tok) (h : plainWord s = true) :
    parseArgs fs true (s :: rest) = (parseArgs fs true rest).addPos s :=
  parseArgs_plain fs s rest h

/-- A value flag as the last word is an error (`flag needs an argument`), not a default. -/
theorem C06_argv_value_flag_at_end (fs : List FlagSpec) (inter : Bool) (n : Tok) (f : FlagSpec)
    (hl : lookupLong fs n = some f) (hv : f.noOpt = []) (hne : n ≠ [])
    (hh : ∀ c cs, n = c :: cs → c ≠ '-' ∧ c ≠ '=') (heq : n.contains '=' = false) :
    parseArgs fs inter [('-' :: '-' :: n)] = { occs := [], pos := [], err := some .needsArg } := by
  simp [parseArgs, (classify_long fs n f none hl hne hh heq).2, hv]

/-- The error classes pflag's parsing can end in (what a flag's own `Set` refuses is `badValue`, added by
    `Res.withSet`).  There is no panic outcome: `parseArgs` is a total function, and pflag's `parseArgs` has no panic
    site on any argv (its panics are at flag DEFINITION: a redefined name or shorthand, a shorthand longer than one
    byte — and `FlagSet.Parse` under `PanicOnError`, which cobra does not use: `ContinueOnError`). -/
def pflagErrs : List (Option Err) :=
  [none, some .badSyntax, some .unknownFlag, some .unknownShorthand, some .needsArg, some .helpRequested]

theorem C06_argv_parseLong_class (fs : List FlagSpec) (name : Tok) (next : Option Tok) :
    ∀ os e, parseLong fs name next = .err os e → some e ∈ pflagErrs := by
  intro os e h
  unfold parseLong at h
  repeat' split at h
  all_goals cases h
  all_goals simp [pflagErrs]

theorem C06_argv_parseShorts_class (fs : List FlagSpec) (next : Option Tok) (cs : List Char) :
    ∀ os e, parseShorts fs next cs = .err os e → some e ∈ pflagErrs := by
  induction cs with
  | nil => intro os e h; simp [parseShorts] at h
  | cons c outs ih =>
    intro os e h
    unfold parseShorts at h
    split at h
    · cases h
    · split at h
      · split at h <;> cases h <;> simp [pflagErrs]
      · split at h
        · cases h
        · split at h
          · obtain ⟨os', hr⟩ := Step.cons_err h
            exact ih os' e hr
          · repeat' split at h
            all_goals cases h
            simp [pflagErrs]

theorem C06_argv_classify_class (fs : List FlagSpec) (s : Tok) (next : Option Tok) :
    ∀ os e, classify fs s next = .err os e → some e ∈ pflagErrs := by
  intro os e h
  unfold classify at h
  split at h
  · cases h
  · exact C06_argv_parseLong_class fs _ next os e h
  · exact C06_argv_parseShorts_class fs next _ os e h
  · cases h

/-- Totality with the classes listed: every argv, for every flag table, ends without an error or in one of five
    classes. -/
theorem C06_argv_total (fs : List FlagSpec) (inter : Bool) (argv : List Tok) :
    (parseArgs fs inter argv).err ∈ pflagErrs := by
  induction argv using parseArgs.induct fs inter with
  | case5 s rest os e hc => rw [parseArgs, hc]; exact C06_argv_classify_class fs s _ os e hc
  -- every other step keeps the error of the rest of argv or sets none
  | _ => simp_all [parseArgs, pflagErrs, Parse.addPos, Parse.addOccs]


/-! ## cobra: resolution of a canonical command line (Find mode) -/

/-- The decidable conditions on (tree, command path) under which the canonical rendering resolves to the command:
    Find mode; every word of the path is a command word (not empty, no leading `-`) naming the next sub-command, in
    the tree as ExecuteC sees it (cobra's `help` / `completion` added) with and without the hidden `__complete`; the
    command is runnable, parses its flags, and is not `__complete` itself. -/
def canon (T0 : Tree) (path : List Tok) : Bool :=
  !T0.traverse && chain T0.full [] path &&
    chain { T0.full with cmds := T0.full.cmds ++ [completeCmd] } [] path && path != [completeName] &&
    (match T0.full.cmd path with
     | some c => !c.noParse && c.runnable
     | none => false)

/-- Find on a canonical command line follows the command words down the tree and leaves the rendered tail, without
    an "unknown command". -/
theorem find_render (T : Tree) (path : List Tok) (occs : List Occ) (pos : List Tok) (hc : chain T [] path = true) :
    (find T (render path occs pos)).path = path ∧
    (find T (render path occs pos)).rest = occs.map renderOcc ++ ['-', '-'] :: pos ∧
    (find T (render path occs pos)).err = none := by
  have hR := fun fs => stripFlags_tail fs occs pos
  obtain ⟨h1, h2⟩ := innerFind_chain T path [] _ [] hc hR
  rw [List.nil_append] at h1
  simp only [find, render, h1, h2, legacyErr, hR]
  simp

/-- … so the hidden `__complete` command, which stays in the tree only when Find resolves to it, drops out. -/
theorem withComplete_render (T0 : Tree) (path : List Tok) (occs : List Occ) (pos : List Tok)
    (hc : canon T0 path = true) : T0.full.withComplete (render path occs pos) = T0.full := by
  simp only [canon, Bool.and_eq_true, bne_iff_ne, ne_eq] at hc
  exact if_neg fun h => hc.1.2 ((find_render _ path occs pos hc.1.1.2).1 ▸ h.2)

theorem full_traverse (T : Tree) : T.full.traverse = T.traverse := by
  unfold Tree.full; split <;> rfl

/-- Canonical rendering round-trip through cobra (Find mode): for every command `path` meeting `canon`, EVERY
    occurrence list whose flag names are visible from the command (`renderable`; any value texts) without a true
    `--help`, and EVERY positional list the command's `Args` validator admits (any texts: they stand after `--`),
    `ExecuteC` on the rendering reaches the command's hooks and Run with exactly these occurrences, in order, and
    exactly these positionals. -/
theorem C01_argv_roundtrip (T0 : Tree) (path : List Tok) (occs : List Occ) (pos : List Tok)
    (hc : canon T0 path = true)
    (ho : ∀ o ∈ occs, renderable (T0.full.withHelp path) o = true)
    (hh : helpVal occs = false)
    (ha : argsErr (argsOf T0.full path) pos = none) :
    executeC T0 (render path occs pos) = .run path occs pos (hooksFor T0.full path) := by
  have hwc := withComplete_render T0 path occs pos hc
  simp only [canon, Bool.and_eq_true, Bool.not_eq_true'] at hc
  obtain ⟨⟨⟨⟨htr, hc1⟩, _⟩, _⟩, hcmd⟩ := hc
  obtain ⟨hp, hrest, herr⟩ := find_render _ path occs pos hc1
  cases hcm : T0.full.cmd path with
  | none => simp [hcm] at hcmd
  | some c =>
    simp only [hcm, Bool.and_eq_true, Bool.not_eq_true'] at hcmd
    simp only [argsOf, hcm] at ha
    unfold executeC
    simp only [hwc, full_traverse, htr, Bool.false_eq_true, if_false,
      hp, hrest, herr, execute, hcm, hcmd.1, parseArgs_render _ true occs pos ho, List.nil_append, hh, hcmd.2,
      Bool.not_true, ha]

/-- … and through `runTool` (Bool texts checked): if moreover every Bool occurrence carries a text strconv.ParseBool
    accepts, the tool run on the rendering IS the run of the command with these occurrences and positionals. -/
theorem C01_argv_runTool_roundtrip (T0 : Tree) (path : List Tok) (occs : List Occ) (pos : List Tok)
    (hc : canon T0 path = true)
    (ho : ∀ o ∈ occs, renderable (T0.full.withHelp path) o = true)
    (hh : helpVal occs = false)
    (ha : argsErr (argsOf T0.full path) pos = none)
    (hb : firstBad (boolOk (T0.full.withHelp path)) [] occs = none) :
    runTool T0 (render path occs pos) = .run path occs pos (hooksFor T0.full path) := by
  unfold runTool
  simp only [C01_argv_roundtrip T0 path occs pos hc ho hh ha, Res.withSet, Res.occs, Res.cmd,
    withComplete_render T0 path occs pos hc, hb]

/-! ## the trees with every name as its list of characters

The kernel reads `String.toList` of a literal and `==` on strings through the UTF-8 bytes (a well-founded decoder,
quadratic in the length), and the trees are built from `String` tables.  A literal, however, unifies with
`String.ofList` of its characters, so rewriting with `String.toList_ofList` yields the characters without evaluation,
and `simp` decides equations between literals whole.  Every evaluation below runs on these forms of the trees. -/

def rpChars : { t : Tree // rpTree = t } := ⟨_, by
  simp only [rpTree, rpCmds, rpFlags, pathOf, specOf, RpCli.commands, RpCli.flagTable, List.map, List.filter, bne,
    Bool.beq_eq_decide_eq, String.reduceEq, decide_false, decide_true, Bool.and_false, Bool.false_and, Bool.and_self,
    Bool.not_true, Bool.not_false, if_true, if_false]
  repeat rewrite [String.toList_ofList]
  exact rfl⟩

def rsChars : { t : Tree // rsTree = t } := ⟨_, by
  simp only [rsTree, rsCmds, shippedRootFlags, specOf, show rpCmds = rpChars.1.cmds from congrArg Tree.cmds rpChars.2,
    String.reduceEq, if_false]
  repeat rewrite [String.toList_ofList]
  exact rfl⟩

/-- cmd.MakeApp for any wiring and component flags -/
def appChars : { f : List FlagSpec → List FlagSpec → List Cmd // ∀ w x, appCmds w x = f w x } := ⟨_, fun w x => by
  simp only [appCmds, specsOf, specOf, isOutputFlag, EndorseCli.flagTable, KeyCli.outputFlagTable,
    KeyCli.bootstrapFlagTable, KeyCli.rotateFlagTable, KeyCli.wipeoutFlagTable, List.map, List.filter, List.any,
    Bool.beq_eq_decide_eq, String.reduceEq, decide_false, decide_true, Bool.or_false, Bool.or_true, Bool.not_true,
    Bool.not_false, if_true, if_false]
  repeat rewrite [String.toList_ofList]
  exact rfl⟩

def npChars : { t : Tree // npTree = t } := ⟨_, by
  simp only [npTree, npCmds, appChars.2, specsOf, specOf, localnonvcsFlagTable, KeyCli.wiringFlagTable, List.map,
    String.reduceEq, if_false]
  repeat rewrite [String.toList_ofList]
  exact rfl⟩

def apChars : { t : Tree // apTree = t } := ⟨_, by rewrite [apTree, appChars.2]; exact rfl⟩

/-- Every command of the three tools that cobra resolves with Find meets `canon` (the two policy / validate levels,
    the key-management commands, `endorse`). -/
theorem C01_argv_canon_rp :
    ∀ p ∈ ["verify", "sev", "sev validate", "sev policy", "tdx", "tdx validate", "tdx policy", "extract", "inspect",
            "inspect mask", "inspect payload", "inspect signature"], canon rpTree (pathOf p) = true := by
  rw [rpChars.2]
  decide +kernel

theorem C12_argv_canon_np :
    ∀ p ∈ ["endorse", "bootstrap", "rotate", "wipeout"], canon npTree (pathOf p) = true := by
  rw [npChars.2]
  decide +kernel

/-- … and of cmd.MakeApp over components without flags of their own (the tree of streams c06cli / c15cli). -/
theorem C06_argv_canon_ap :
    ∀ p ∈ ["endorse", "bootstrap", "rotate", "wipeout"], canon apTree (pathOf p) = true := by
  rw [apChars.2]
  decide +kernel

/-! ## observations on the concrete trees (each replayed on the real commands by stream `argv`, generator
    "observation") -/

def ws (l : List String) : List Tok := l.map String.toList

/-- `verify --root_cert --show e.binarypb`: the value flag swallows `--show` — the root file is the text "--show",
    `--show` is NOT set, so the endorsement IS verified (against a root file of that name: fail-closed). -/
theorem C01_argv_value_swallows_flag :
    runTool rpTree (ws ["verify", "--root_cert", "--show", "e.binarypb"]) =
      .run (ws ["verify"]) [("root_cert".toList, "--show".toList)] (ws ["e.binarypb"]) [ws ["verify"]] := by
  rw [rpChars.2]
  decide +kernel

/-- `verify --show --root_cert`: a value flag at the end is an error, not "no roots". -/
theorem C01_argv_root_cert_at_end_refused :
    runTool rpTree (ws ["verify", "--show", "--root_cert"]) =
      .err (ws ["verify"]) [("show".toList, "true".toList)] .needsArg := by
  rw [rpChars.2]
  decide +kernel

/-- Find mode: a bare Bool flag in front of the command word eats the command word (`stripFlags` does not know the
    flag on the root): "unknown command", nothing runs. -/
theorem C01_argv_bool_before_command_refused :
    runTool rpTree (ws ["--show", "verify", "e.binarypb"]) = .err [] [] .unknownCommand := by
  rw [rpChars.2]
  decide +kernel

/-- The shipped RootCmd (TraverseChildren): `--` does NOT end command resolution — `sev -- x validate` runs
    `sev validate` WITHOUT positionals (the `x` is parsed away by `sev`), where MakeRoot's tree (Find) runs `sev` with
    the positionals `x validate`. -/
theorem C01_argv_shipped_dashdash_keeps_resolving :
    runTool rsTree (ws ["sev", "--", "x", "validate"]) =
      .run (ws ["sev", "validate"]) [] [] [[], ws ["sev"], ws ["sev", "validate"]] ∧
    runTool rpTree (ws ["sev", "--", "x", "validate"]) =
      .run (ws ["sev"]) [] (ws ["x", "validate"]) [ws ["sev"]] := by
  rw [rpChars.2, rsChars.2]
  decide +kernel

/-- The shipped RootCmd: `--help=true` before the command word is an ERROR (pflag.ErrHelp from the root's own
    ParseFlags, whose flag set has no help flag yet), exit status 1; an unknown word is help, exit status 0 (Traverse has
    no `legacyArgs` check) where MakeRoot's tree reports "unknown command". -/
theorem C01_argv_shipped_help_and_unknown_word :
    runTool rsTree (ws ["--help=true", "sev", "validate"]) = .err [] [] .helpRequested ∧
    runTool rsTree (ws ["bogus"]) = .help [] [] (ws ["bogus"]) ∧
    runTool rpTree (ws ["bogus"]) = .err [] [] .unknownCommand := by
  rw [rpChars.2, rsChars.2]
  decide +kernel

/-- A Bool flag takes no value word: `wipeout --force_prod_wipeout false` FORCES, and "false" is the positional
    that selects what to wipe (`C12_cli_wipeout_parts`: a word other than `ca` / `keys` wipes nothing). -/
theorem C12_argv_bool_takes_no_value :
    runTool npTree (ws ["wipeout", "--force_prod_wipeout", "false"]) =
      .run (ws ["wipeout"]) [("force_prod_wipeout".toList, "true".toList)] (ws ["false"]) [ws ["wipeout"]] := by
  rw [npChars.2]
  decide +kernel

/-- pflag skips a word `-test.…` silently. -/
theorem C06_argv_test_prefix_skipped :
    runTool npTree (ws ["endorse", "-test.v", "--uefi=f.fd"]) =
      .run (ws ["endorse"]) [("uefi".toList, "f.fd".toList)] [] [ws ["endorse"]] := by
  rw [npChars.2]
  decide +kernel

/-! ## the relying-party tool over raw argv: `RpCli.run ∘ tokenise` -/

section Rp
open GceTcb.RpCli
variable {Cert Roots Time R Q : Type}

def strOcc (o : Occ) : String × String := (String.ofList o.1, String.ofList o.2)

/-- cobra's own commands (`help`, `completion …`, `__complete`): no code of the repository runs. -/
abbrev builtin : List Tok → Bool := builtinCmd

def rpCmdLine (c : List Tok) (os : List Occ) (pos : List Tok) : CmdLine :=
  { cmd := pathString c, flags := os.map strOcc, args := pos.map String.ofList }

/-- `gcetcbendorsement <argv>` (MakeRoot's tree): tokenising, then the command-line model on what tokenising yields.
    A usage outcome of the root command ignores its positionals (they stand after `--`; before it cobra refuses them). -/
def rpRun (W : World Cert Roots Time R Q) (E : Env Time) (argv : List String) : RpCli.Run R Q :=
  match runTool rpTree (argv.map String.toList) with
  | .err _ _ _ => ⟨[], .err "parse"⟩
  | .help c os pos =>
    if builtin c then ⟨[], Verify.accept⟩ else RpCli.run W E (rpCmdLine c os (if c = [] then [] else pos))
  | .run c os pos _ => if builtin c then ⟨[], Verify.accept⟩ else RpCli.run W E (rpCmdLine c os pos)

/-- The five modelled commands are not cobra's own, and `pathString` gives back the name the command-line model
    knows them by. -/
theorem rp_path : ∀ p ∈ ["verify", "sev validate", "tdx validate", "sev policy", "tdx policy"],
    builtin (pathOf p) = false ∧ pathString (pathOf p) = p := by decide +kernel

/-- On an argv that cobra resolves to one of the modelled commands `l`, the run of the tool is the run of the
    command-line model on the tokenised command line, and that command line's command is in `l`. -/
theorem rpRun_modelled (W : World Cert Roots Time R Q) (E : Env Time) {argv : List String} {c : List Tok}
    {os : List Occ} {pos : List Tok} {hooks : List (List Tok)} (l : List String)
    (hr : runTool rpTree (argv.map String.toList) = .run c os pos hooks)
    (hl : l ⊆ ["verify", "sev validate", "tdx validate", "sev policy", "tdx policy"]) (hv : ∃ p ∈ l, c = pathOf p) :
    rpRun W E argv = RpCli.run W E (rpCmdLine c os pos) ∧ (rpCmdLine c os pos).cmd ∈ l := by
  obtain ⟨p, hp, rfl⟩ := hv
  obtain ⟨hb, hc⟩ := rp_path p (hl hp)
  exact ⟨by simp [rpRun, hr, hb], by simpa [rpCmdLine, hc] using hp⟩

/-- C01 over raw argv.  If `gcetcbendorsement argv` exits 0 and cobra resolved argv to `verify`, `sev validate` or
    `tdx validate` (reaching its Run), then — with `cl` the command line tokenising yields — `--help` was given, or it
    is `verify --show`, or the endorsement is authentic for exactly the certificates of the root data `--root_cert`
    names, of which there is at least one, at the Backend's time. -/
theorem C01_argv_exit0_authentic (W : World Cert Roots Time R Q) (E : Env Time) (argv : List String)
    (c : List Tok) (os : List Occ) (pos : List Tok) (hooks : List (List Tok))
    (hr : runTool rpTree (argv.map String.toList) = .run c os pos hooks)
    (hv : c = pathOf "verify" ∨ c = pathOf "sev validate" ∨ c = pathOf "tdx validate")
    (h : (rpRun W E argv).result = Verify.accept) :
    helpFlag (rpCmdLine c os pos) = true ∨
    ((rpCmdLine c os pos).cmd = "verify" ∧ namedShow (rpCmdLine c os pos) = true) ∨
    ∃ k e data, callOf W.P W.L E (rpCmdLine c os pos) = .ok k ∧ callEndorsement W k = some e ∧
      rootData E (namedRoot (rpCmdLine c os pos)) = some data ∧ certsIn W.P data ≠ [] ∧
      Verify.Authentic W.P.vp e (W.P.poolOf (certsIn W.P data)) E.now := by
  obtain ⟨he, hcmd⟩ := rpRun_modelled W E ["verify", "sev validate", "tdx validate"] hr (by simp) (by simpa using hv)
  rw [he] at h
  exact C01_cli_exit0_authentic W E _ (by simpa using hcmd) h

/-- Whatever argv is: an exit status 0 of the tool is one of — cobra printed usage / ran one of its own commands;
    or the run of the command-line model on the tokenised command line accepted. -/
theorem C01_argv_exit0_cases (W : World Cert Roots Time R Q) (E : Env Time) (argv : List String)
    (h : (rpRun W E argv).result = Verify.accept) :
    (∃ c os pos, runTool rpTree (argv.map String.toList) = .help c os pos) ∨
    (∃ c os pos hooks, runTool rpTree (argv.map String.toList) = .run c os pos hooks ∧
      (builtin c = true ∨ (RpCli.run W E (rpCmdLine c os pos)).result = Verify.accept)) := by
  unfold rpRun at h
  cases hr : runTool rpTree (argv.map String.toList) with
  | err c os e => simp [hr, Verify.accept] at h
  | help c os pos => exact Or.inl ⟨c, os, pos, rfl⟩
  | run c os pos hooks =>
    refine Or.inr ⟨c, os, pos, hooks, rfl, ?_⟩
    simp only [hr] at h
    by_cases hb : builtin c = true
    · exact Or.inl hb
    · simp only [hb, Bool.false_eq_true, if_false] at h
      exact Or.inr h

/-- C17 over raw argv: after ANY `gcetcbendorsement argv` that cobra resolves to `sev policy` / `tdx policy`, every
    file other than the `--out` destination of the tokenised command line holds what it held — in particular the
    `--base` file. -/
theorem C17_argv_base_file_untouched (W : World Cert Roots Time R Q) (E : Env Time) (argv : List String)
    (render : Written R Q → Bytes) (c : List Tok) (os : List Occ) (pos : List Tok) (hooks : List (List Tok))
    (hr : runTool rpTree (argv.map String.toList) = .run c os pos hooks)
    (hv : c = pathOf "sev policy" ∨ c = pathOf "tdx policy") :
    (∀ x, x ≠ namedOut (rpCmdLine c os pos) →
        fsAfter render E.readFile (rpRun W E argv).effects x = E.readFile x) ∧
    (namedBase (rpCmdLine c os pos) ≠ namedOut (rpCmdLine c os pos) →
      fsAfter render E.readFile (rpRun W E argv).effects (namedBase (rpCmdLine c os pos)) =
        E.readFile (namedBase (rpCmdLine c os pos))) := by
  obtain ⟨he, hcmd⟩ := rpRun_modelled W E ["sev policy", "tdx policy"] hr (by simp) (by simpa using hv)
  rw [he]
  exact C17_cli_base_file_untouched W E _ render (by simpa using hcmd)

/-- … and every argv that cobra refuses, answers with usage, or resolves to one of its own commands has no effect on
    any file. -/
theorem C17_argv_refused_no_effect (W : World Cert Roots Time R Q) (E : Env Time) (argv : List String)
    (h : ∀ c os pos hooks, runTool rpTree (argv.map String.toList) = .run c os pos hooks → builtin c = true)
    (hh : ∀ c os pos, runTool rpTree (argv.map String.toList) = .help c os pos → builtin c = true) :
    (rpRun W E argv).effects = [] := by
  unfold rpRun
  cases hr : runTool rpTree (argv.map String.toList) with
  | err c os e => rfl
  | help c os pos => simp [hh c os pos hr]
  | run c os pos hooks => simp [h c os pos hooks hr]

end Rp

/-! ## the key-management commands over raw argv -/

section Key
open GceTcb.KeyCli GceTcb.KeyHistory

/-- `nonprod <argv>` as far as the key-management commands go: the context handed to rotate.Bootstrap / Key /
    Wipeout, or the refusal (`none`: argv is not one of the three commands reaching its Run). -/
def keyCmdOf (W : Wiring) (pt : String → Option (Int × Nat)) (E : KeyCli.Env) (s : State) (argv : List String) :
    Option (Outcome Handed) :=
  match runTool npTree (argv.map String.toList) with
  | .run c os pos _ => (subOf c).map (fun sub => cmdOf W pt E s (keyFlagsOf sub os pos))
  | _ => none

theorem keyCmdOf_run (W : Wiring) (pt : String → Option (Int × Nat)) (E : KeyCli.Env) (s : State)
    {argv : List String} {c : List Tok} {os : List Occ} {pos : List Tok} {hooks : List (List Tok)} {sub : Sub}
    (hr : runTool npTree (argv.map String.toList) = .run c os pos hooks) (hs : subOf c = some sub) :
    keyCmdOf W pt E s argv = some (cmdOf W pt E s (keyFlagsOf sub os pos)) := by
  simp [keyCmdOf, hr, hs]

/-- C12 over raw argv: an argv that cobra resolves to `bootstrap` / `rotate` / `wipeout` is accepted exactly under the
    conditions of `C12_cli_accept_iff` on the record tokenising yields. -/
theorem C12_argv_accept_iff (W : Wiring) (pt : String → Option (Int × Nat)) (E : KeyCli.Env) (s : State)
    (argv : List String) (c : List Tok) (os : List Occ) (pos : List Tok) (hooks : List (List Tok)) (sub : Sub)
    (hr : runTool npTree (argv.map String.toList) = .run c os pos hooks) (hs : subOf c = some sub) :
    ∃ o, keyCmdOf W pt E s argv = some o ∧
      (o.isOk = true ↔
        ∃ p, parseFlags pt (keyFlagsOf sub os pos) = .ok p ∧
          (W.km = .localkm → E.statDir (keyFlagsOf sub os pos).keyDir = some true) ∧
          (W.ca = .gcsca → (keyFlagsOf sub os pos).bucket ≠ "" ∧ resolvedRootPath (keyFlagsOf sub os pos) ≠ "" ∧
            (keyFlagsOf sub os pos).certDir ≠ "") ∧
          ((keyFlagsOf sub os pos).sub ≠ .bootstrap → cliBlocked W.cfg s.ca = false) ∧
          ((keyFlagsOf sub os pos).sub = .rotate → (rotateSerial s.ca p.override).isSome = true)) := by
  exact ⟨_, keyCmdOf_run W pt E s hr hs, C12_cli_accept_iff W pt E s (keyFlagsOf sub os pos)⟩

/-- `wipeout --force_prod_wipeout false` through the glue: the record `keyFlagsOf` reads has the force flag SET and
    the positional `false` — so (C12_cli_wipeout_selection) an accepted run hands the library a forced wipeout that
    selects neither the certificate authority nor the keys. -/
theorem C12_argv_force_false_word (W : Wiring) (pt : String → Option (Int × Nat)) (E : KeyCli.Env) (s : State) (h : Handed)
    (hc : keyCmdOf W pt E s ["wipeout", "--force_prod_wipeout", "false"] = some (.ok h)) :
    h.cmd = .wipeout ⟨false, false⟩ ⟨true, false, false⟩ := by
  rw [keyCmdOf_run W pt E s C12_argv_bool_takes_no_value (sub := .wipeout) (by decide +kernel)] at hc
  obtain ⟨ca, keys, h1, _, h3⟩ := C12_cli_wipeout_selection W pt E s _ h rfl (Option.some.inj hc)
  have := h3 "false" [] (by simp [keyFlagsOf, ws])
  rw [h1, this.1, this.2]
  simp only [keyFlagsOf, lastBool]
  repeat rewrite [String.toList_ofList]
  rfl

/-- Anything cobra refuses or answers with usage never reaches a key-management command. -/
theorem C12_argv_refused_reaches_nothing (W : Wiring) (pt : String → Option (Int × Nat)) (E : KeyCli.Env) (s : State)
    (argv : List String) (h : ∀ c os pos hooks, runTool npTree (argv.map String.toList) ≠ .run c os pos hooks) :
    keyCmdOf W pt E s argv = none := by
  unfold keyCmdOf
  cases hr : runTool npTree (argv.map String.toList) with
  | run c os pos hooks => exact absurd hr (h c os pos hooks)
  | help c os pos => rfl
  | err c os e => rfl

end Key


/-! ## the `endorse` command over raw argv: `EndorseCli.cliRun ∘ endorseFlagsOf ∘ tokenise` -/

section EndorseArgv
open GceTcb.EndorseCli GceTcb.Endorse GceTcb.Endorse.Spec GceTcb.VF GceTcb.Commit

/-- What `endorseFlagsOf` accepts is the record read off the occurrences: last occurrence for String / Bool /
    numeric flags, every occurrence in order for `--timestamp`, `--snp_product` and (through the CSV reader)
    `--tdx_machine_shapes`, the trimmed last `--commit`; and every numeral occurrence was a numeral in range, every
    `--commit` occurrence hexadecimal. -/
theorem C06_argv_cli_flags_of (N : Numerals) (os : List Occ) (fl : CliFlags) (h : endorseFlagsOf N os = .ok fl) :
    ∃ shapes, csvAll N (everyOcc "tdx_machine_shapes" os) = some shapes ∧
      uintsOk N (2 ^ 64) (everyOcc "clspec" os) = true ∧ uintsOk N (2 ^ 32) (everyOcc "snp_launch_vmsas" os) = true ∧
      intsOk N (everyOcc "commit_retries" os) = true ∧
      (everyOcc "commit" os).all (fun t => (hexDecode (trimSpace t)).isSome) = true ∧
      fl = { addSnp := lastBool "add_snp" os, addTdx := lastBool "add_tdx" os, uefi := lastStr "uefi" "" os,
             svsmPath := lastStr "svsm_path" "" os,
             svsmSnpMeasurementPath := lastStr "svsm_snp_measurement_path" "" os,
             candidateName := lastStr "candidate_name" "" os, releaseBranch := lastStr "release_branch" "" os,
             clspec := lastUint N "clspec" 0 os, commit := trimSpace (lastStr "commit" "" os),
             commitRetries := lastInt N "commit_retries" 5 os, outDir := lastStr "out_dir" "" os,
             dryRun := lastBool "dry_run" os, timestamp := everyOcc "timestamp" os,
             snpFamilyId := lastStr "snp_family_id" "" os, snpImageId := lastStr "snp_image_id" "" os,
             snpLaunchVmsas := lastUint N "snp_launch_vmsas" 0 os, snpProduct := everyOcc "snp_product" os,
             tdxIncludeEarlyAccept := lastBool "tdx_include_early_accept" os, tdxMachineShapes := shapes,
             measurementOnly := lastBool "measurement_only" os, snapshotDir := lastStr "snapshot_dir" "" os,
             overwrite := lastBool "overwrite" os } := by
  unfold endorseFlagsOf at h
  repeat' split at h
  all_goals cases h
  rename_i h1 h2 h3 h4 _ shapes hs
  exact ⟨shapes, hs, by simpa using h1, by simpa using h2, by simpa using h3,
    by simpa [Option.isSome_iff_ne_none] using h4, rfl⟩

/-- A run over raw argv that has ANY effect is a run of `EndorseCli.cliRun` on the record tokenising yields: cobra
    resolved argv to `endorse` and reached its hooks, every built-in value type accepted its texts. -/
theorem C06_argv_cli_reduces (T : Tree) (N : Numerals) (P : Params) (Pr : Prims) (Tb : Tables) (E : Env)
    (keys : Option Keys) (vcs : Option (List Attempt)) (vcss : List (List Attempt)) (argv : List String)
    (eff : Eff) (h : eff ∈ (endorseRun T N P Pr Tb E keys vcs vcss argv).effects) :
    ∃ os pos hooks fl, runTool T (argv.map String.toList) = .run endorsePath os pos hooks ∧
      endorseFlagsOf N os = .ok fl ∧
      endorseRun T N P Pr Tb E keys vcs vcss argv = cliRun P Pr Tb E fl keys vcs vcss := by
  unfold endorseRun endorseOfArgv at h ⊢
  cases hr : runTool T (argv.map String.toList) with
  | err c os e => simp [hr] at h
  | help c os pos => simp [hr] at h
  | run c os pos hooks =>
    simp only [hr] at h ⊢
    by_cases hc : c = endorsePath
    · subst hc
      simp only [if_true] at h ⊢
      cases hf : endorseFlagsOf N os with
      | ok fl => exact ⟨os, pos, hooks, fl, rfl, hf, rfl⟩
      | err e => simp [hf] at h
      | panic s => simp [hf] at h
    · by_cases hb : builtinCmd c = true <;> simp [hc, hb] at h

/-- C06 (a) over raw argv: for every argv that cobra resolves to `endorse` and whose command line is accepted, the
    endorse.Context handed to the pipeline carries what the ARGV names — last `--add_snp` / `--add_tdx` texts decide
    the sections; in every section the SVN of the side file beside the last `--uefi`; the last `--snp_family_id`,
    `--snp_image_id`, `--snp_launch_vmsas` numeral; the product after all `--snp_product` occurrences in order; the
    shapes of all `--tdx_machine_shapes` occurrences concatenated; the last `--clspec` numeral; the trimmed last
    `--commit` decoded; the time after all `--timestamp` occurrences (or the time of the run); the bytes of the file
    at the last `--uefi`; the last texts of the mode flags and directories.  Positional words change nothing. -/
theorem C06_argv_cli_request (T : Tree) (N : Numerals) (P : Params) (U : String → Option Bytes) (E : Env)
    (argv : List String) (os : List Occ) (pos : List Tok) (hooks : List (List Tok)) (fl : CliFlags) (ec : EC) (ow : Bool)
    (_hr : runTool T (argv.map String.toList) = .run endorsePath os pos hooks)
    (hf : endorseFlagsOf N os = .ok fl) (h : ecOf P U E fl = .ok (ec, ow)) :
    (ec.snp.isSome = lastBool "add_snp" os ∧ ec.tdx.isSome = lastBool "add_tdx" os) ∧
    (∀ r, ec.snp = some r → r.svn = sideSvn P E (lastStr "uefi" "" os) ∧
        r.familyId = lastStr "snp_family_id" "" os ∧ r.imageId = lastStr "snp_image_id" "" os ∧
        r.launchVmsas = lastUint N "snp_launch_vmsas" 0 os ∧
        productSetAll P defaultProduct (everyOcc "snp_product" os) = .ok r.product) ∧
    (∀ t, ec.tdx = some t → t.svn = sideSvn P E (lastStr "uefi" "" os) ∧
        t.includeEarlyAccept = lastBool "tdx_include_early_accept" os ∧
        csvAll N (everyOcc "tdx_machine_shapes" os) = some t.machineShapes) ∧
    (ec.clSpec = lastUint N "clspec" 0 os ∧ hexDecode (trimSpace (lastStr "commit" "" os)) = some ec.commit) ∧
    (∃ ts, timeSetAll P zeroTime (everyOcc "timestamp" os) = .ok ts ∧
        ec.timestamp = if ts = zeroTime then E.now else ts) ∧
    (E.readFile (lastStr "uefi" "" os) = some ec.image ∧ ec.imageName = pathBase (lastStr "uefi" "" os)) ∧
    (ec.dryRun = lastBool "dry_run" os ∧ ec.measurementOnly = lastBool "measurement_only" os ∧
      ow = lastBool "overwrite" os ∧ ec.snapshotDir = lastStr "snapshot_dir" "" os ∧
      ec.candidateName = lastStr "candidate_name" "" os ∧ ec.outDir = lastStr "out_dir" "" os ∧
      ec.commitRetries = lastInt N "commit_retries" 5 os ∧ ec.releaseBranch = lastStr "release_branch" "" os) := by
  obtain ⟨shapes, hs, _, _, _, _, rfl⟩ := C06_argv_cli_flags_of N os fl hf
  obtain ⟨h1, h2, h3, h4, h5, h6, _, h8⟩ := C06_cli_request P U E _ ec ow h
  refine ⟨h1, h2, ?_, h4, h5, h6, h8⟩
  intro t ht
  obtain ⟨a, b, c⟩ := h3 t ht
  exact ⟨a, b, by rw [hs, c]⟩

/-- C06 over raw argv, the document: every document `endorse argv` hands to the signer is a document of
    `C06_cli_document` for the record tokenising yields — it describes the image at the last `--uefi` and the command
    line the argv spells. -/
theorem C06_argv_cli_document (T : Tree) (N : Numerals) (P : Params) (Pr : Prims) (Tb : Tables) (E : Env)
    (keys : Option Keys) (vcs : Option (List Attempt)) (vcss : List (List Attempt)) (argv : List String)
    (hT : Tb.vmsaCounts.Nodup) (k : String) (d : Golden)
    (hsign : Eff.sign k d ∈ (endorseRun T N P Pr Tb E keys vcs vcss argv).effects) :
    ∃ os pos hooks shapes img commit ts prod,
      runTool T (argv.map String.toList) = .run endorsePath os pos hooks ∧
      csvAll N (everyOcc "tdx_machine_shapes" os) = some shapes ∧
      E.readFile (lastStr "uefi" "" os) = some img ∧
      hexDecode (trimSpace (lastStr "commit" "" os)) = some commit ∧
      timeSetAll P zeroTime (everyOcc "timestamp" os) = .ok ts ∧
      productSetAll P defaultProduct (everyOcc "snp_product" os) = .ok prod ∧
      lastBool "measurement_only" os = false ∧
      d.digest = Pr.sha384 img ∧ d.clSpec = lastUint N "clspec" 0 os ∧ d.commit = commit ∧
      d.timestamp = some (if ts = zeroTime then E.now else ts) ∧
      (lastBool "add_snp" os = false → d.snp = none) ∧
      (lastBool "add_snp" os = true → ∃ s, d.snp = some s ∧ s.svn = sideSvn P E (lastStr "uefi" "" os) ∧
        s.measurements.map (·.1) = snpCounts Tb.vmsaCounts (lastUint N "snp_launch_vmsas" 0 os) ∧
        (∀ p ∈ s.measurements, Pr.launchDigest img p.1 prod = .ok p.2)) ∧
      (lastBool "add_tdx" os = false → d.tdx = none) ∧
      (lastBool "add_tdx" os = true → ∃ t, d.tdx = some t ∧ t.svn = sideSvn P E (lastStr "uefi" "" os) ∧
        Paired (WrittenRow Pr Tb img) (tdxConfigs shapes (lastBool "tdx_include_early_accept" os)) t.rows) := by
  obtain ⟨os, pos, hooks, fl, hr, hf, hrun⟩ := C06_argv_cli_reduces T N P Pr Tb E keys vcs vcss argv _ hsign
  rw [hrun] at hsign
  obtain ⟨shapes, hs, _, _, _, _, rfl⟩ := C06_argv_cli_flags_of N os fl hf
  obtain ⟨img, commit, ts, prod, a1, a2, a3, a4, a5, a6, a7, a8, a9, a10, a11, a12, a13⟩ :=
    C06_cli_document P Pr Tb E _ keys vcs vcss hT k d hsign
  refine ⟨os, pos, hooks, shapes, img, commit, ts, prod, hr, hs, a1, a2, a3, a4, a5, a6, a7, a8, a9, a10, ?_, a12, a13⟩
  intro hsn
  obtain ⟨s, b1, b2, b3, b4, _⟩ := a11 hsn
  exact ⟨s, b1, b2, b3, b4⟩

/-! ### C15 over raw argv -/

/-- `--dry_run` as the argv spells it: IF the last `--dry_run` occurrence tokenising yields reads true (every
    spelling below), then whatever else argv holds, the only calls a VersionControl sees are Result without a commit
    and the RetriableError query — no workspace, no file, no commit. -/
theorem C15_argv_cli_dry_run_pure (T : Tree) (N : Numerals) (P : Params) (Pr : Prims) (Tb : Tables) (E : Env)
    (keys : Option Keys) (vcs : Option (List Attempt)) (vcss : List (List Attempt)) (argv : List String)
    (hd : ∀ os pos hooks, runTool T (argv.map String.toList) = .run endorsePath os pos hooks →
      lastBool "dry_run" os = true) :
    ∀ i ev, Eff.vcs i ev ∈ (endorseRun T N P Pr Tb E keys vcs vcss argv).effects →
      (ev.kind = .result ∧ ev.ok = false) ∨ ev.kind = .retriable := by
  intro i ev h
  obtain ⟨os, pos, hooks, fl, hr, hf, hrun⟩ := C06_argv_cli_reduces T N P Pr Tb E keys vcs vcss argv _ h
  rw [hrun] at h
  obtain ⟨shapes, _, _, _, _, _, rfl⟩ := C06_argv_cli_flags_of N os fl hf
  exact C15_cli_dry_run_pure P Pr Tb E _ keys vcs vcss (hd os pos hooks hr) i ev h

/-- `--measurement_only` as the argv spells it: nothing but standard output is touched. -/
theorem C15_argv_cli_measurement_only_pure (T : Tree) (N : Numerals) (P : Params) (Pr : Prims) (Tb : Tables)
    (E : Env) (keys : Option Keys) (vcs : Option (List Attempt)) (vcss : List (List Attempt)) (argv : List String)
    (hm : ∀ os pos hooks, runTool T (argv.map String.toList) = .run endorsePath os pos hooks →
      lastBool "measurement_only" os = true) :
    ∀ eff ∈ (endorseRun T N P Pr Tb E keys vcs vcss argv).effects, ∃ l, eff = Eff.stdout l := by
  intro eff h
  obtain ⟨os, pos, hooks, fl, hr, hf, hrun⟩ := C06_argv_cli_reduces T N P Pr Tb E keys vcs vcss argv _ h
  rw [hrun] at h
  obtain ⟨shapes, _, _, _, _, _, rfl⟩ := C06_argv_cli_flags_of N os fl hf
  exact C15_cli_measurement_only_pure P Pr Tb E _ keys vcs vcss (hm os pos hooks hr) eff h

/-- (c) over raw argv: an argv that cobra / pflag refuse (unknown flag, value flag at the end, a Bool text that is
    no Bool, unknown command), answer with usage, or resolve to another command; a numeral that is none or out of
    range; a `--commit` that is not hexadecimal; a command line the command refuses — NO effect at all, and unless
    it is usage (the help flag, or one of cobra's own commands) the run is an error. -/
theorem C15_argv_cli_refused_pure (T : Tree) (N : Numerals) (P : Params) (Pr : Prims) (Tb : Tables) (E : Env)
    (keys : Option Keys) (vcs : Option (List Attempt)) (vcss : List (List Attempt)) (argv : List String)
    (h : ∀ fl pos, endorseOfArgv T N (argv.map String.toList) = .flags fl pos →
      (ecOf P Pr.parseUuid E fl).isOk = false) :
    (endorseRun T N P Pr Tb E keys vcs vcss argv).effects = [] ∧
    (endorseOfArgv T N (argv.map String.toList) ≠ .usage →
      ∃ e, (endorseRun T N P Pr Tb E keys vcs vcss argv).result = .err e) := by
  unfold endorseRun
  cases ho : endorseOfArgv T N (argv.map String.toList) with
  | flags fl pos =>
    obtain ⟨h1, e, h2⟩ := C15_cli_refused_pure P Pr Tb E fl keys vcs vcss (h fl pos ho)
    exact ⟨h1, fun _ => ⟨e, h2⟩⟩
  | refused e => exact ⟨rfl, fun _ => ⟨e, rfl⟩⟩
  | other c => exact ⟨rfl, fun _ => ⟨_, rfl⟩⟩
  | usage => exact ⟨rfl, fun hh => absurd rfl hh⟩

/-! ### spellings of a Bool flag (pflag laws for every flag table, then the `endorse` trees) -/

/-- A bare Bool flag (`--name` of a flag with a NoOptDefVal) sets its NoOptDefVal and takes NO value word: whatever
    the next word is, it is read on its own. -/
theorem C15_argv_bool_takes_no_value_word (fs : List FlagSpec) (inter : Bool) (n : Tok) (f : FlagSpec) (rest : List Tok)
    (hl : lookupLong fs n = some f) (hv : f.noOpt ≠ []) (hne : n ≠ [])
    (hh : ∀ c cs, n = c :: cs → c ≠ '-' ∧ c ≠ '=') (heq : n.contains '=' = false) :
    parseArgs fs inter (('-' :: '-' :: n) :: rest) = (parseArgs fs inter rest).addOccs [(n, f.noOpt)] := by
  rw [parseArgs, (classify_long fs n f _ hl hne hh heq).2, if_pos hv]

/-- … so `--name false` does NOT switch the flag off: the flag is set to its NoOptDefVal ("true") and `false` is a
    positional word. -/
theorem C15_argv_bool_false_word_is_positional (fs : List FlagSpec) (n : Tok) (f : FlagSpec) (rest : List Tok)
    (hl : lookupLong fs n = some f) (hv : f.noOpt ≠ []) (hne : n ≠ [])
    (hh : ∀ c cs, n = c :: cs → c ≠ '-' ∧ c ≠ '=') (heq : n.contains '=' = false) :
    parseArgs fs true (('-' :: '-' :: n) :: "false".toList :: rest) =
      ((parseArgs fs true rest).addPos "false".toList).addOccs [(n, f.noOpt)] := by
  rw [C15_argv_bool_takes_no_value_word fs true n f _ hl hv hne hh heq,
    parseArgs_plain fs "false".toList rest (by decide)]

/-- Repetition and position: the LAST occurrence decides, wherever it stands among the other flags. -/
theorem C15_argv_last_occurrence_wins (n : String) (a b : List Occ) :
    lastBool n (a ++ b) = if (lastOcc n.toList b).isSome then lastBool n b else lastBool n a := by
  unfold lastBool
  rw [lastOcc_append]
  cases lastOcc n.toList b <;> rfl

/-- the reading of Bool flag `n` when argv reaches `endorse` -/
def boolOf (n : String) (T : Tree) (argv : List String) : Option Bool :=
  match runTool T (argv.map String.toList) with
  | .run c os _ _ => if c = endorsePath then some (lastBool n os) else none
  | _ => none

def dryOf (T : Tree) (argv : List String) : Option Bool := boolOf "dry_run" T argv

def refusedByCobra (T : Tree) (argv : List String) : Bool :=
  match runTool T (argv.map String.toList) with
  | .err _ _ _ => true
  | _ => false

/-- Every accepted spelling of `--dry_run` on both `endorse` trees (cmd.MakeApp over flag-less components, and the
    non-production application) reads true: bare, `=true`, `=1`, `=T`, before and after other flags, after a
    `--dry_run=false`, written `--dry_run=true` in FRONT of the command word (a bare `--dry_run` there is refused:
    `C15_argv_cli_dry_run_refused`) — and `--dry_run false` (the word `false` is a positional the command ignores). -/
theorem C15_argv_cli_dry_run_spellings :
    ∀ T ∈ [apTree, npTree], ∀ argv ∈
      [["endorse", "--dry_run"], ["endorse", "--dry_run=true"], ["endorse", "--dry_run=1"], ["endorse", "--dry_run=T"],
       ["endorse", "--uefi", "fw.fd", "--dry_run"], ["endorse", "--dry_run", "--uefi", "fw.fd"],
       ["endorse", "--dry_run", "--uefi=fw.fd", "--dry_run"], ["endorse", "--dry_run=false", "--dry_run"],
       ["endorse", "--uefi", "fw.fd", "--dry_run", "false"], ["endorse", "--dry_run", "false", "--add_snp"],
       ["endorse", "x", "--dry_run"], ["endorse", "--measurement_only", "--dry_run"], ["--dry_run=true", "endorse"]],
      dryOf T argv = some true := by
  rw [apChars.2, npChars.2]
  decide +kernel

/-- The spellings that switch it off or do not set it: `=false`, `=0`, a later `=false`, after `--` (positional),
    swallowed as the value of a value flag. -/
theorem C15_argv_cli_dry_run_off :
    ∀ T ∈ [apTree, npTree], ∀ argv ∈
      [["endorse"], ["endorse", "--dry_run=false"], ["endorse", "--dry_run=0"], ["endorse", "--dry_run", "--dry_run=false"],
       ["endorse", "--", "--dry_run"], ["endorse", "--uefi", "--dry_run"]],
      dryOf T argv = some false := by
  rw [apChars.2, npChars.2]
  decide +kernel

/-- … and the ones cobra / pflag refuse before any hook: a Bool text that is no Bool, an `=`-less value glued on,
    the flag in front of the command word (the root does not know it). -/
theorem C15_argv_cli_dry_run_refused :
    ∀ T ∈ [apTree, npTree], ∀ argv ∈
      [["endorse", "--dry_run=maybe"], ["endorse", "--dry_run="], ["endorse", "--dry_runs"], ["--dry_run", "endorse"],
       ["endorse", "-dry_run"]],
      refusedByCobra T argv = true := by
  rw [apChars.2, npChars.2]
  decide +kernel

/-- `endorse --uefi fw.fd --add_snp --dry_run false` IS a dry run, on every environment: the no-side-effect
    conclusion of C15 holds for it (and for every argv of `C15_argv_cli_dry_run_spellings`, by the same proof). -/
theorem C15_argv_cli_dry_run_false_is_dry (N : Numerals) (P : Params) (Pr : Prims) (Tb : Tables) (E : Env)
    (keys : Option Keys) (vcs : Option (List Attempt)) (vcss : List (List Attempt)) :
    runTool apTree (ws ["endorse", "--uefi", "fw.fd", "--add_snp", "--dry_run", "false"]) =
      .run endorsePath [("uefi".toList, "fw.fd".toList), ("add_snp".toList, "true".toList), ("dry_run".toList, "true".toList)]
        (ws ["false"]) [endorsePath] ∧
    ∀ i ev, Eff.vcs i ev ∈ (endorseRun apTree N P Pr Tb E keys vcs vcss
        ["endorse", "--uefi", "fw.fd", "--add_snp", "--dry_run", "false"]).effects →
      (ev.kind = .result ∧ ev.ok = false) ∨ ev.kind = .retriable := by
  -- the second half follows from the first
  refine (and_iff_left_of_imp fun hr => ?_).mpr (by rw [apChars.2]; decide +kernel)
  refine C15_argv_cli_dry_run_pure apTree N P Pr Tb E keys vcs vcss _ fun os pos hooks h => ?_
  cases hr.symm.trans h
  decide +kernel

/-- EVERY canonical command line of `endorse` whose last `--dry_run` occurrence reads true — any other occurrences
    (names visible from `endorse`, any value texts, Bool texts strconv.ParseBool accepts, no true `--help`), in any
    order, any repetition, any positional words — has the no-side-effect conclusion of C15, on both trees. -/
theorem C15_argv_cli_canonical_dry_run (T : Tree) (hT : T = apTree ∨ T = npTree) (N : Numerals) (P : Params) (Pr : Prims)
    (Tb : Tables) (E : Env) (keys : Option Keys) (vcs : Option (List Attempt)) (vcss : List (List Attempt))
    (occs : List Occ) (pos : List Tok)
    (ho : ∀ o ∈ occs, renderable (T.full.withHelp endorsePath) o = true)
    (hh : helpVal occs = false)
    (hb : firstBad (boolOk (T.full.withHelp endorsePath)) [] occs = none)
    (hd : lastBool "dry_run" occs = true) :
    ∀ i ev, Eff.vcs i ev ∈ (endorseRun T N P Pr Tb E keys vcs vcss
        ((render endorsePath occs pos).map String.ofList)).effects →
      (ev.kind = .result ∧ ev.ok = false) ∨ ev.kind = .retriable := by
  have hc : canon T endorsePath = true := by
    rcases hT with rfl | rfl
    · exact C06_argv_canon_ap "endorse" (by simp)
    · exact C12_argv_canon_np "endorse" (by simp)
  have ha : argsErr (argsOf T.full endorsePath) pos = none := by
    have : argsOf T.full endorsePath = .legacy := by rcases hT with rfl | rfl <;> decide +kernel
    rw [this]; rfl
  have hr := C01_argv_runTool_roundtrip T endorsePath occs pos hc ho hh ha hb
  apply C15_argv_cli_dry_run_pure
  intro os pos' hooks h
  simp only [List.map_map, Function.comp_def, String.toList_ofList, List.map_id', hr] at h
  cases h
  exact hd

/-- Positional words change nothing: two argv that reach `endorse` with the same occurrences are the same run. -/
theorem C06_argv_cli_positionals_ignored (T : Tree) (N : Numerals) (P : Params) (Pr : Prims) (Tb : Tables) (E : Env)
    (keys : Option Keys) (vcs : Option (List Attempt)) (vcss : List (List Attempt)) (a b : List String)
    (os : List Occ) (pa pb : List Tok) (ha' hb' : List (List Tok))
    (ha : runTool T (a.map String.toList) = .run endorsePath os pa ha')
    (hb : runTool T (b.map String.toList) = .run endorsePath os pb hb') :
    endorseRun T N P Pr Tb E keys vcs vcss a = endorseRun T N P Pr Tb E keys vcs vcss b := by
  unfold endorseRun endorseOfArgv
  simp only [ha, hb, if_true]
  cases endorseFlagsOf N os <;> rfl

/-- The same for `--measurement_only`: every accepted spelling reads true, `--measurement_only false` included. -/
theorem C15_argv_cli_measurement_only_spellings :
    ∀ T ∈ [apTree, npTree], ∀ argv ∈
      [["endorse", "--measurement_only"], ["endorse", "--measurement_only=true"],
       ["endorse", "--add_tdx", "--measurement_only", "--uefi", "fw.fd"],
       ["endorse", "--measurement_only=false", "--measurement_only"], ["endorse", "--measurement_only", "false"]],
      boolOf "measurement_only" T argv = some true := by
  rw [apChars.2, npChars.2]
  decide +kernel

end EndorseArgv

/-! ## regenerated facts (extract/xargv.go → Gen/ArgvFlags.lean) -/

/-- The library versions the model was transcribed from are the ones both go.mod files pin. -/
theorem C01_argv_versions :
    Gen.ArgvFlags.versions =
      [("go.mod", "github.com/spf13/cobra", "v1.8.0"), ("go.mod", "github.com/spf13/pflag", "v1.0.5"),
       ("gcetcbendorsement/go.mod", "github.com/spf13/cobra", "v1.8.0"),
       ("gcetcbendorsement/go.mod", "github.com/spf13/pflag", "v1.0.5")] := rfl

/-- How the repository uses cobra / pflag, as the model assumes: `TraverseChildren` is set in one place (the shipped
    RootCmd: `rsTree`), `EnableTraverseRunHooks` in one (MakeRoot), 70 flag-defining calls, and NONE of: a shorthand
    definition (`…VarP`), an `Args:` validator, aliases, `DisableFlagParsing`, `SetInterspersed`, a parse-error
    whitelist, a normalisation function, `NoOptDefVal`, required flags / flag groups, `Version:`, prefix or
    case-insensitive matching, completion options, replaced help / flag-error functions. -/
theorem C01_argv_settings :
    Gen.ArgvFlags.settings =
      [("TraverseChildren", 1), ("EnableTraverseRunHooks", 1), ("EnablePrefixMatching", 0),
       ("EnableCaseInsensitive", 0), ("DisableFlagParsing", 0), ("SetInterspersed", 0), ("FParseErrWhitelist", 0),
       ("NormalizeFunc", 0), ("NoOptDefVal", 0), ("RequiredFlag", 0), ("ArgsValidator", 0), ("Aliases", 0),
       ("Version", 0), ("ShorthandDefinition", 0), ("FlagDefinition", 70), ("CompletionOptions", 0),
       ("SetHelpCommand", 0)] := rfl

/-! ### per-flag rows regenerated from the flag-defining calls (Gen.ArgvFlags.flagDefs) -/

def wiringSources : List String :=
  ["testing/nonprod/localkm.T.AddFlags", "testing/nonprod/localca.T.AddFlags", "sign/gcsca.CertificateAuthority.AddFlags"]

/-- Which functions' flag definitions land on which command: the constructors of gcetcbendorsement/cmd define the
    flags of the command they make (`rs`: the shipped RootCmd's `init` adds two to the root); cmd.MakeApp puts
    output.Options.AddFlags on the root and, on every command, app.Global's AddFlags (testing/nonprod: localkm.T,
    localca.T → gcsca.CertificateAuthority; nothing in `ap`), the command's own and its application component's. -/
def flagSources (tree cmd : String) : List String :=
  let w := if tree = "np" then wiringSources else []
  if tree = "rp" ∨ tree = "rs" then
    (if cmd = "" then (if tree = "rs" then ["gcetcbendorsement/cmd.init"] else [])
     else if cmd = "extract" then ["gcetcbendorsement/cmd.makeExtract"]
     else if cmd = "inspect" then ["gcetcbendorsement/cmd.makeInspect"]
     else if cmd = "inspect mask" then ["gcetcbendorsement/cmd.makeMaskCmd"]
     else if cmd = "sev" then ["gcetcbendorsement/cmd.makeSevCommand"]
     else if cmd = "sev validate" then ["gcetcbendorsement/cmd.makeSevValidateCommand"]
     else if cmd = "sev policy" then ["gcetcbendorsement/cmd.makeSevPolicyCommand"]
     else if cmd = "tdx" then ["gcetcbendorsement/cmd.makeTdxCommand"]
     else if cmd = "tdx validate" then ["gcetcbendorsement/cmd.makeTdxValidateCommand"]
     else if cmd = "tdx policy" then ["gcetcbendorsement/cmd.makeTdxPolicyCommand"]
     else if cmd = "verify" then ["gcetcbendorsement/cmd.makeVerify"]
     else [])
  else
    (if cmd = "" then w ++ ["cmd/output.Options.AddFlags"]
     else if cmd = "endorse" then
       w ++ ["cmd.endorseCommand.AddFlags"] ++ (if tree = "np" then ["testing/nonprod/localnonvcs.T.AddFlags"] else [])
     else if cmd = "bootstrap" then w ++ ["cmd.BootstrapCommand.AddFlags"]
     else if cmd = "rotate" then w ++ ["cmd.RotateCommand.AddFlags"]
     else if cmd = "wipeout" then w ++ ["cmd.wipeoutBase"]
     else [])

/-- the rows of the given functions and scope as flag specs: name, shorthand, NoOptDefVal -/
def genSpecs (srcs : List String) (scope : String) : List FlagSpec :=
  (Gen.ArgvFlags.flagDefs.filter (fun r => srcs.contains r.1 && r.2.1 == scope)).map fun r =>
    { name := r.2.2.1.toList, short := r.2.2.2.1.toList.head?, noOpt := r.2.2.2.2.2.toList }

def sameSpecs (a b : List FlagSpec) : Bool := a.length == b.length && a.all b.contains && b.all a.contains

def treeMatchesDefs (tree : String) (T : Tree) : Bool :=
  T.cmds.all fun c =>
    sameSpecs c.lflags (genSpecs (flagSources tree (pathString c.path)) "local") &&
    sameSpecs c.pflags (genSpecs (flagSources tree (pathString c.path)) "persistent")

/-- The trees carry what the census says: no shorthand anywhere, a NoOptDefVal only "true", no flag named `help`,
    legacy `Args` everywhere, only `rsTree` traverses. -/
theorem C01_argv_trees_flags :
    ([rpTree, rsTree, npTree, apTree].all fun T => T.cmds.all fun c =>
      (c.lflags ++ c.pflags).all (fun f => f.short == none && (f.noOpt == [] || f.noOpt == "true".toList) &&
        f.name != helpName) && c.args == .legacy && !c.noParse && c.aliases == []) = true ∧
    [rpTree.traverse, rsTree.traverse, npTree.traverse, apTree.traverse] = [false, true, false, false] := by
  rw [rpChars.2, rsChars.2, npChars.2, apChars.2]
  decide +kernel

/-- The four comparisons in ONE kernel evaluation: each row of `Gen.ArgvFlags.flagDefs` is decoded once (`rsTree`'s
    commands are `rpTree`'s, `npTree`'s are `apTree`'s plus the wiring flags). -/
theorem trees_all :
    (treeMatchesDefs "rp" rpTree = true ∧ treeMatchesDefs "rs" rsTree = true) ∧
      treeMatchesDefs "np" npTree = true ∧ treeMatchesDefs "ap" apTree = true := by
  rw [rpChars.2, rsChars.2, npChars.2, apChars.2]
  decide +kernel

/-- Every flag of every command of the four trees — name, shorthand, NoOptDefVal, and whether it was defined through
    `cmd.Flags()` or `cmd.PersistentFlags()` — is a row regenerated from the flag-defining call in the source, and
    every regenerated row of the command's constructors is in the tree: a flag turned from String to Bool, a new
    shorthand, a flag moved between the two flag sets, a flag added or dropped breaks this. -/
theorem C01_argv_flag_defs : treeMatchesDefs "rp" rpTree = true ∧ treeMatchesDefs "rs" rsTree = true :=
  trees_all.1

theorem C12_argv_flag_defs : treeMatchesDefs "np" npTree = true := trees_all.2.1

theorem C06_argv_flag_defs : treeMatchesDefs "ap" apTree = true := trees_all.2.2

def kindName (k : String) : String := if k.startsWith "Go:" then (k.drop 3).toString else k

/-- (flag, kind) of the given functions -/
def genKinds (srcs : List String) : List (String × String) :=
  (Gen.ArgvFlags.flagDefs.filter (fun r => srcs.contains r.1)).map fun r => (r.2.2.1, kindName r.2.2.2.2.1)

def sameKinds (a b : List (String × String)) : Bool := a.length == b.length && a.all b.contains && b.all a.contains

/-- The kind comparisons for all three tools in ONE kernel evaluation (`kindName` of a row of
    `Gen.ArgvFlags.flagDefs` is computed once). -/
theorem flag_kinds_all :
    sameKinds (EndorseCli.flagTable.map fun r => (r.1, r.2.1))
      (genKinds ["cmd.endorseCommand.AddFlags", "cmd/output.Options.AddFlags"]) = true ∧
    (sameKinds (KeyCli.bootstrapFlagTable.map fun r => (r.1, r.2.1)) (genKinds ["cmd.BootstrapCommand.AddFlags"]) = true ∧
     sameKinds (KeyCli.rotateFlagTable.map fun r => (r.1, r.2.1)) (genKinds ["cmd.RotateCommand.AddFlags"]) = true ∧
     sameKinds (KeyCli.wipeoutFlagTable.map fun r => (r.1, r.2.1)) (genKinds ["cmd.wipeoutBase"]) = true ∧
     sameKinds (KeyCli.outputFlagTable.map fun r => (r.1, r.2.1)) (genKinds ["cmd/output.Options.AddFlags"]) = true ∧
     sameKinds (KeyCli.wiringFlagTable.map fun r => (r.1, r.2.1)) (genKinds wiringSources) = true) ∧
    RpCli.flagTable.all (fun r => (genKinds (flagSources "rp" r.1)).contains (r.2.2.1, r.2.2.2.1)) = true := by
  decide +kernel

/-- The defining functions of the rows of `Gen.ArgvFlags.flagDefs` as characters: each literal is unified with
    `String.ofList` of its characters, row by row. -/
def defSources : { t : List Tok // Gen.ArgvFlags.flagDefs.map (·.1.toList) = t } := ⟨_, by
  repeat' apply map_fst_toList_cons
  exact rfl⟩

/-- The type column of the command-line models' flag tables is the kind of the defining call (pflag's method stem;
    the Go type of the Value for `AddGoFlag`): the glue (`endorseFlagsOf`, `keyFlagsOf`) treats a flag by that
    column — last occurrence / every occurrence / Bool text. -/
theorem C06_argv_flag_kinds :
    sameKinds (EndorseCli.flagTable.map fun r => (r.1, r.2.1))
      (genKinds ["cmd.endorseCommand.AddFlags", "cmd/output.Options.AddFlags"]) = true := flag_kinds_all.1

theorem C12_argv_flag_kinds :
    sameKinds (KeyCli.bootstrapFlagTable.map fun r => (r.1, r.2.1)) (genKinds ["cmd.BootstrapCommand.AddFlags"]) = true ∧
    sameKinds (KeyCli.rotateFlagTable.map fun r => (r.1, r.2.1)) (genKinds ["cmd.RotateCommand.AddFlags"]) = true ∧
    sameKinds (KeyCli.wipeoutFlagTable.map fun r => (r.1, r.2.1)) (genKinds ["cmd.wipeoutBase"]) = true ∧
    sameKinds (KeyCli.outputFlagTable.map fun r => (r.1, r.2.1)) (genKinds ["cmd/output.Options.AddFlags"]) = true ∧
    sameKinds (KeyCli.wiringFlagTable.map fun r => (r.1, r.2.1)) (genKinds wiringSources) = true :=
  flag_kinds_all.2.1

theorem C01_argv_flag_kinds :
    RpCli.flagTable.all (fun r => (genKinds (flagSources "rp" r.1)).contains (r.2.2.1, r.2.2.2.1)) = true ∧
    RpCli.flagTable.length =
      (Gen.ArgvFlags.flagDefs.filter (fun r => r.1.startsWith "gcetcbendorsement/cmd.make")).length := by
  refine ⟨flag_kinds_all.2.2, ?_⟩
  rw [count_startsWith, defSources.2, String.toList_ofList]
  decide +kernel

/-! ## non-vacuity -/

example : renderable (npTree.full.withHelp (ws ["rotate"])) ("timestamp".toList, "--quiet".toList) = true := by
  rw [npChars.2]
  decide +kernel

example : executeC npTree (render (ws ["rotate"]) [("timestamp".toList, "--quiet".toList), ("timestamp".toList, [])]
    (ws ["--help", "-x", ""])) =
    .run (ws ["rotate"]) [("timestamp".toList, "--quiet".toList), ("timestamp".toList, [])] (ws ["--help", "-x", ""])
      [ws ["rotate"]] := by
  rw [npChars.2]
  decide +kernel

example : subOf (ws ["rotate"]) = some .rotate := by decide +kernel

def splitComma : List Char → List (List Char)
  | [] => [[]]
  | c :: cs =>
    if c = ',' then [] :: splitComma cs
    else
      match splitComma cs with
      | [] => [[c]]
      | w :: ws => (c :: w) :: ws

/-- a few numerals, shapes split at commas: enough for the examples -/
def exNumerals : Numerals :=
  { uint := fun s => if s = "77" then some 77 else if s = "2" then some 2 else if s = "0x10" then some 16 else none
    int := fun s => if s = "2" then some 2 else if s = "-1" then some (-1) else none
    csv := fun s => if s = "" then some [] else some ((splitComma s.toList).map String.ofList) }

section
open GceTcb.EndorseCli GceTcb.VF

/-- End to end on a concrete environment (that of the C15Cli example): the argv below — value flags in both spellings,
    a Bool flag overridden, `--dry_run false` — reaches the pipeline, makes the 4 key calls and the single Result call
    of a dry run, prints nothing; the same argv without `--dry_run false` makes 8 back-end calls; with
    `--measurement_only false` no call at all and 4 lines; `--dry_run=maybe` and `--clspec 0x` have no effect. -/
example :
    let run := fun argv => endorseRun apTree exNumerals exParams15 exP exT exEnv15 exKeys (some exScript) [] argv
    let common := ["endorse", "--uefi", "fw.fd", "--add_snp=false", "--add_snp", "--add_tdx=1", "--out_dir=out",
                   "--tdx_machine_shapes", "c3-standard-4", "--candidate_name", "rc0", "--clspec=0x10"]
    let dry := run (common ++ ["--dry_run", "false"])
    let real := run common
    let mo := run (common ++ ["--measurement_only", "false"])
    let bad := run (common ++ ["--dry_run=maybe"])
    let badnum := run (common ++ ["--clspec", "0x"])
    (countKeys dry.effects, countVcs dry.effects, stdoutLines dry.effects) = (4, 1, []) ∧
    (countKeys real.effects, countVcs real.effects, stdoutLines real.effects) = (4, 8, []) ∧
    (countKeys mo.effects, countVcs mo.effects, (stdoutLines mo.effects).length) = (0, 0, 4) ∧
    bad.effects.length = 0 ∧ bad.result = .err "parse:argv" ∧
    badnum.effects.length = 0 ∧ badnum.result = .err "parse:clspec" ∧
    dry.result = .ok () ∧ real.result = .ok () := by
  rw [apChars.2]
  decide +kernel

/-- the hypotheses of `C15_argv_cli_canonical_dry_run` are met by occurrence lists with awkward value texts -/
example :
    let occs : List Occ := [("dry_run".toList, "false".toList), ("uefi".toList, "--dry_run=false".toList),
                            ("dry_run".toList, "T".toList), ("snp_product".toList, [])]
    (occs.all fun o => renderable (apTree.full.withHelp endorsePath) o) = true ∧ helpVal occs = false ∧
    firstBad (boolOk (apTree.full.withHelp endorsePath)) [] occs = none ∧ lastBool "dry_run" occs = true := by
  rw [apChars.2]
  decide +kernel

end


end GceTcb.Props.CliArgv
