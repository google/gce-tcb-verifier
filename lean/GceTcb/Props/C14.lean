import GceTcb.Proofs.Commit
import GceTcb.Proofs.ManifestFS
/-
C14 — Commit retries are bounded, fresh and honest.

`retrySubmit c e budget script` is the model of endorse.RetrySubmit running the real change function
(endorse.changeEndorsements) against a version-control backend whose behaviour in attempt k is
`script[k]` (which call fails, is the error retriable, what that workspace contains).  The theorems
are about the log of backend calls (`Ev`) and hold for every budget (any integer), every script
(any length, any contents) and every request configuration on a real (non-dry-run) run.

Reading (DESIGN §6): a negative budget behaves as zero retries, so the bound is
1 ≤ attempts ≤ max(budget, 0) + 1.

Names: the candidate name, --out_dir, --snapshot_dir and the image name in `Cfg` are ARBITRARY texts;
every path argument is computed the way endorse/commit.go computes it (`relOut`, `relSnap`, `basename`
through the model of Go's path.Clean / path.Join, Model/Paths.lean), so every theorem below is about
arbitrary names. The `…_paths` theorems say what those paths are.
-/
namespace GceTcb.Commit
open GceTcb.Manifest

/-- At most max(budget,0)+1 attempts, for every integer budget and every script. -/
theorem C14_attempts_le (c : Cfg) (e : Entry) (budget : Int) (script : List Attempt)
    (hd : c.dryRun = false) :
    (attempts (retrySubmit c e budget script).1 : Int) ≤ max budget 0 + 1 := by
  have gen : ∀ (script : List Attempt) (tries : Nat),
      (attempts (retryLoop c e budget tries script).1 : Int) ≤ max (budget - tries) 0 + 1 := by
    intro script
    induction script with
    | nil => intro tries; simp [retryLoop, attempts]; omega
    | cons a rest ih =>
      intro tries
      have h1 := (attempt_counts c e tries a hd).1
      rcases retryLoop_cases c e budget tries a rest with ⟨_, h'⟩ | ⟨_, _, _, _, _, h'⟩ | ⟨_, hb, h'⟩ <;> rw [h']
      · show (attempts (attempt c e tries a).1 : Int) ≤ _
        rw [h1]; omega
      · show (attempts (_ ++ _) : Int) ≤ _
        simp only [attempts, List.countP_append] at h1 ⊢
        rw [h1]; simp [isGetOps, evRetriable]; omega
      · show (attempts (_ ++ _ :: _) : Int) ≤ _
        have := ih (tries + 1)
        have hq : isGetOps (evRetriable tries true) = false := rfl
        simp only [attempts, List.countP_append, List.countP_cons, hq] at h1 this ⊢
        rw [h1]
        simp only [Bool.false_eq_true, if_false, Nat.add_zero]
        omega
  have := gen script 0
  simpa [retrySubmit] using this

/-- At least one attempt is always made (given the environment answers at all). -/
theorem C14_attempts_ge (c : Cfg) (e : Entry) (budget : Int) (script : List Attempt)
    (hd : c.dryRun = false) (hs : script ≠ []) :
    1 ≤ attempts (retrySubmit c e budget script).1 := by
  cases script with
  | nil => exact absurd rfl hs
  | cons a rest =>
    have h1 := (attempt_counts c e 0 a hd).1
    unfold retrySubmit
    rcases retryLoop_cases c e budget 0 a rest with ⟨_, h'⟩ | ⟨_, _, _, _, _, h'⟩ | ⟨_, _, h'⟩ <;>
      rw [h'] <;> simp only [attempts, List.countP_append] at h1 ⊢ <;> omega

/-- The loop never asks the environment for more than max(budget,0)+1 attempts: a script that long
    is never exhausted (so `Res.exhausted` is not an outcome of the code, only of short scripts). -/
theorem C14_never_exhausted (c : Cfg) (e : Entry) (budget : Int) (script : List Attempt)
    (hlen : (max budget 0).toNat + 1 ≤ script.length) :
    (retrySubmit c e budget script).2 ≠ .exhausted := by
  have gen : ∀ (script : List Attempt) (tries : Nat),
      (max (budget - tries) 0).toNat + 1 ≤ script.length →
      (retryLoop c e budget tries script).2 ≠ .exhausted := by
    intro script
    induction script with
    | nil => intro tries h; simp at h
    | cons a rest ih =>
      intro tries hl
      rcases retryLoop_cases c e budget tries a rest with ⟨_, h'⟩ | ⟨_, _, r, _, hr, h'⟩ | ⟨_, hb, h'⟩ <;> rw [h']
      · nofun
      · exact hr
      · apply ih (tries + 1)
        simp only [List.length_cons] at hl
        omega
  exact gen script 0 (by simpa using hlen)

/-- A retry happens only after an error the backend marks retriable: every GetChangeOps call other
    than the first event is immediately preceded by a RetriableError query answered `true`; nothing at
    all follows a query answered `false`; and what follows one answered `true` is the GetChangeOps for
    the next workspace (ids strictly increase). -/
theorem C14_retry_only_retriable (c : Cfg) (e : Entry) (budget : Int) (script : List Attempt)
    (hd : c.dryRun = false) (x y : Ev) (hxy : Consecutive (retrySubmit c e budget script).1 x y) :
    (y.kind = .getOps → x.kind = .retriable ∧ x.ok = true) ∧
    (x.kind = .retriable → x.ok = true ∧ y.kind = .getOps ∧ y.ws = x.ws + 1) := by
  have hs := adj_of_consecutive Step _ (retryLoop_adj c e budget hd script 0).1 x y hxy
  refine ⟨fun hy => ?_, hs.afterRetriable⟩
  rcases step_cases hs with ⟨hk, ho, _⟩ | ⟨_, h, _⟩ | ⟨_, _, h, _⟩ | ⟨_, _, h⟩ | ⟨_, _, h⟩ | ⟨_, _, _, h⟩
  · exact ⟨hk, ho⟩
  · rw [hy] at h; cases h
  · rw [hy] at h; cases h
  · rw [h] at hy; cases hy
  · rw [h] at hy; cases hy
  · rw [hy] at h; cases h

/-- The first backend call of a run is GetChangeOps for attempt 0. -/
theorem C14_starts_with_getOps (c : Cfg) (e : Entry) (budget : Int) (script : List Attempt)
    (hd : c.dryRun = false) (x : Ev) (hx : (retrySubmit c e budget script).1.head? = some x) :
    ∃ ok, x = evGetOps 0 ok :=
  (retryLoop_adj c e budget hd script 0).2 x hx

/-- Every attempt starts from a fresh workspace: a ChangeOps call (read, write, mode change, commit,
    destroy) is always made on the workspace of the immediately preceding event, which is either that
    attempt's successful GetChangeOps or an earlier call of the same attempt — never on a workspace
    obtained in an earlier attempt; and a call other than Destroy only follows a successful call. (That a
    GetChangeOps after a retry asks for the next workspace is `C14_retry_only_retriable`.) -/
theorem C14_fresh_workspace_each_attempt (c : Cfg) (e : Entry) (budget : Int) (script : List Attempt)
    (hd : c.dryRun = false) (x y : Ev) (hxy : Consecutive (retrySubmit c e budget script).1 x y)
    (hy : y.kind.isOp = true) :
    y.ws = x.ws ∧ (x.kind = .getOps ∨ x.kind.isPlan = true ∨ x.kind = .commit) ∧
    (y.kind ≠ .destroy → x.ok = true) := by
  have hs := adj_of_consecutive Step _ (retryLoop_adj c e budget hd script 0).1 x y hxy
  rcases step_cases hs with ⟨_, _, h, _⟩ | ⟨_, h, _⟩ | ⟨_, _, h, _⟩ | ⟨_, _, h⟩ | ⟨hk, _, h⟩ | ⟨hk, ho, hw, _⟩
  · rw [h] at hy; cases hy
  · rw [h] at hy; cases hy
  · rw [h] at hy; cases hy
  · rw [h] at hy; cases hy
  · rw [h]; exact ⟨rfl, hk.elim (.inr ∘ .inl) (.inr ∘ .inr), fun h' => absurd rfl h'⟩
  · exact ⟨hw, hk.elim .inl (.inr ∘ .inl), fun _ => ho⟩

/-- The manifest written in an attempt is the merge of the new entry into the manifest read in THAT
    attempt's workspace (after a successful read of it in the same workspace), never one remembered
    from an earlier attempt. -/
theorem C14_manifest_reread (c : Cfg) (e : Entry) (budget : Int) (script : List Attempt)
    (hd : c.dryRun = false) (ev : Ev) (hev : ev ∈ (retrySubmit c e budget script).1)
    (hk : ev.kind = .writeManifest) :
    ∃ a, script[ev.ws]? = some a ∧ a.manifest ≠ .garbage ∧
      ev.manifest = addEntry a.manifest.entries e ∧
      (⟨ev.ws, .readManifest, true, relOut c manifestFile, []⟩ : Ev) ∈ (retrySubmit c e budget script).1 := by
  obtain ⟨j, ⟨b, rfl⟩ | ⟨a, hj, h, hsub⟩⟩ := mem_retryLoop c e budget script 0 ev hev
  · cases hk
  · -- a manifest write is the last call of the full plan, made after its first, the manifest read, succeeded
    obtain ⟨inR, hA, cl, hcl, k1, _, k3⟩ := (attempt_mem c e _ a hd ev h).call (hk ▸ rfl)
    obtain ⟨hg, rfl, cs, hcs⟩ := (plan_calls c e a hd cl hcl).2.2 (k1 ▸ hk)
    rw [hcs] at inR hA
    rw [(attempt_mem c e _ a hd ev h).ws, Nat.zero_add]
    exact ⟨a, hj, hg, k3, Nat.zero_add j ▸ hsub _ (hA _ (runCalls_head_ok _ _ _ _ _ ev inR (by rw [hk]; nofun)))⟩

/-- Entries committed by someone else between attempts are never dropped: every entry present in
    the manifest as read in the attempt, other than ones the new entry replaces (same path or same
    digest), is in the manifest that attempt writes; and so is the new entry. -/
theorem C14_no_dropped_entries (c : Cfg) (e : Entry) (budget : Int) (script : List Attempt)
    (hd : c.dryRun = false) (ev : Ev) (hev : ev ∈ (retrySubmit c e budget script).1)
    (hk : ev.kind = .writeManifest) (a : Attempt) (ha : script[ev.ws]? = some a) :
    e ∈ ev.manifest ∧
    ∀ x ∈ a.manifest.entries, x.path ≠ e.path → x.digest ≠ e.digest → x ∈ ev.manifest := by
  obtain ⟨a', h1, _, h3, _⟩ := C14_manifest_reread c e budget script hd ev hev hk
  rw [ha] at h1; cases h1
  rw [h3]
  exact ⟨mem_addEntry _ _, fun x hx hp hdg => addEntry_keeps _ _ x hx hp hdg⟩

/-- Every attempt that obtained a workspace and did not commit it destroys it, exactly once; a
    committed workspace is not destroyed. -/
theorem C14_failed_workspaces_released (c : Cfg) (e : Entry) (budget : Int) (script : List Attempt)
    (hd : c.dryRun = false) (k : Nat) (hg : evGetOps k true ∈ (retrySubmit c e budget script).1) :
    (evCommit k true ∈ (retrySubmit c e budget script).1 ∧
      (retrySubmit c e budget script).1.count (evDestroy k) = 0) ∨
    (evCommit k true ∉ (retrySubmit c e budget script).1 ∧
      (retrySubmit c e budget script).1.count (evDestroy k) = 1) :=
  retryLoop_released c e budget hd script 0 k hg

/-- Success is reported exactly when some attempt's TryCommit succeeded. -/
theorem C14_success_iff_commit (c : Cfg) (e : Entry) (budget : Int) (script : List Attempt)
    (hd : c.dryRun = false) :
    (retrySubmit c e budget script).2 = .ok ↔
      ∃ ev ∈ (retrySubmit c e budget script).1, ev.kind = .commit ∧ ev.ok = true :=
  (exists_iff_of_countP (retryLoop_counts c e budget hd script 0).2).trans
    ⟨fun ⟨ev, hev, hp⟩ => ⟨ev, hev, by simpa [isCommitOk] using hp⟩,
     fun ⟨ev, hev, hk, ho⟩ => ⟨ev, hev, by simp [isCommitOk, hk, ho]⟩⟩

/-- Result is recorded exactly once on success and never on failure; it is recorded immediately
    after the successful TryCommit, for that commit. -/
theorem C14_result_once (c : Cfg) (e : Entry) (budget : Int) (script : List Attempt)
    (hd : c.dryRun = false) :
    (retrySubmit c e budget script).1.countP isResult =
      (if (retrySubmit c e budget script).2 = .ok then 1 else 0) ∧
    (retrySubmit c e budget script).1.countP isCommitOk =
      (if (retrySubmit c e budget script).2 = .ok then 1 else 0) ∧
    (∀ x y, Consecutive (retrySubmit c e budget script).1 x y →
      (x.kind = .commit → x.ok = true → y = evResult x.ws true y.arg) ∧
      (y.kind = .result → x.kind = .commit ∧ x.ok = true ∧ x.ws = y.ws)) := by
  refine ⟨(retryLoop_counts c e budget hd script 0).1, (retryLoop_counts c e budget hd script 0).2, ?_⟩
  intro x y hxy
  have hs := adj_of_consecutive Step _ (retryLoop_adj c e budget hd script 0).1 x y hxy
  refine ⟨hs.afterCommit, fun hy => ?_⟩
  rcases step_cases hs with ⟨_, _, h, _⟩ | ⟨_, h, _⟩ | ⟨_, _, h, _⟩ | ⟨hk, ho, h⟩ | ⟨_, _, h⟩ | ⟨_, _, _, h⟩
  · rw [hy] at h; cases h
  · rw [hy] at h; cases h
  · rw [hy] at h; cases h
  · exact ⟨hk, ho, by rw [h]; rfl⟩
  · rw [h] at hy; cases hy
  · rw [hy] at h; cases h

/-! ### arbitrary names: the paths of the workspace calls -/

/-- Workspace paths are computed per attempt the same way: every read, write and mode change of every
    attempt is made on one of the paths fixed by the request configuration (`planArgs c`: in manifest mode
    the manifest at ReleasePath(Join(out_dir, "manifest.textproto")) and the endorsement at
    ReleasePath(Join(out_dir, cleaned basename)); in snapshot mode the snapshot files) — whatever the
    attempt's number, the failures before it and the contents of its workspace. -/
theorem C14_workspace_paths (c : Cfg) (e : Entry) (budget : Int) (script : List Attempt)
    (hd : c.dryRun = false) :
    ∀ ev ∈ (retrySubmit c e budget script).1, ev.kind.isPlan = true → (ev.kind, ev.arg) ∈ planArgs c := by
  intro ev hev hk
  obtain ⟨j, ⟨b, rfl⟩ | ⟨a, _, h, _⟩⟩ := mem_retryLoop c e budget script 0 ev hev
  · cases hk
  · obtain ⟨_, _, cl, hcl, k1, k2, _⟩ := (attempt_mem c e _ a hd ev h).call hk
    rw [k1, k2]
    exact (plan_calls c e a hd cl hcl).2.1

/-- … so two attempts make the same kind of call on the same path (manifest mode). -/
theorem C14_same_paths_every_attempt (c : Cfg) (e : Entry) (budget : Int) (script : List Attempt)
    (hd : c.dryRun = false) (hs : c.snapshot = false) :
    ∀ x ∈ (retrySubmit c e budget script).1, ∀ y ∈ (retrySubmit c e budget script).1,
      x.kind.isPlan = true → x.kind = y.kind → x.arg = y.arg := by
  -- in manifest mode the kind determines the path
  have key : ∀ k p, (k, p) ∈ planArgs c → p =
      if k = .readManifest ∨ k = .writeManifest then relOut c manifestFile else relOut c (basename c.cand) := by
    intro k p h
    simp only [planArgs, hs, Bool.false_eq_true, if_false, List.mem_cons, Prod.mk.injEq, List.not_mem_nil,
      or_false] at h
    rcases h with ⟨rfl, rfl⟩ | ⟨rfl, rfl⟩ | ⟨rfl, rfl⟩ | ⟨rfl, rfl⟩ | ⟨rfl, rfl⟩ <;> rfl
  intro x hx y hy hk hxy
  rw [key _ _ (C14_workspace_paths c e budget script hd x hx hk),
    key _ _ (C14_workspace_paths c e budget script hd y hy (hxy ▸ hk)), hxy]

/-- A candidate name whose cleaned basename is rooted or climbs out of the output directory ("/rc0",
    "../x", "../out/rc0") never reaches the workspace: for every budget and script the only ChangeOps call
    of the change function is the manifest read, nothing is probed, written or re-moded, and the submission
    never reports success. -/
theorem C14_refused_name_paths (c : Cfg) (e : Entry) (budget : Int) (script : List Attempt)
    (hd : c.dryRun = false) (hs : c.snapshot = false) (hn : nameOk c.cand = false) :
    (retrySubmit c e budget script).2 ≠ .ok ∧
    ∀ ev ∈ (retrySubmit c e budget script).1, ev.kind.isPlan = true → ev.kind = .readManifest := by
  -- the plan of every attempt is the manifest read alone, ending in an error
  have hp : ∀ a, plan c e a = ⟨[cReadManifest c], true, ""⟩ := fun a => by
    rcases plan_cases c e a hd with ⟨h, _⟩ | ⟨_, ⟨_, h⟩ | ⟨h, _⟩ | ⟨_, h, _⟩⟩
    · exact nomatch hs.symm.trans h
    · exact h
    · exact nomatch hn.symm.trans h
    · exact nomatch hn.symm.trans h
  refine ⟨fun hok => ?_, fun ev hev hk => ?_⟩
  · -- success records a Result, which an attempt records only if the change function returned no error
    obtain ⟨ev, hev, hr⟩ := (exists_iff_of_countP (retryLoop_counts c e budget hd script 0).1).mp hok
    obtain ⟨j, ⟨b, rfl⟩ | ⟨a, _, h, _⟩⟩ := mem_retryLoop c e budget script 0 ev hev
    · cases hr
    · have := ((attempt_mem c e _ a hd ev h).result (by simpa [isResult] using hr)).1
      rw [hp] at this
      cases this
  · obtain ⟨j, ⟨b, rfl⟩ | ⟨a, _, h, _⟩⟩ := mem_retryLoop c e budget script 0 ev hev
    · cases hk
    · obtain ⟨_, _, cl, hcl, k1, _⟩ := (attempt_mem c e _ a hd ev h).call hk
      rw [hp] at hcl
      cases List.mem_singleton.mp hcl
      exact k1

/-- The endorsement path recorded with the commit is the canonical name: `Result` gets the cleaned
    basename (a clean local path: path.Clean leaves it alone, it neither is rooted nor climbs), "" in
    snapshot mode; and the endorsement's own path is never the manifest's. -/
theorem C14_result_paths (c : Cfg) (e : Entry) (budget : Int) (script : List Attempt)
    (hd : c.dryRun = false) :
    (∀ ev ∈ (retrySubmit c e budget script).1, ev.kind = .result →
      ev.arg = (if c.snapshot then "" else basename c.cand) ∧
      (c.snapshot = false → Paths.LocalClean (basename c.cand) ∧ Paths.pclean (basename c.cand) = basename c.cand)) ∧
    (nameOk c.cand = true → relOut c (basename c.cand) ≠ relOut c manifestFile) := by
  constructor
  · intro ev hev hk
    obtain ⟨j, ⟨b, rfl⟩ | ⟨a, _, h, _⟩⟩ := mem_retryLoop c e budget script 0 ev hev
    · cases hk
    · -- no error from the change function: the plan is the snapshot or all five calls
      obtain ⟨hie, harg⟩ := (attempt_mem c e _ a hd ev h).result hk
      rw [harg]
      rcases plan_cases c e a hd with ⟨hs, h⟩ | ⟨hs, ⟨_, h⟩ | ⟨_, h⟩ | ⟨_, hn, h⟩⟩ <;> rw [h] at hie ⊢
      · exact ⟨by rw [hs]; rfl, fun h' => nomatch hs.symm.trans h'⟩
      · cases hie
      · cases hie
      · exact ⟨by rw [hs]; rfl, fun _ => ⟨nameOk_local c.cand hn, (nameOk_local c.cand hn).pclean_eq⟩⟩
  · intro hn
    exact fullOut_ne_manifest ⟨.concat, c.root, c.outDir⟩ (nameOk_local c.cand hn) (basename_ne_manifestFile c.cand)

/-! ### non-vacuity: concrete runs that exercise the clauses -/

/-- uncanonical names everywhere (candidate "x/../sub//rc0", out dir "./out//"): a retriable commit failure,
    then success — both attempts work on the same cleaned paths and Result gets the canonical name. -/
example :
    let r := retrySubmit exCfgNames exEntryNames 1 [⟨some 6, true, .notFound, false⟩, ⟨none, false, .notFound, false⟩]
    r.2 = .ok ∧ attempts r.1 = 2 ∧
    (⟨0, .writeFiles, true, "R/out/sub/rc0.binarypb", []⟩ : Ev) ∈ r.1 ∧
    (⟨1, .writeFiles, true, "R/out/sub/rc0.binarypb", []⟩ : Ev) ∈ r.1 ∧
    (⟨1, .writeManifest, true, "R/out/manifest.textproto", [exEntryNames]⟩ : Ev) ∈ r.1 ∧
    evResult 1 true "sub/rc0.binarypb" ∈ r.1 := by
  decide +kernel

/-- a climbing name with --overwrite: one attempt that reads the manifest and stops; permanent error. -/
example :
    nameOk exCfgClimb.cand = false ∧
    retrySubmit exCfgClimb exEntry 3 [⟨none, false, .notFound, true⟩, ⟨none, false, .notFound, false⟩] =
      ([evGetOps 0 true, ⟨0, .readManifest, true, "R/out/manifest.textproto", []⟩, evDestroy 0, evRetriable 0 false], .err) := by
  decide +kernel

/-- budget 2: a retriable commit failure, then a retriable manifest-write failure while a concurrent
    writer has added `exOther2`, then success: three attempts, two destroys, one result, and the
    committed manifest keeps both foreign entries. -/
example :
    let script : List Attempt :=
      [⟨some 6, true, .ok [exOther], false⟩, ⟨some 5, true, .ok [exOther, exOther2], false⟩,
       ⟨none, false, .ok [exOther, exOther2], false⟩]
    let r := retrySubmit exCfg exEntry 2 script
    r.2 = .ok ∧ attempts r.1 = 3 ∧ r.1.count (evDestroy 0) = 1 ∧ r.1.count (evDestroy 1) = 1 ∧
    r.1.count (evDestroy 2) = 0 ∧ r.1.countP isResult = 1 ∧
    (⟨2, .writeManifest, true, "R/out/manifest.textproto", [exOther, exOther2, exEntry]⟩ : Ev) ∈ r.1 := by
  decide +kernel

/-- negative budget: exactly one attempt, then ErrNoRetries although the error was retriable;
    zero budget with a permanent error: one attempt and the error itself. -/
example :
    (retrySubmit exCfg exEntry (-2) [⟨some 0, true, .notFound, false⟩, ⟨none, true, .notFound, false⟩]).2 = .noRetries ∧
    attempts (retrySubmit exCfg exEntry (-2) [⟨some 0, true, .notFound, false⟩, ⟨none, true, .notFound, false⟩]).1 = 1 ∧
    (retrySubmit exCfg exEntry 0 [⟨some 3, false, .notFound, false⟩]).2 = .err ∧
    (retrySubmit exCfg exEntry 0 [⟨some 3, false, .notFound, false⟩]).1 =
      [evGetOps 0 true, ⟨0, .readManifest, true, "R/out/manifest.textproto", []⟩,
       ⟨0, .readFile, true, "R/out/rc0.binarypb", []⟩, ⟨0, .writeFiles, false, "R/out/rc0.binarypb", []⟩,
       evDestroy 0, evRetriable 0 false] := by
  decide +kernel

/-- the budget bound is tight: budget 1 with two retriable failures makes exactly 2 attempts. -/
example :
    attempts (retrySubmit exCfg exEntry 1 [⟨some 6, true, .notFound, false⟩, ⟨some 6, true, .notFound, false⟩,
      ⟨none, true, .notFound, false⟩]).1 = 2 := by
  decide +kernel

end GceTcb.Commit
