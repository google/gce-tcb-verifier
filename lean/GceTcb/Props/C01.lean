import GceTcb.Proofs.Verify
/-
C01 — Accepted endorsements are authentic: signature, chain and time.
Property theorems only (model: Model/Verify.lean, helper lemmas and `Authentic`: Proofs/Verify.lean).

All theorems hold for EVERY choice of the primitives (`Prims`: protobuf, X.509 parsing and path
validation, RSA-PSS verification, third-party report/quote validators, HTTP, files) — nothing is assumed
about them — and for every input of every entry point.  The model describes the repository with the
TdxValidate fix applied ("verify the endorsement before deriving the policy").
-/
namespace GceTcb.Verify
open GceTcb

variable {Cert Roots Time : Type}

/-- Whenever any entry point accepts, the endorsement it decided about exists, the caller's trust roots
    exist, and that endorsement is authentic for those roots at the caller's time: its payload
    unmarshals, the embedded certificate is non-empty, parses and chains to the caller's roots at the
    caller's time, and the signature is a PSS/SHA-256 signature by that certificate over exactly the
    payload bytes carried. -/
theorem C01_accept_authentic (P : Prims Cert Roots Time) (ep : EntryPoint) (inp : Input Roots Time ep)
    (h : run P ep inp = accept) :
    ∃ e r, endorsementUsed P ep inp = some e ∧ callerRoots P ep inp = some r ∧
      Authentic P e r (callerNow ep inp) := by
  cases ep with
  | endorsement =>
    obtain ⟨ser, o⟩ := inp
    obtain ⟨e, r, he, hr, ha⟩ := endorsement_accept P ser o h
    exact ⟨e, r, he, hr, ha⟩
  | endorsementProto =>
    obtain ⟨e, o⟩ := inp
    obtain ⟨r, hr, ha⟩ := endorsementProto_accept P e o h
    exact ⟨e, r, rfl, hr, ha⟩
  | snpClosure =>
    obtain ⟨a, e, hatt, hacc, hsel⟩ := snpClosure_accept P _ _ _ _ h
    obtain ⟨r, hr, ha⟩ := endorsementProto_accept P e _ hacc
    rcases hsel with hsel | ⟨_, s, hs, hu⟩
    · cases hsel  -- `run` clears `opts.endorsement` for this entry point
    · refine ⟨e, r, ?_, hr, ha⟩
      simp only [endorsementUsed, hatt, hs, hu]
  | snpClosurePre =>
    obtain ⟨i, e0⟩ := inp
    obtain ⟨a, e, _, hacc, hsel⟩ := snpClosure_accept P _ _ _ _ h
    obtain ⟨r, hr, ha⟩ := endorsementProto_accept P e _ hacc
    rcases hsel with hsel | ⟨hn, _⟩
    · cases hsel
      exact ⟨e0, r, rfl, hr, ha⟩
    · cases hn
  | sevValidate =>
    obtain ⟨att, o⟩ := inp
    obtain ⟨e, r, he, hr, ha⟩ := sevValidate_accept P att o h
    exact ⟨e, r, congrArg exceptToOption he, hr, ha⟩
  | tdxValidate =>
    obtain ⟨parse, bytes, o⟩ := inp
    obtain ⟨e, r, he, hr, ha⟩ := tdxValidate_accept P parse bytes o h
    exact ⟨e, r, congrArg exceptToOption he, hr, ha⟩
  | cliVerify =>
    obtain ⟨b, path, root⟩ := inp
    obtain ⟨e, r, he, hr, ha⟩ := cliVerify_accept P b path root h
    exact ⟨e, r, congrArg exceptToOption he, congrArg exceptToOption hr, ha⟩
  | cliSevValidate =>
    obtain ⟨parse, b, a⟩ := inp
    obtain ⟨content, oe, rot, sa, hcontent, hoe, hrot, hsa, hv⟩ := cliSevValidate_accept P parse b a h
    obtain ⟨e, r, he, hr, ha⟩ := sevValidate_accept P _ _ hv
    cases hr
    refine ⟨e, rot, ?_, congrArg exceptToOption hrot, ha⟩
    simp only [endorsementUsed, hcontent, hoe, hrot, hsa]
    exact congrArg exceptToOption he
  | cliTdxValidate =>
    obtain ⟨parse, b, a⟩ := inp
    obtain ⟨content, oe, rot, hcontent, hoe, hrot, hv⟩ := cliTdxValidate_accept P parse b a h
    obtain ⟨e, r, he, hr, ha⟩ := tdxValidate_accept P _ _ _ hv
    cases hr
    refine ⟨e, rot, ?_, congrArg exceptToOption hrot, ha⟩
    -- `tdxEndorsement` does not look at the roots
    simp only [endorsementUsed, hcontent, hoe]
    exact congrArg exceptToOption he

/-- "No change to payload, signature, certificate, root set or time that breaks any of these is ever
    accepted": if the endorsement an entry point decides about is not authentic for the caller's roots
    at the caller's time (or there is no such endorsement, or no roots), the entry point does not accept. -/
theorem C01_not_authentic_rejected (P : Prims Cert Roots Time) (ep : EntryPoint) (inp : Input Roots Time ep)
    (hna : ∀ e r, endorsementUsed P ep inp = some e → callerRoots P ep inp = some r →
      ¬ Authentic P e r (callerNow ep inp)) :
    run P ep inp ≠ accept := by
  intro h
  obtain ⟨e, r, he, hr, ha⟩ := C01_accept_authentic P ep inp h
  exact hna e r he hr ha

/-- Each single broken clause suffices (library verifier, spelled out): a payload that does not
    unmarshal, an empty or unparsable certificate, a chain that does not verify against the caller's
    roots at the caller's time, or a signature that does not verify over the carried bytes. -/
theorem C01_broken_clause_rejected (P : Prims Cert Roots Time) (e : Endorsement) (o : Options Roots Time)
    (hbroken :
      P.unmarshalGolden e.payload = none ∨
      (∃ g, P.unmarshalGolden e.payload = some g ∧
        (g.cert = [] ∨ o.roots = none ∨ P.parseCert g.cert = none ∨
         (∃ c r, P.parseCert g.cert = some c ∧ o.roots = some r ∧
            (P.verifyChain c r o.now = false ∨ P.checkSigPss256 c e.payload e.signature = false))))) :
    endorsementProto P e o ≠ accept := by
  intro h
  obtain ⟨r, hr, g, c, hg, hne, hp, hv, hs⟩ := endorsementProto_accept P e o h
  rcases hbroken with hb | ⟨g', hg', hb⟩
  · simp [hb] at hg
  · rw [hg] at hg'
    cases hg'
    rcases hb with hb | hb | hb | ⟨c', r', hc', hr', hb⟩
    · exact hne hb
    · simp [hb] at hr
    · simp [hb] at hp
    · rw [hp] at hc'
      cases hc'
      rw [hr] at hr'
      cases hr'
      rcases hb with hb | hb
      · simp [hb] at hv
      · simp [hb] at hs

/-- Order of checks: nothing of the golden measurement other than timestamp, cl_spec, commit and cert
    influences the outcome before the signature check.  Two parses of the payload that agree on those
    four fields and differ arbitrarily elsewhere (digest, SEV-SNP and TDX measurements, every other
    field) give the same result — same error class, same panic — whenever the signature over the payload
    does not verify under the embedded certificate. -/
theorem C01_nothing_trusted_before_sig (P : Prims Cert Roots Time) (e : Endorsement) (o : Options Roots Time)
    (g1 g2 : Golden)
    (hts : g1.timestamp = g2.timestamp) (hcl : g1.clSpec = g2.clSpec) (hcm : g1.commit = g2.commit)
    (hcert : g1.cert = g2.cert)
    (hsig : ∀ c, P.parseCert g1.cert = some c → P.checkSigPss256 c e.payload e.signature = false) :
    endorsementProto { P with unmarshalGolden := fun _ => some g1 } e o =
    endorsementProto { P with unmarshalGolden := fun _ => some g2 } e o := by
  have hb : beforeSignature { P with unmarshalGolden := fun _ => some g2 } g2.timestamp g2.clSpec g2.commit g2.cert o
      = beforeSignature { P with unmarshalGolden := fun _ => some g1 } g1.timestamp g1.clSpec g1.commit g1.cert o := by
    rw [← hts, ← hcl, ← hcm, ← hcert]; rfl
  simp only [endorsementProto, verifySigned, hb]
  cases hc : beforeSignature { P with unmarshalGolden := fun _ => some g1 } g1.timestamp g1.clSpec g1.commit g1.cert o with
  | panic s => rfl
  | err c => rfl
  | ok c =>
    obtain ⟨_, _, _, hp, _⟩ := checkCertificate_ok _ _ _ _ _ (beforeSignature_ok _ _ _ _ _ _ _ hc)
    have := hsig c hp
    simp [this]

/-- The same for TDX validation: the policy and quote checks (which read the golden measurement's TDX
    rows) are consulted only after the endorsement verified; when verification fails the result is that
    failure whatever those primitives say. -/
theorem C01_tdx_policy_after_verification (P : Prims Cert Roots Time) (parse : Bytes → Option TeeAttestation)
    (bytes : Bytes) (o : TdxValidateOptions Roots Time) (q : Nat) (e : Endorsement)
    (hq : parse bytes = some (.tdx q)) (he : tdxEndorsement P bytes o = .ok e)
    (hv : endorsementProto P e (tdxVerifyOpts o) ≠ accept)
    (pol : Endorsement → Nat → Bool → Nat → Option Nat) (qc : Nat → Nat → Bool) :
    tdxValidate { P with tdxPolicyOptions := pol, tdxQuoteChecks := qc } parse bytes o =
      endorsementProto P e (tdxVerifyOpts o) := by
  have he' : tdxEndorsement { P with tdxPolicyOptions := pol, tdxQuoteChecks := qc } bytes o = .ok e := he
  have hep : endorsementProto { P with tdxPolicyOptions := pol, tdxQuoteChecks := qc } e (tdxVerifyOpts o)
      = endorsementProto P e (tdxVerifyOpts o) := rfl
  simp only [tdxValidate, hq, he', hep]
  cases hres : endorsementProto P e (tdxVerifyOpts o) with
  | panic s => rfl
  | err c => rfl
  | ok u => cases u; exact absurd hres hv

/-- Signer-side self check (sign/ops.VerifySignatureFromCA): acceptance means the key's certificate
    chains to the CA's own pool at `now` and made a PSS/SHA-256 signature over exactly `message`. -/
theorem C01_ops_accept_authentic (P : Prims Cert Roots Time) (cert : Option Cert) (pool : Option Roots)
    (now : Time) (message signature : Bytes)
    (h : opsVerifySignatureFromCA P cert pool now message signature = accept) :
    ∃ c r, cert = some c ∧ pool = some r ∧ P.verifyChain c r now = true ∧
      P.checkSigPss256 c message signature = true := by
  unfold opsVerifySignatureFromCA at h
  split at h
  · cases h
  · rename_i c
    split at h
    · cases h
    · rename_i r
      split at h
      · cases h
      · rename_i hv
        split at h
        · cases h
        · rename_i hs
          exact ⟨c, r, rfl, rfl, by simpa using hv, by simpa using hs⟩

open Example in
/-- Non-vacuity: the library verifier, the closure, SevValidate, TdxValidate and `gcetcbendorsement verify` accept the
    genuine endorsement at a time inside the validity window … -/
example :
    run P .endorsement ([0xE0], opts 150) = accept ∧
    run P .snpClosure ⟨gceUefiFamilyID, opts 150, some att, some [0xE0]⟩ = accept ∧
    run P .sevValidate (some att, ⟨none, 0, false, some "caller-roots", 150, none, 0, false⟩) = accept ∧
    run P .tdxValidate (fun _ => some (.tdx 5), [1], ⟨some ⟨[0xA0], [0x5A]⟩, 0, false, some "caller-roots", 150, 0⟩)
      = accept ∧
    run P .cliVerify (⟨fun p => if p == "e" then some [0xE0] else if p == "r" then some [0x52] else none,
      none, 150⟩, "e", "r") = accept := by
  decide +kernel

open Example in
/-- … and reject its single-fault neighbours: a time outside the window, a flipped signature, a foreign
    root set, no root set, an unendorsed measurement, a TDX endorsement with a flipped signature. -/
example :
    run P .endorsement ([0xE0], opts 201) = reject "chain" ∧
    run P .endorsementProto (⟨[0xA0], [0x5B]⟩, opts 150) = reject "signature" ∧
    run P .endorsement ([0xE0], { opts 150 with roots := some "other-roots" }) = reject "chain" ∧
    run P .endorsement ([0xE0], { opts 150 with roots := none }) = reject "no-roots" ∧
    run P .snpClosure ⟨gceUefiFamilyID, opts 150, some { att with measurement := List.replicate 48 8 },
      some [0xE0]⟩ = reject "snp:measurement-not-listed" ∧
    run P .tdxValidate (fun _ => some (.tdx 5), [1], ⟨some ⟨[0xA0], [0x5B]⟩, 0, false, some "caller-roots", 150, 0⟩)
      = reject "signature" := by
  decide +kernel

open Example in
/-- What the fix repairs: TdxValidate as it was before (no verification before deriving the policy)
    accepts the genuine payload with a flipped signature, under an unrelated root set, at a time outside
    the certificate's validity — an endorsement that is not authentic; the repaired function rejects it. -/
theorem C01_tdx_unverified_witness :
    tdxValidateUnverified P (fun _ => some (.tdx 5)) [1]
      ⟨some ⟨[0xA0], [0x5B]⟩, 0, false, some "other-roots", 999, 0⟩ = accept ∧
    ¬ Authentic P ⟨[0xA0], [0x5B]⟩ "other-roots" 999 ∧
    tdxValidate P (fun _ => some (.tdx 5)) [1]
      ⟨some ⟨[0xA0], [0x5B]⟩, 0, false, some "other-roots", 999, 0⟩ = reject "chain" := by
  refine ⟨by decide +kernel, ?_, by decide +kernel⟩
  rintro ⟨g, c, _, _, _, hv, _⟩
  simp only [P, Bool.and_eq_true, beq_iff_eq] at hv
  exact absurd hv.1.2 (by decide)

open Example in
/-- `Authentic` is satisfiable and not trivially true. -/
example : Authentic P ⟨[0xA0], [0x5A]⟩ "caller-roots" 150 ∧ ¬ Authentic P ⟨[0xA0], [0x5B]⟩ "caller-roots" 150 := by
  refine ⟨⟨goodGolden, 1, by decide +kernel, by decide +kernel, by decide +kernel, by decide +kernel, by decide +kernel⟩, ?_⟩
  -- whatever the certificate, the fake checker refuses the flipped signature
  rintro ⟨_, c, _, _, _, _, hs⟩
  simp only [P, Bool.and_eq_true, beq_iff_eq] at hs
  exact absurd hs.2 (by decide)

end GceTcb.Verify
