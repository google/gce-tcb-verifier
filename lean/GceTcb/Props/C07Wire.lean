import GceTcb.Props.C07Dec
import GceTcb.Proofs.DecWire
/-
C07, verifier-glue half (continued) — protobuf unmarshalling of the endorsement inside the theorems.

`Props/C07Dec.lean` quantifies over every `Parsers` value; the totality and cost of the decoders
themselves are "measured, not proved", and the linear bounds assume `SizeLaw`.  Here the two protobuf
parsers of the endorsement (container, golden measurement) are the Lean wire codec
(`Model/ProtoWire.lean`; tied to google.golang.org/protobuf by stream `c03proto`, and through
verify.Endorsement itself by streams `c01wire` / `c07wire`), mapped into the model's parse shapes with the
nil-ness Go's Unmarshal leaves (`Model/DecWire.lean`).  For this instance:

  (a) no panic: verify.Endorsement end to end, for ALL byte strings (`C07_dec_wire_no_panic_Endorsement`);
      the codec itself is a total function whose loops run on fuel that is never exhausted
      (C03_proto_fuel_fields / _groups), so `none` is always "malformed", never "gave up";
  (b) cost, the unmarshalling INCLUDED: the instrumented decoders — proved to return exactly what the plain
      ones return — perform at most one loop iteration per input byte over ALL nesting levels together and
      allocate at most K·|input| (K = bytes per heap object), on accepted and on rejected inputs alike
      (`C07_dec_wire_unmarshal_cost_*`); the size law holds (`C07_dec_wire_size_law`), so
      `C07_dec_linear_Endorsement` holds without `SizeLaw` (`C07_dec_wire_linear_Endorsement_glue`) and
      verify.Endorsement as a whole costs at most (K + 4)·|input| (`C07_dec_wire_linear_Endorsement`);
  (c) the shapes: which inputs leave a nil message pointer, a nil map, and that an empty `bytes` field is
      indistinguishable from an absent one (`C07_dec_wire_shape_*`).

Still parameters (every theorem holds for all their values): crypto/x509 parsing and chain building,
RSA-PSS verification, go-sev-guest / go-tdx-guest decoders and validators, pem, hex / base64, parsepath.
-/
namespace GceTcb.C07Wire
open GceTcb GceTcb.ProtoWire GceTcb.DecTotal GceTcb.DecWire GceTcb.C07Dec

variable {Cert Roots Time : Type}

/-! ## (a) no panic -/

/-- verify.Endorsement, unmarshalling included: no byte string makes it panic -/
theorem C07_dec_wire_no_panic_Endorsement (K : Nat) (P : Parsers Cert Roots Time) (ser : Bytes)
    (o : Options Roots Time) : NoPanic (endorsementE2E K P ser (some o)) :=
  C07_dec_no_panic_Endorsement (wireParsers P) ser o

/-- the outcome is the glue model's outcome for the codec instance (the trace is what is added) -/
theorem C07_dec_wire_e2e_out (K : Nat) (P : Parsers Cert Roots Time) (ser : Bytes) (o : Option (Options Roots Time)) :
    (endorsementE2E K P ser o).out = (endorsement (wireParsers P) ser o).out := rfl

/-- the other entry points that unmarshal an endorsement: instances of the general theorems -/
theorem C07_dec_wire_no_panic_others (P : Parsers Cert Roots Time) :
    (∀ e o, NoPanic (endorsementProto (wireParsers P) (some e) (some o))) ∧
    (∀ o att ser, NoPanic (snpClosure (wireParsers P) (some o) att ser)) ∧
    (∀ e o, NoPanic (sevPolicy (wireParsers P) e (some o))) ∧
    (∀ e o, NoPanic (tdxPolicy (wireParsers P) e (some o))) ∧
    (∀ att o, NoPanic (sevValidate (wireParsers P) att (some o))) ∧
    (∀ b o, NoPanic (tdxValidate (wireParsers P) b (some o))) ∧
    (∀ i e paths, NoPanic (inspectMask (wireParsers P) (some (some i)) (some e) paths)) :=
  ⟨fun e o => C07_dec_no_panic_EndorsementProto _ e o, fun o att ser => C07_dec_no_panic_SNPValidateFunc _ o att ser,
   fun e o => C07_dec_no_panic_SevPolicy _ e o, fun e o => C07_dec_no_panic_TdxPolicy _ e o,
   fun att o => C07_dec_no_panic_SevValidate _ att o, fun b o => C07_dec_no_panic_TdxValidate _ b o,
   fun i e paths => C07_dec_no_panic_InspectMask _ i e paths⟩

/-! ## (b) cost of the unmarshalling -/

/-- the instrumented decoders decide and return exactly what the plain decoders do -/
theorem C07_dec_wire_unmarshal_same (K : Nat) (b : Bytes) :
    (decodeGoldenM K b).out = toOut (decodeGolden b) ∧ (decodeEndorsementM b).out = toOut (decodeEndorsement b) :=
  ⟨decodeIntoM_out stepGolden _ _ b, decodeIntoM_out stepEndorsement _ _ b⟩

theorem C07_dec_wire_unmarshal_same_nested (K : Nat) (b : Bytes) :
    (∀ m, (decodeSevSnpIntoM K m b).out = toOut (decodeSevSnpInto m b)) ∧
    (∀ m, (decodeTdxIntoM K m b).out = toOut (decodeTdxInto m b)) ∧
    (∀ m, (decodeTimestampIntoM m b).out = toOut (decodeTimestampInto m b)) ∧
    (decodeRowM b).out = toOut (decodeRow b) ∧ (decodeEntryM b).out = toOut (decodeEntry b) :=
  ⟨fun m => decodeIntoM_out stepSevSnp _ m b, fun m => decodeIntoM_out stepTdx _ m b,
   fun m => decodeIntoM_out stepTimestamp _ m b, decodeIntoM_out stepRow _ _ b, decodeIntoM_out stepEntry _ _ b⟩

/-- every field read occupies at least the bytes of its canonical re-encoding (a canonical tag is never
    longer than the tag on the wire), so what is kept of unknown fields never exceeds the input -/
theorem C07_dec_wire_field_weight (b : Bytes) (f : Field) (r : Bytes) (h : readField b = some (f, r)) :
    f.unknownBytes.length + r.length ≤ b.length ∧ (∀ p, f.val = .len p → p.length + 2 ≤ f.unknownBytes.length) :=
  readField_weight b f r h

/-- proto.Unmarshal into VMGoldenMeasurement, all nesting levels together (timestamp, sev_snp and its map
    entries, tdx and its rows): at most one loop iteration per input byte, at most K·|input| bytes
    allocated — for EVERY byte string, also when the input is rejected half-way. -/
theorem C07_dec_wire_unmarshal_cost_golden (K : Nat) (hK : 1 ≤ K) (b : Bytes) :
    (decodeGoldenM K b).tr.ticks ≤ b.length ∧ (decodeGoldenM K b).tr.alloc ≤ K * b.length :=
  decodeIntoM_cost _ K _ b (costGolden_ok hK)

/-- proto.Unmarshal into VMLaunchEndorsement: at most |input| iterations and |input| bytes copied -/
theorem C07_dec_wire_unmarshal_cost_endorsement (b : Bytes) :
    (decodeEndorsementM b).tr.ticks ≤ b.length ∧ (decodeEndorsementM b).tr.alloc ≤ b.length :=
  by simpa [decodeEndorsementM] using decodeIntoM_cost (stepWith stepEndorsement costEndorsement) 1 .zero b costEndorsement_ok

/-- nested decoders, each started from any message already held (merge) -/
theorem C07_dec_wire_unmarshal_cost_nested (K : Nat) (hK : 1 ≤ K) (b : Bytes) :
    (∀ m, (decodeSevSnpIntoM K m b).tr.ticks ≤ b.length ∧ (decodeSevSnpIntoM K m b).tr.alloc ≤ K * b.length) ∧
    (∀ m, (decodeTdxIntoM K m b).tr.ticks ≤ b.length ∧ (decodeTdxIntoM K m b).tr.alloc ≤ K * b.length) ∧
    (∀ m, (decodeTimestampIntoM m b).tr.ticks ≤ b.length ∧ (decodeTimestampIntoM m b).tr.alloc ≤ K * b.length) :=
  ⟨fun m => decodeIntoM_cost _ K m b (costSevSnp_ok hK), fun m => decodeIntoM_cost _ K m b (costTdx_ok hK),
   fun m => decodeIntoM_cost _ K m b fun m f _ => costTimestamp_ok hK m f⟩

/-- The size of the decoded structure, as a statement about the decoded VALUE alone (independent of the cost
    accounting): the bytes held by every byte-string field and every unknown-field buffer at every nesting
    level, plus one per heap object (embedded message, TDX row, map entry), are at most the number of input
    bytes — no additive constant.  With objects of at most K bytes: the structure occupies ≤ K·|input|. -/
theorem C07_dec_wire_structure_size (b : Bytes) :
    (∀ g, decodeGolden b = some g → heldGolden g ≤ b.length) ∧
    (∀ e, decodeEndorsement b = some e → heldEndorsement e ≤ b.length) :=
  ⟨fun g h => decodeGolden_held b g h, fun e h => decodeEndorsement_held b e h⟩

theorem C07_dec_wire_nMeas (g : WGolden) : nMeas (pGoldenOfWire g) = (g.sevSnp.map (·.measurements.length)).getD 0 := by
  unfold nMeas pGoldenOfWire
  cases g.sevSnp with
  | none => rfl
  | some s =>
    simp only [Option.map_some, Option.bind_some, pSevOfWire, Option.getD_some]
    cases hm : s.measurements <;> simp

theorem C07_dec_wire_nRows (g : WGolden) : nRows (pGoldenOfWire g) = (g.tdx.map (·.measurements.length)).getD 0 := by
  unfold nRows pGoldenOfWire
  cases g.tdx with
  | none => rfl
  | some d => simp [pTdxOfWire]

/-- The size law of `C07Dec.SizeLaw`, proved for the codec: a decoded golden measurement has no more map
    entries and rows than its encoding has bytes; the payload (and signature) a container carries is no
    longer than the container. -/
theorem C07_dec_wire_size_law (P : Parsers Cert Roots Time) :
    (∀ b g, (wireParsers P).unmarshalGolden b = some g → nMeas g + nRows g ≤ b.length) ∧
    (∀ b e, (wireParsers P).unmarshalEndorsement b = some e → e.payload.length ≤ b.length ∧
      e.signature.length ≤ b.length) := by
  constructor
  · intro b g h
    have h' : (decodeGolden b).map pGoldenOfWire = some g := h
    obtain ⟨w, hw, rfl⟩ := Option.map_eq_some_iff.mp h'
    have := decodeGolden_entriesRows b w hw
    rw [C07_dec_wire_nMeas, C07_dec_wire_nRows]
    exact this
  · intro b e h
    have h' : (decodeEndorsement b).map pEndorsementOfWire = some e := h
    obtain ⟨w, hw, rfl⟩ := Option.map_eq_some_iff.mp h'
    exact decodeEndorsement_sizes b w hw

/-- `C07_dec_linear_Endorsement` without the `SizeLaw` hypothesis: the glue's own cost ≤ 1·|input| + 0 -/
theorem C07_dec_wire_linear_Endorsement_glue (P : Parsers Cert Roots Time) (ser : Bytes) (o : Options Roots Time) :
    CostLe (endorsement (wireParsers P) ser (some o)) (1 * ser.length + 0) :=
  linear_endorsement_of (wireParsers P)
    (fun b g h => Nat.le_trans (Nat.le_add_right _ _) ((C07_dec_wire_size_law P).1 b g h))
    (fun b e h => ((C07_dec_wire_size_law P).2 b e h).1) ser o

/-- … likewise `C07_dec_linear_TdxPolicy`: cost ≤ 2·|payload| -/
theorem C07_dec_wire_linear_TdxPolicy (P : Parsers Cert Roots Time) (e : PEndorsement) (o : TdxPolicyOptions) :
    CostLe (tdxPolicy (wireParsers P) (some e) (some o)) (2 * e.payload.length + 0) :=
  linear_tdxPolicy_of (wireParsers P)
    (fun b g h => Nat.le_trans (Nat.le_add_left _ _) ((C07_dec_wire_size_law P).1 b g h)) e o

theorem C07_dec_wire_unmarshal_trace_cost (K : Nat) (hK : 1 ≤ K) (ser : Bytes) :
    (unmarshalTrace K ser).ticks ≤ 2 * ser.length ∧ (unmarshalTrace K ser).alloc ≤ (K + 1) * ser.length := by
  obtain ⟨c1, c2⟩ := C07_dec_wire_unmarshal_cost_endorsement ser
  have ho := (C07_dec_wire_unmarshal_same K ser).2
  unfold unmarshalTrace
  cases hd : decodeEndorsement ser with
  | none =>
    simp only [ho, hd, toOut]
    have : ser.length ≤ (K + 1) * ser.length := Nat.le_mul_of_pos_left _ (Nat.succ_pos K)
    omega
  | some e =>
    simp only [ho, hd, toOut, Trace.add]
    obtain ⟨g1, g2⟩ := C07_dec_wire_unmarshal_cost_golden K hK e.serializedUefiGolden
    have hsz := (decodeEndorsement_sizes ser e hd).1
    have := Nat.mul_le_mul_left K hsz
    rw [Nat.add_mul, Nat.one_mul]
    omega

/-- (b) verify.Endorsement END TO END — both Unmarshal calls and the glue — for every byte string, every
    value of the remaining parsers and every options value: at most 3·|input| loop iterations, at most
    (K + 1)·|input| bytes allocated by the unmarshalling plus what the glue allocates; in the cost measure
    of `C07Dec` (iterations + allocation) at most (K + 4)·|input|. -/
theorem C07_dec_wire_linear_Endorsement (K : Nat) (hK : 1 ≤ K) (P : Parsers Cert Roots Time) (ser : Bytes)
    (o : Options Roots Time) :
    (endorsementE2E K P ser (some o)).tr.ticks ≤ 3 * ser.length ∧
    CostLe (endorsementE2E K P ser (some o)) ((K + 4) * ser.length) := by
  obtain ⟨u1, u2⟩ := C07_dec_wire_unmarshal_trace_cost K hK ser
  have hg := C07_dec_wire_linear_Endorsement_glue P ser o
  unfold CostLe Trace.cost at hg ⊢
  simp only [endorsementE2E, Trace.add]
  rw [Nat.add_mul] at u2 ⊢
  constructor <;> omega

/-! ## (c) the shapes Unmarshal leaves -/

/-- an embedded message is a nil pointer exactly when the input has no length-delimited field with its
    number (timestamp = 1, sev_snp = 7, tdx = 8); an occurrence with EMPTY contents gives a non-nil message -/
theorem C07_dec_wire_shape_absent_message (b : Bytes) (g : WGolden) (fs : List Field)
    (hp : parseFields b = some fs) (h : decodeGolden b = some g) :
    ((pGoldenOfWire g).timestamp.isSome = hasLen 1 fs) ∧ ((pGoldenOfWire g).sevSnp.isSome = hasLen 7 fs) ∧
    ((pGoldenOfWire g).tdx.isSome = hasLen 8 fs) := by
  obtain ⟨_, _, _, _, h1, h7, h8⟩ := decodeGolden_last b g fs hp h
  simp only [pGoldenOfWire, Option.isSome_map]
  exact ⟨h1, h7, h8⟩

/-- the measurement map is nil exactly when it has no entry; TDX rows are never nil pointers -/
theorem C07_dec_wire_shape_map_rows (s : WSevSnp) (d : WTdx) :
    ((pSevOfWire s).measurements = none ↔ s.measurements = []) ∧
    (∀ m, (pSevOfWire s).measurements = some m → m = s.measurements ∧ m ≠ []) ∧
    (∀ r ∈ (pTdxOfWire d).rows, r.isSome) := by
  refine ⟨?_, ?_, ?_⟩
  · unfold pSevOfWire
    cases hm : s.measurements <;> simp
  · intro m hm
    unfold pSevOfWire at hm
    cases hs : s.measurements with
    | nil => simp [hs] at hm
    | cons x xs =>
      simp only [hs, List.isEmpty_cons, Bool.false_eq_true, if_false, Option.some.injEq] at hm
      subst hm
      exact ⟨rfl, by simp⟩
  · intro r hr
    simp only [pTdxOfWire, List.mem_map] at hr
    obtain ⟨x, _, rfl⟩ := hr
    rfl

/-- A `bytes` field that is present with no contents is the same as an absent one: appending `22 00`
    (cert, length 0) — or the like for commit 1a, digest 2a — to a payload whose field is empty changes
    nothing in the decoded record.  (After a NON-empty occurrence it resets the field: last wins.) -/
theorem C07_dec_wire_shape_empty_bytes (b : Bytes) (g : WGolden) (h : decodeGolden b = some g) :
    (g.commit = [] → decodeGolden (b ++ [0x1a, 0x00]) = some g) ∧
    (g.cert = [] → decodeGolden (b ++ [0x22, 0x00]) = some g) ∧
    (g.digest = [] → decodeGolden (b ++ [0x2a, 0x00]) = some g) ∧
    (decodeGolden (b ++ [0x22, 0x00])).map (·.cert) = some [] := by
  obtain ⟨fa, hp, _⟩ := decodeInto_parses stepGolden .zero g b h
  -- what follows `b` is unmarshalled into `g`; each of the three suffixes is one field
  have key : ∀ u f, parseFields u = some [f] → decodeGolden (b ++ u) = stepGolden g f := by
    intro u f hu
    rw [decodeGolden, decodeInto_append stepGolden .zero g b u fa hp h, decodeInto, hu]
    simp only [foldFields]
    cases stepGolden g f <;> rfl
  have p1 : parseFields [0x1a, 0x00] = some [⟨3, .len [], [0]⟩] := by decide
  have p2 : parseFields [0x22, 0x00] = some [⟨4, .len [], [0]⟩] := by decide
  have p3 : parseFields [0x2a, 0x00] = some [⟨5, .len [], [0]⟩] := by decide
  refine ⟨?_, ?_, ?_, ?_⟩
  · intro he
    rw [key _ _ p1]
    cases g; cases he; rfl
  · intro he
    rw [key _ _ p2]
    cases g; cases he; rfl
  · intro he
    rw [key _ _ p3]
    cases g; cases he; rfl
  · rw [key _ _ p2]; rfl

/-- a 55-byte payload: timestamp, cl_spec, certificate, digest, two map entries (listed 2 then 1), one row -/
def samplePayload : Bytes :=
  [0x0a, 0x08, 0x08, 0x80, 0xdd, 0xce, 0xb6, 0x06, 0x10, 0x05, 0x10, 0x07, 0x22, 0x01, 0xc0, 0x2a, 0x03, 0xd1, 0xd2,
   0xd3, 0x3a, 0x14, 0x08, 0x03, 0x12, 0x05, 0x08, 0x02, 0x12, 0x01, 0xaa, 0x12, 0x05, 0x08, 0x01, 0x12, 0x01, 0xbb, 0x28,
   0x80, 0x80, 0x0c, 0x42, 0x0b, 0x08, 0x01, 0x12, 0x07, 0x08, 0x10, 0x10, 0x01, 0x1a, 0x01, 0xcc]

def sampleContainer : Bytes := encodeEndorsement ⟨samplePayload, [0x5a, 0x5b], []⟩

/-- the instrumented decoders on the sample: 6 top-level fields + 2 (timestamp) + 4 (sev_snp) + 2·2 (map entries)
    + 2 (tdx) + 3 (row) = 21 iterations ≤ 55 bytes; 6 objects of 64 bytes + 7 bytes copied -/
example : (decodeGoldenM 64 samplePayload).out = toOut (decodeGolden samplePayload) ∧
    (decodeGoldenM 64 samplePayload).tr.ticks = 21 ∧ (decodeGoldenM 64 samplePayload).tr.alloc = 391 ∧
    samplePayload.length = 55 := by decide +kernel

/-- a rejected input is charged for the work done before the malformed field: three fields, then a
    truncated length-delimited field -/
example : (decodeGoldenM 64 [0x10, 0x07, 0x22, 0x01, 0xc0, 0x2a, 0x01, 0xd1, 0x3a, 0x05, 0x08]).out = .err "wire" ∧
    (decodeGoldenM 64 [0x10, 0x07, 0x22, 0x01, 0xc0, 0x2a, 0x01, 0xd1, 0x3a, 0x05, 0x08]).tr.ticks = 3 ∧
    (decodeGoldenM 64 [0x10, 0x07, 0x22, 0x01, 0xc0, 0x2a, 0x01, 0xd1, 0x3a, 0x05, 0x08]).tr.alloc = 2 := by
  decide +kernel

/-- the row bomb: n two-byte fields `12 00` inside tdx are n rows — n objects from 2n + 4 bytes, the worst
    ratio the format allows; the bound K·|input| is within a factor 2 of it -/
example : (decodeGoldenM 64 [0x42, 0x06, 0x12, 0x00, 0x12, 0x00, 0x12, 0x00]).tr.alloc = 64 + 3 * 64 ∧
    ((decodeGolden [0x42, 0x06, 0x12, 0x00, 0x12, 0x00, 0x12, 0x00]).map (fun g => nRows (pGoldenOfWire g))) = some 3 := by
  decide +kernel

/-- the decoded sample holds 7 bytes in 6 objects: 13 ≤ 55 -/
example : (decodeGolden samplePayload).map heldGolden = some 13 := by decide +kernel

/-- shapes: `3a 00` is a present, empty VMSevSnp whose map is nil; no field 7 is a nil VMSevSnp -/
example : (decodeGolden [0x3a, 0x00]).map (fun g => (pGoldenOfWire g).sevSnp) = some (some ⟨0, 0, none, [], []⟩) ∧
    (decodeGolden [0x10, 0x07]).map (fun g => (pGoldenOfWire g).sevSnp) = some none := by decide +kernel

/-- parsers that know the sample certificate and signature -/
def sampleParsers : Parsers Unit Unit Unit :=
  { C07Dec.deepParsers with
    parseCert := fun b => if b == [0xc0] then some () else none
    checkSig := fun _ m s => m == samplePayload && s == [0x5a, 0x5b] }

def sampleOptions : Options Unit Unit :=
  { snp := some ⟨some [0xaa], 2⟩, roots := some (), expectedUefiSha384 := [0xd1, 0xd2, 0xd3], now := (),
    endorsement := none, getter := none }

/-- end to end on the sample container: accepted; 61 input bytes, 2 + 21 + 0 iterations -/
example : (endorsementE2E 64 sampleParsers sampleContainer (some sampleOptions)).out = .ok () ∧
    (endorsementE2E 64 sampleParsers sampleContainer (some sampleOptions)).tr.ticks = 23 ∧
    sampleContainer.length = 61 := by decide +kernel

/-- … and rejected (at the signature) with one payload byte changed, after the same unmarshalling work -/
example : (endorsementE2E 64 sampleParsers (encodeEndorsement ⟨samplePayload.set 11 8, [0x5a, 0x5b], []⟩)
    (some sampleOptions)).out = .err "signature" := by decide +kernel

end GceTcb.C07Wire
