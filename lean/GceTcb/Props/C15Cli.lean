import GceTcb.Proofs.EndorseCli
import GceTcb.Props.C15
import GceTcb.Props.C06Cli
/-
C15 at the command line — `endorse --dry_run` and `endorse --measurement_only` have no side effects, and a
refused command line has none either.

`cliRun P Pr T E fl keys vcs vcss` (Model/EndorseCli.lean) is the whole command: flag values `fl`, file
system and environment `E` → flag parsing, PersistentPreRunE, InitContext (`ecOf`) → the pipeline model
`VF.virtualFirmware` of C15 on the request built from the resulting endorse.Context.  Effects are the calls on
the CertificateAuthority, the Signer, every VersionControl and its workspaces, and lines on standard output.
The theorems hold for every command line, file system, environment, parameter, key material, set of back ends
and back-end behaviour.
-/
namespace GceTcb.EndorseCli
open GceTcb GceTcb.Endorse GceTcb.VF GceTcb.Commit

/-- `--dry_run`, `--measurement_only`, `--snapshot_dir`, `--candidate_name`, `--overwrite`, `--commit_retries`,
    `--out_dir` … are registered with the names, defaults and destinations the model assumes: the model's
    flag table is the one regenerated from the source on this run. -/
theorem C15_cli_flag_table : flagTable = Gen.EndorseFlags.flags := C06_cli_flag_table

/-- The modelled functions (PersistentPreRunE, InitContext, scrtmMain, the flag Set methods) and the order of
    the composition `Compose(app.Global, endorseCommand, app.Endorse)` / `ComposeRun(cmp,
    endorse.VirtualFirmware)` are the ones the model was written from. -/
theorem C15_cli_source_skeleton :
    Skeleton.preRunSteps = Gen.EndorseFlags.preRunSteps ∧ Skeleton.initSteps = Gen.EndorseFlags.initSteps ∧
    Skeleton.composeOrder = Gen.EndorseFlags.composeOrder ∧ Skeleton.composeRun = Gen.EndorseFlags.composeRun ∧
    Skeleton.persistentPreRunE = Gen.EndorseFlags.persistentPreRunE :=
  ⟨C06_cli_source_skeleton.1, C06_cli_source_skeleton.2.1, C06_cli_source_skeleton.2.2.2.2.2.2.2.1,
    C06_cli_source_skeleton.2.2.2.2.2.2.2.2.1, C06_cli_source_skeleton.2.2.2.2.2.2.2.2.2.1⟩

/-- `--dry_run`, whatever else is on the command line (also `--measurement_only`, `--snapshot_dir`,
    `--overwrite`, any technology, any side file): no workspace is created, no file read, written or re-moded,
    nothing committed or destroyed — the only calls a VersionControl sees are Result without a commit and, for a
    refused `--candidate_name`, the RetriableError query about the refusal. -/
theorem C15_cli_dry_run_pure (P : Params) (Pr : Prims) (T : Tables) (E : Env) (fl : CliFlags) (keys : Option Keys)
    (vcs : Option (List Attempt)) (vcss : List (List Attempt)) (hd : fl.dryRun = true) :
    ∀ i ev, Eff.vcs i ev ∈ (cliRun P Pr T E fl keys vcs vcss).effects →
      (ev.kind = .result ∧ ev.ok = false) ∨ ev.kind = .retriable := by
  intro i ev h
  rcases cliRun_cases P Pr T E fl keys vcs vcss with ⟨_, he, _⟩ | ⟨commit, ts, prod, ok, v, img, svsm, m, _, _, hrun⟩
  · rw [he] at h; cases h
  · rw [hrun] at h
    exact C15_dry_run_pure Pr T _ keys _ _ vcs vcss hd i ev h

/-- `--measurement_only`, whatever else is on the command line — in particular together with `--dry_run`:
    nothing but standard output is touched: no CertificateAuthority call, no Signer call (no document is
    signed), no VersionControl or workspace call. -/
theorem C15_cli_measurement_only_pure (P : Params) (Pr : Prims) (T : Tables) (E : Env) (fl : CliFlags)
    (keys : Option Keys) (vcs : Option (List Attempt)) (vcss : List (List Attempt))
    (hm : fl.measurementOnly = true) :
    ∀ eff ∈ (cliRun P Pr T E fl keys vcs vcss).effects, ∃ l, eff = Eff.stdout l := by
  intro eff h
  rcases cliRun_cases P Pr T E fl keys vcs vcss with ⟨_, he, _⟩ | ⟨commit, ts, prod, ok, v, img, svsm, m, _, _, hrun⟩
  · rw [he] at h; cases h
  · rw [hrun] at h
    exact C15_measurement_only_pure Pr T _ keys _ _ vcs vcss false hm eff h

/-- What the trial change `seeded/C15-D` (measurement-only combined with dry-run signs the document) breaks:
    `--measurement_only --dry_run` TOGETHER sign nothing, ask the CA nothing and call no back end at all (not even
    Result). -/
theorem C15_cli_both_flags_pure (P : Params) (Pr : Prims) (T : Tables) (E : Env) (fl : CliFlags)
    (keys : Option Keys) (vcs : Option (List Attempt)) (vcss : List (List Attempt))
    (hm : fl.measurementOnly = true) (_hd : fl.dryRun = true) :
    (∀ k d, Eff.sign k d ∉ (cliRun P Pr T E fl keys vcs vcss).effects) ∧
    Eff.caPrimary ∉ (cliRun P Pr T E fl keys vcs vcss).effects ∧
    (∀ k, Eff.caCertificate k ∉ (cliRun P Pr T E fl keys vcs vcss).effects) ∧
    (∀ k, Eff.caBundle k ∉ (cliRun P Pr T E fl keys vcs vcss).effects) ∧
    (∀ i ev, Eff.vcs i ev ∉ (cliRun P Pr T E fl keys vcs vcss).effects) := by
  have h : ∀ {eff}, eff ∈ (cliRun P Pr T E fl keys vcs vcss).effects → (∀ l, eff ≠ Eff.stdout l) → False :=
    fun hin hne => (C15_cli_measurement_only_pure P Pr T E fl keys vcs vcss hm _ hin).elim hne
  exact ⟨fun _ _ hin => h hin (fun _ e => nomatch e), fun hin => h hin (fun _ e => nomatch e),
    fun _ hin => h hin (fun _ e => nomatch e), fun _ hin => h hin (fun _ e => nomatch e),
    fun _ _ hin => h hin (fun _ e => nomatch e)⟩

/-- Without `--measurement_only` the command prints nothing on standard output. -/
theorem C15_cli_stdout_only_when_asked (P : Params) (Pr : Prims) (T : Tables) (E : Env) (fl : CliFlags)
    (keys : Option Keys) (vcs : Option (List Attempt)) (vcss : List (List Attempt))
    (hm : fl.measurementOnly = false) :
    ∀ l, Eff.stdout l ∉ (cliRun P Pr T E fl keys vcs vcss).effects := by
  intro l h
  rcases cliRun_cases P Pr T E fl keys vcs vcss with ⟨_, he, _⟩ | ⟨commit, ts, prod, ok, v, img, svsm, m, _, _, hrun⟩
  · rw [he] at h; cases h
  · rw [hrun] at h
    exact C15_stdout_only_when_asked Pr T _ keys _ _ vcs vcss hm l h

/-- The command line is accepted by flag parsing, PersistentPreRunE and InitContext — the pipeline is
    entered — EXACTLY when: the numeric flags are in range (`--clspec` < 2^64, `--snp_launch_vmsas` < 2^32,
    `--commit_retries` an int64); `--commit` is hexadecimal; every non-empty `--timestamp` parses and no
    occurrence, empty or not, follows one that stored a non-zero time; every non-empty `--snp_product` is a
    product line kds knows; the application's global component accepts; `--uefi` is given and ends in ".fd"; the
    side file consulted (if any, non-empty) decodes; with `--add_snp`, a non-empty family or image id is a UUID; the
    commit is empty or 20 bytes; the application's endorse component accepts; both initialise; the file at `--uefi`
    can be read; `--svsm_path` (if given) can be read; `--svsm_snp_measurement_path` (if given) can be read, is
    hexadecimal after trimming and is 48 bytes. -/
theorem C15_cli_accepts_iff (P : Params) (U : String → Option Bytes) (E : Env) (fl : CliFlags) :
    (ecOf P U E fl).isOk = true ↔
      ∃ commit ts prod ok v img svsm m, Accepted P U E fl commit ts prod ok v img svsm m := by
  constructor
  · intro h
    rcases ecOf_cases P U E fl with ⟨e, he⟩ | ⟨commit, ts, prod, ok, v, img, svsm, m, A, _⟩
    · rw [he] at h; cases h
    · exact ⟨commit, ts, prod, ok, v, img, svsm, m, A⟩
  · rintro ⟨commit, ts, prod, ok, v, img, svsm, m, A⟩
    rw [ecOf_accepted A]
    rfl

/-- A command line that is not accepted is refused BEFORE ANY EFFECT: no workspace, key, CA or back-end
    call, nothing printed; the command returns an error (never a panic of its own). -/
theorem C15_cli_refused_pure (P : Params) (Pr : Prims) (T : Tables) (E : Env) (fl : CliFlags) (keys : Option Keys)
    (vcs : Option (List Attempt)) (vcss : List (List Attempt))
    (h : (ecOf P Pr.parseUuid E fl).isOk = false) :
    (cliRun P Pr T E fl keys vcs vcss).effects = [] ∧
    ∃ e, (cliRun P Pr T E fl keys vcs vcss).result = .err e := by
  rcases cliRun_cases P Pr T E fl keys vcs vcss with ⟨_, he, hr⟩ | ⟨_, _, _, _, _, _, _, _, _, hacc, _⟩
  · exact ⟨he, hr⟩
  · rw [hacc] at h; cases h

/-- The refusals named in the property's anchors, each before any effect: a `--commit` that is not hexadecimal
    or decodes to neither 0 nor 20 bytes; a `--snp_product` kds does not know; with `--add_snp` a malformed
    family or image id; a `--uefi` that is missing or does not end in ".fd". -/
theorem C15_cli_named_refusals (P : Params) (Pr : Prims) (T : Tables) (E : Env) (fl : CliFlags) (keys : Option Keys)
    (vcs : Option (List Attempt)) (vcss : List (List Attempt))
    (h : (∀ c, hexDecode fl.commit = some c → c.length ≠ 0 ∧ c.length ≠ 20) ∨
         (∃ v ∈ fl.snpProduct, v ≠ "" ∧ P.parseProduct v = none) ∨
         (fl.addSnp = true ∧ fl.snpFamilyId ≠ "" ∧ Pr.parseUuid fl.snpFamilyId = none) ∨
         (fl.addSnp = true ∧ fl.snpImageId ≠ "" ∧ Pr.parseUuid fl.snpImageId = none) ∨
         fl.uefi = "" ∨ hasFdSuffix fl.uefi = false) :
    (cliRun P Pr T E fl keys vcs vcss).effects = [] ∧
    ∃ e, (cliRun P Pr T E fl keys vcs vcss).result = .err e := by
  apply C15_cli_refused_pure
  cases hok : (ecOf P Pr.parseUuid E fl).isOk with
  | false => rfl
  | true =>
    exfalso
    obtain ⟨commit, ts, prod, ok, v, img, svsm, m, A⟩ := (C15_cli_accepts_iff P _ E fl).mp hok
    -- with `--add_snp` both ids passed validateSnpFlags
    have hid : fl.addSnp = true →
        idOk Pr.parseUuid fl.snpFamilyId = true ∧ idOk Pr.parseUuid fl.snpImageId = true := fun ha => by
      have := A.ids
      rw [ha] at this
      exact (validateSnpFlags_ok_iff _ _).mp this
    rcases h with h | h | h | h | h | h
    · have := h commit A.commitHex
      have hl := A.commitLen
      unfold commitLenOk sha1Size at hl
      simp only [Bool.or_eq_true, beq_iff_eq] at hl
      omega
    · obtain ⟨v', hv, hne, hp⟩ := h
      exact productSetAll_ok_mem P _ _ _ A.product v' hv hne hp
    · exact nomatch (idOk_unparsed h.2.1 h.2.2).symm.trans (hid h.1).1
    · exact nomatch (idOk_unparsed h.2.1 h.2.2).symm.trans (hid h.1).2
    · exact A.uefiGiven h
    · exact nomatch h.symm.trans A.uefiSuffix

/-- Neither `--add_snp` nor `--add_tdx`: whatever else is named (VMSA counts, shapes, ids, a side file), the
    run fails and nothing at all happens — nothing is measured into a document, signed, written or printed. -/
theorem C15_cli_no_technology (P : Params) (Pr : Prims) (T : Tables) (E : Env) (fl : CliFlags) (keys : Option Keys)
    (vcs : Option (List Attempt)) (vcss : List (List Attempt))
    (hs : fl.addSnp = false) (ht : fl.addTdx = false) :
    (cliRun P Pr T E fl keys vcs vcss).effects = [] ∧
    ∃ e, (cliRun P Pr T E fl keys vcs vcss).result = .err e := by
  rcases cliRun_cases P Pr T E fl keys vcs vcss with ⟨_, he, hr⟩ | ⟨commit, ts, prod, ok, v, img, svsm, m, _, _, hrun⟩
  · exact ⟨he, hr⟩
  · rw [hrun]
    have hg : goldenMeasurement Pr T (ctxOf E (ecFinal E fl commit ts prod ok v img svsm m)) = .err "no-technology" := by
      unfold goldenMeasurement ctxOf
      simp only [ecFinal_snp, ecFinal_tdx, hs, ht]
      rfl
    unfold virtualFirmware
    rw [hg]
    exact ⟨rfl, _, rfl⟩

/-- Toggling the two mode flags changes nothing but those two fields of the endorse.Context: acceptance, the
    image, the requests, the SVN, ids, timestamp … are the same. -/
theorem C15_cli_modes_independent (P : Params) (U : String → Option Bytes) (E : Env) (fl : CliFlags) (ec : EC)
    (ow : Bool) (dry mo : Bool) (h : ecOf P U E fl = .ok (ec, ow)) :
    ecOf P U E { fl with dryRun := dry, measurementOnly := mo } =
      .ok ({ ec with dryRun := dry, measurementOnly := mo }, ow) := by
  obtain ⟨commit, ts, prod, ok, v, img, svsm, m, A, rfl, rfl⟩ := (ecOf_ok_explicit P U E fl ec ow).mp h
  apply (ecOf_ok_explicit P U E _ _ _).mpr
  exact ⟨commit, ts, prod, ok, v, img, svsm, m,
    ⟨A.numeric, A.commitHex, A.time, A.product, A.globalPre, A.uefiGiven, A.uefiSuffix, A.sideFile, A.ids,
      A.commitLen, A.appPre, A.globalInit, A.image, A.svsmImage, A.svsmMeasurement, A.appInit⟩, rfl, rfl⟩

/-- "Report the same measurements", at the command line: (a) with and without `--dry_run` the same documents are
    handed to the signer; (b) whatever a signing run hands to the signer, the `--measurement_only` run over the
    same command line prints the rendering of exactly its measured sections. -/
theorem C15_cli_same_measurements (P : Params) (Pr : Prims) (T : Tables) (E : Env) (fl : CliFlags)
    (keys : Option Keys) (vcs : Option (List Attempt)) (vcss : List (List Attempt)) :
    (∀ k d, Eff.sign k d ∈ (cliRun P Pr T E { fl with dryRun := true } keys vcs vcss).effects ↔
        Eff.sign k d ∈ (cliRun P Pr T E { fl with dryRun := false } keys vcs vcss).effects) ∧
    (∀ k d, Eff.sign k d ∈ (cliRun P Pr T E { fl with measurementOnly := false } keys vcs vcss).effects →
        (cliRun P Pr T E { fl with measurementOnly := true } keys vcs vcss).effects =
          (renderSnp (if fl.addSnp = true then fl.snpLaunchVmsas else 0) d.snp ++ renderTdx d.tdx).map Eff.stdout) := by
  rcases ecOf_cases P Pr.parseUuid E fl with ⟨e, he⟩ | ⟨commit, ts, prod, ok, v, img, svsm, m, _, he⟩
  · -- a refusal does not depend on the mode flags either: toggle them back
    have hr : ∀ dry mo, (ecOf P Pr.parseUuid E { fl with dryRun := dry, measurementOnly := mo }).isOk = false := by
      intro dry mo
      cases h2 : ecOf P Pr.parseUuid E { fl with dryRun := dry, measurementOnly := mo } with
      | ok r =>
        exact nomatch
          (C15_cli_modes_independent P Pr.parseUuid E _ r.1 r.2 fl.dryRun fl.measurementOnly h2).symm.trans he
      | _ => rfl
    constructor
    · intro k d
      rw [(C15_cli_refused_pure P Pr T E _ keys vcs vcss (hr true fl.measurementOnly)).1,
        (C15_cli_refused_pure P Pr T E _ keys vcs vcss (hr false fl.measurementOnly)).1]
    · intro k d h
      rw [(C15_cli_refused_pure P Pr T E _ keys vcs vcss (hr fl.dryRun false)).1] at h
      cases h
  · have hm := fun dry mo => C15_cli_modes_independent P Pr.parseUuid E fl _ _ dry mo he
    constructor
    · intro k d
      rw [cliRun_accepted P Pr T E _ keys vcs vcss _ _ (hm true fl.measurementOnly),
        cliRun_accepted P Pr T E _ keys vcs vcss _ _ (hm false fl.measurementOnly), sign_mem_iff, sign_mem_iff]
      exact Iff.rfl
    · intro k d h
      rw [cliRun_accepted P Pr T E _ keys vcs vcss _ _ (hm fl.dryRun false)] at h
      rw [cliRun_accepted P Pr T E _ keys vcs vcss _ _ (hm fl.dryRun true)]
      have hv : launchVmsasOf (ecFinal E fl commit ts prod ok v img svsm m).snp =
          if fl.addSnp = true then fl.snpLaunchVmsas else 0 := by
        rw [ecFinal_snp]
        cases fl.addSnp <;> rfl
      rw [← hv]
      exact (C15_same_measurements Pr T _ keys _ ⟨false, _, _, _⟩ vcs vcss).2 k d h

/-- The command never panics if the primitives and the key material do not: no phase of the command line
    handling panics, and the pipeline does not (C15_no_panic). -/
theorem C15_cli_no_panic (P : Params) (Pr : Prims) (T : Tables) (E : Env) (fl : CliFlags) (keys : Option Keys)
    (vcs : Option (List Attempt)) (vcss : List (List Attempt))
    (h1 : ∀ img k pr, (Pr.launchDigest img k pr).isPanic = false)
    (h2 : ∀ img s m, (Pr.mrtd img s m).isPanic = false)
    (h3 : ∀ ts g, (signDocEff keys ts g).2.isPanic = false) :
    (cliRun P Pr T E fl keys vcs vcss).result.isPanic = false := by
  rcases cliRun_cases P Pr T E fl keys vcs vcss with ⟨_, _, e, hr⟩ | ⟨commit, ts, prod, ok, v, img, svsm, m, _, _, hrun⟩
  · rw [hr]; rfl
  · rw [hrun]
    exact C15_no_panic Pr T _ keys _ _ vcs vcss (h1 _) (h2 _) (h3 _)

/-- the real command makes 4 key calls and 8 back-end calls and prints nothing; with --dry_run the same 4 key
    calls and one Result call; with --measurement_only (also together with --dry_run) no call at all and 4
    lines; a command line with neither technology, or with a commit of one byte, has no effect. -/
example :
    let run := fun fl => cliRun exParams15 exP exT exEnv15 fl exKeys (some exScript) []
    let real := run (exFlags15 false false)
    let dry := run (exFlags15 true false)
    let mo := run (exFlags15 false true)
    let both := run (exFlags15 true true)
    let none := run { exFlags15 false false with addSnp := false, addTdx := false }
    let bad := run { exFlags15 false false with commit := "ab" }
    (countKeys real.effects, countVcs real.effects, stdoutLines real.effects) = (4, 8, []) ∧
    (countKeys dry.effects, countVcs dry.effects, stdoutLines dry.effects) = (4, 1, []) ∧
    (countKeys mo.effects, countVcs mo.effects, (stdoutLines mo.effects).length) = (0, 0, 4) ∧
    (countKeys both.effects, countVcs both.effects, (stdoutLines both.effects).length) = (0, 0, 4) ∧
    none.effects.length = 0 ∧ bad.effects.length = 0 ∧
    real.result = .ok () ∧ dry.result = .ok () ∧ both.result = .ok () ∧
    none.result = .err "no-technology" ∧ bad.result = .err "prerun:commit-length" := by
  decide +kernel

end GceTcb.EndorseCli
