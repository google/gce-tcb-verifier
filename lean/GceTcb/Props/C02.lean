import GceTcb.Proofs.Policy
/-
C02 — Accepted attestations carry an endorsed measurement for the named configuration.

Reading (DESIGN §6 C02): for a named launch-VMSA count `n ≠ 0` the listed values are the table entry
for `n` and, for `n = 1`, also the SVSM measurement; for TDX the rows whose `ram_gib` equals the named
size (after Go's `uint32` conversion of the caller's `int`).  Report measurements are 48 bytes (the
closure's gate).  Third-party checks are the concrete functions in Model/Policy.lean copied from the
pinned go-sev-guest / go-tdx-guest sources.
-/
namespace GceTcb.Policy
open GceTcb

/-- verify.SNP with a named VMSA count accepts only a measurement listed for that count. -/
theorem C02_snp_named (s : SevSnp) (m : Bytes) (n : Nat) (hn : n ≠ 0)
    (h : snp (some s) ⟨some m, n⟩ = true) : m ∈ listedFor s n := by
  simp only [snp, hn, ne_eq, not_false_eq_true, if_true, Option.getD_some] at h
  unfold listedFor
  split at h
  · cases h
  · split at h
    · rename_i hc
      simp only [Bool.and_eq_true, beq_iff_eq, Bool.not_eq_true'] at hc
      obtain ⟨⟨h1, h2⟩, h3⟩ := hc
      apply List.mem_append.mpr; right
      subst h3
      simp [h1, h2]
    · split at h
      · cases h
      · rename_i mm hm
        apply List.mem_append.mpr; left
        simp only [beq_iff_eq] at h
        simp [hm, h]

/-- verify.SNP with no named count accepts only a measurement listed somewhere in the endorsement. -/
theorem C02_snp_any (s : SevSnp) (m : Bytes) (h : snp (some s) ⟨some m, 0⟩ = true) :
    m ∈ allListed s := by
  simp only [snp, ne_eq, not_true_eq_false, if_false, Bool.or_eq_true, beq_iff_eq] at h
  unfold allListed
  rcases h with h | h
  · simp [h]
  · obtain ⟨p, hp, he⟩ := List.any_eq_true.mp h
    exact List.mem_cons_of_mem _ (beq_iff_eq.mp he ▸ List.mem_map_of_mem hp)

/-- A request naming a count for which nothing is listed is rejected, and so is an endorsement
    without SEV-SNP data. -/
theorem C02_snp_absent (s : SevSnp) (o : SNPOptions) (m : Bytes) (hn : o.vmsas ≠ 0)
    (hm : o.measurement = some m) (hl : listedFor s o.vmsas = []) :
    snp (some s) o = false ∧ snp none o = false := by
  refine ⟨?_, rfl⟩
  cases hs : snp (some s) o with
  | false => rfl
  | true =>
    have : snp (some s) ⟨some m, o.vmsas⟩ = true := by
      rw [← hm]; exact hs
    have := C02_snp_named s m o.vmsas hn this
    rw [hl] at this
    cases this

/-- The validator closure: 48-byte gate, expected firmware digest, then verify.SNP. -/
theorem C02_closure (g : Option SevSnp) (gd ed rm : Bytes) (n : Nat)
    (h : closureMeasurement g gd ed rm n = true) :
    rm.length = 48 ∧ (ed ≠ [] → gd = ed) ∧
    ∃ s, g = some s ∧ (n ≠ 0 → rm ∈ listedFor s n) ∧ (n = 0 → rm ∈ allListed s) := by
  unfold closureMeasurement at h
  split at h
  · cases h
  · rename_i hl
    split at h
    · cases h
    · rename_i hd
      refine ⟨by simpa using hl, ?_, ?_⟩
      · intro hne
        simp only [Bool.and_eq_true, bne_iff_ne, ne_eq, not_and, Decidable.not_not] at hd
        have : ed.length ≠ 0 := by
          intro h0; exact hne (List.eq_nil_of_length_eq_zero h0)
        exact (hd (by simpa using this)).symm
      · cases g with
        | none => simp [snp] at h
        | some s =>
          refine ⟨s, rfl, fun hn => C02_snp_named s rm n hn h, fun hn => ?_⟩
          subst hn; exact C02_snp_any s rm h

/-- SevValidate (measurement path): success implies the report measurement is 48 bytes and listed,
    and when the caller named a VMSA count it is byte-equal to the table entry for that count. -/
theorem C02_sevValidate {R : Type} (pem : Pem) (dflt : SevPolicy R) (g : Option SevSnp)
    (gd rm : Bytes) (base : Option (SevPolicy R)) (ow : Bool) (n : Nat) (other : Bool)
    (h : sevValidateMeasurement pem dflt g gd rm base ow n other = true) :
    rm.length = 48 ∧ ∃ s, g = some s ∧ (n ≠ 0 → rm ∈ listedFor s n) ∧ (n = 0 → rm ∈ allListed s) := by
  unfold sevValidateMeasurement at h
  split at h
  · cases h
  · simp only [Bool.and_eq_true] at h
    have := C02_closure g gd [] rm n h.2
    exact ⟨this.1, this.2.2⟩

/-- Naming a VMSA count with no table entry makes SevValidate fail already at policy derivation. -/
theorem C02_sevValidate_absent {R : Type} (pem : Pem) (dflt : SevPolicy R) (s : SevSnp)
    (gd rm : Bytes) (base : Option (SevPolicy R)) (ow : Bool) (n : Nat) (other : Bool)
    (hn : n ≠ 0) (hl : mlookup s.measurements n = none) :
    sevValidateMeasurement pem dflt (some s) gd rm base ow n other = false := by
  cases hp : sevPolicy pem dflt (some s) ⟨base, n, ow, true⟩ with
  | none => simp [sevValidateMeasurement, hp]
  | some q =>
    obtain ⟨_, m, _, _, _, hm, _⟩ := modifyPolicy_spec pem s _ q _ hp
    cases hl.symm.trans (hm hn)

/-- TdxPolicy (with the repair): a derived policy always carries a non-empty allow-list of 48-byte
    MRTDs, each copied from a row for the requested RAM size. -/
theorem C02_tdxPolicy_allowlist {Q R : Type} (eq : Q) (er : R) (rs : List TdxRow)
    (o : TdxPolicyOptions Q R) (p : TdxPolicy Q R) (h : tdxPolicy eq er (some rs) o = some p) :
    ∃ b, p.body = some b ∧ b.anyMrTd ≠ [] ∧
      ∀ v ∈ b.anyMrTd, v.length = mrTdSize ∧
        ∃ r ∈ rs, (o.ramGib = 0 ∨ r.ramGib = u32 o.ramGib) ∧ r.mrtd = v := by
  obtain ⟨hlen, hne, _, ⟨b, hb, hsel, _⟩, _⟩ := tdxPolicy_spec eq er rs o p h _ rfl
  refine ⟨b, hb, by rw [hsel]; exact fun hh => hne (List.map_eq_nil_iff.mp hh), fun v hv => ?_⟩
  rw [hsel] at hv
  obtain ⟨r, hr, rfl⟩ := List.mem_map.mp hv
  exact ⟨hlen r hr, r, (List.mem_filter.mp hr).1, by simpa using (List.mem_filter.mp hr).2, rfl⟩

/-- TdxValidate (measurement path): success implies the quote's MRTD is byte-equal to the MRTD of a
    row of the endorsement for the RAM size the caller named (any row when none was named). -/
theorem C02_tdxValidate {Q R : Type} (eq : Q) (er : R) (rows : Option (List TdxRow)) (mrtd : Bytes)
    (base : Option (TdxPolicy Q R)) (ow : Bool) (ram : Int) (other : Bool)
    (h : tdxValidateMeasurement eq er rows mrtd base ow ram other = true) :
    ∃ rs, rows = some rs ∧ ∃ r ∈ rs, (ram = 0 ∨ r.ramGib = u32 ram) ∧ r.mrtd = mrtd := by
  unfold tdxValidateMeasurement at h
  split at h
  · cases h
  · rename_i p hp
    cases rows with
    | none => simp [tdxPolicy] at hp
    | some rs =>
      obtain ⟨b, hb, hne, hall⟩ := C02_tdxPolicy_allowlist eq er rs ⟨base, ram, ow⟩ p hp
      refine ⟨rs, rfl, ?_⟩
      simp only [hb, Option.map_some, Option.getD_some, Bool.and_eq_true] at h
      have hany := h.2
      unfold byteCheckAny at hany
      have : b.anyMrTd.isEmpty = false := by
        cases hq : b.anyMrTd with
        | nil => exact absurd hq hne
        | cons _ _ => rfl
      simp only [this, Bool.false_eq_true, if_false, List.any_eq_true] at hany
      obtain ⟨v, hv, hc⟩ := hany
      obtain ⟨hl, r, hr, hram, hrv⟩ := hall v hv
      exact ⟨r, hr, hram, by rw [hrv]; exact byteCheck_eq hl hc⟩

/-- A request naming a RAM size for which the endorsement lists no row is rejected. -/
theorem C02_tdx_absent {Q R : Type} (eq : Q) (er : R) (rs : List TdxRow) (mrtd : Bytes)
    (base : Option (TdxPolicy Q R)) (ow : Bool) (ram : Int) (other : Bool) (hr : ram ≠ 0)
    (hno : ∀ r ∈ rs, r.ramGib ≠ u32 ram) :
    tdxValidateMeasurement eq er (some rs) mrtd base ow ram other = false := by
  cases hh : tdxValidateMeasurement eq er (some rs) mrtd base ow ram other with
  | false => rfl
  | true =>
    obtain ⟨rs', hrs, r, hrm, hc, _⟩ := C02_tdxValidate eq er (some rs) mrtd base ow ram other hh
    cases hrs
    rcases hc with hc | hc
    · exact absurd hc hr
    · exact absurd hc (hno r hrm)

/-- Non-vacuity: a two-row table, a named count, the listed measurement accepted and its one-bit
    neighbour rejected; a TDX table where the named size selects the second row. -/
example :
    let m4 : Bytes := List.replicate 48 4
    let m8 : Bytes := List.replicate 48 8
    let s : SevSnp := ⟨0x30000, 1, [(4, m4), (8, m8)], [], []⟩
    snp (some s) ⟨some m8, 8⟩ = true ∧ snp (some s) ⟨some m4, 8⟩ = false ∧
    snp (some s) ⟨some (5 :: List.replicate 47 4), 4⟩ = false ∧
    tdxValidateMeasurement () () (some [⟨16, false, m4⟩, ⟨32, false, m8⟩]) m8 (none : Option (TdxPolicy Unit Unit)) false 32 true = true ∧
    tdxValidateMeasurement () () (some [⟨16, false, m4⟩, ⟨32, false, m8⟩]) m4 (none : Option (TdxPolicy Unit Unit)) false 32 true = false := by
  decide +kernel

end GceTcb.Policy
