import GceTcb.Proofs.ToolChain
import GceTcb.Proofs.ToolChainToy
import GceTcb.Props.C12Cli
import GceTcb.Model.ToolChainRef
/-
C03 at the level of the shipped TOOLS — whatever `endorse` writes after `bootstrap; rotate; …` is accepted by
`gcetcbendorsement verify --root_cert <the CA's root> <file>`, also after further key rotations.

The objects: `ToolChain.run K w steps` (Model/ToolChain.lean) composes `KeyCli.cliStep` (bootstrap / rotate / wipeout
command lines), `EndorseCli.cliRun` (the `endorse` command line) and `RpCli.run` (the relying party's command lines)
over one shared world: the key directory and CA store (`World.keys`), every other file (`World.files`).  A history is
a list of `Step`s; `step K w s` is one command line: the new world and its result class ("ok" = exit status 0).

Hypotheses of the theorems, all explicit:
* `Agree K` — the contracts of the third-party code BETWEEN the tools (protobuf, DER/PEM, RSA-PSS, crypto/x509 path
  validation), see Proofs/ToolChain.lean;
* `K.W.guard = true` — gcsca.upload as repaired (the two "fix:" commits of C12);
* `KeyCli.CliCleanRun` — every ACCEPTED bootstrap line of the history runs on a clean store (what `accepted` means:
  `C12_cli_accept_iff`).  It cannot be dropped: `C03_tools_finding_rebootstrap` is a history with a second
  `bootstrap --overwrite --keep_going` after which `endorse` exits 0 and `verify` refuses what it wrote;
* the `endorse` line exits 0, is not `--dry_run`, not `--measurement_only`, not in snapshot mode, and carries
  provenance (`--clspec ≠ 0`; the shipped nonprod application sets 123 itself);
* the verification time lies inside the validity of the root and of the signing certificate embedded in the file.
Nothing is assumed about rejected or failing key-management lines in between: the histories are arbitrary lists of
command lines with arbitrary flag texts, environments and times.
-/
namespace GceTcb.ToolChain
open GceTcb GceTcb.KeyHistory

variable {Cert Roots R Q : Type}

/-- After every history of key-management command lines whose accepted bootstraps run on a clean store: for every
    key version the authority records a certificate for, the key the key directory holds under that name (if it
    still holds one) is the key that certificate certifies.  (With `C12_cli_history` it is what makes signer and
    verifier meet.) -/
theorem C03_tools_key_bound (W : KeyCli.Wiring) (hg : W.guard = true) (pt : String → Option (Int × Nat))
    (h : List (KeyCli.Env × KeyCli.CliFlags)) (hc : KeyCli.CliCleanRun W pt State.init h)
    (n : KName) (c : KeyHistory.Cert) (k : Nat) (hn : n ≠ rootName)
    (hcert : certificate (KeyCli.cliRun W pt State.init h).ca n = some c)
    (hlive : KeyHistory.get (KeyCli.cliRun W pt State.init h).km.live n = some k) : c.subjectKey = k := by
  obtain ⟨hi, hb⟩ := InvBound_cliRun hg h State.init (Inv_init W.cfg) Bound_init hc
  unfold certificate at hcert
  cases he : KeyHistory.get (KeyCli.cliRun W pt State.init h).ca.entries n with
  | none => simp [he] at hcert
  | some p =>
    simp only [he] at hcert
    by_cases hps : n = (KeyCli.cliRun W pt State.init h).ca.primarySigning
    · subst hps
      exact hb p c k he hcert hlive
    · -- only the primary has a live key among the recorded names
      rw [hi.2.onlyPrimary n (by simp [he]) hn hps] at hlive
      cases hlive

/-- A `rotate` command line — whatever its flags, accepted or refused, successful or failing half-way — leaves the
    root certificate the authority serves (the object at `--root_path`) exactly as it was. -/
theorem C03_tools_rotate_keeps_root (W : KeyCli.Wiring) (hg : W.guard = true) (pt : String → Option (Int × Nat))
    (h : List (KeyCli.Env × KeyCli.CliFlags)) (hc : KeyCli.CliCleanRun W pt State.init h)
    (later : List (KeyCli.Env × KeyCli.CliFlags)) (hr : RotateOnly later) :
    bundle W.cfg (KeyCli.cliRun W pt State.init (h ++ later)).ca = bundle W.cfg (KeyCli.cliRun W pt State.init h).ca := by
  rw [cliRun_append]
  exact bundle_rotations hg later hr _ (InvBound_cliRun hg h State.init (Inv_init W.cfg) Bound_init hc).1

/-- An `endorse` line that exits 0 (not dry-run, not measurement-only, not snapshot mode) after any clean-run
    history wrote ONE file: at `ReleasePath(out_dir/basename(candidate))`, holding the endorsement of the measured
    document with the DER of the CURRENT PRIMARY's recorded certificate embedded and the CA's root object as bundle,
    signed by the key the key directory holds under the primary's name — which is the key that certificate
    certifies. -/
theorem C03_tools_endorse_writes (K : Kit Cert Roots R Q) (hg : K.W.guard = true) (w0 : World)
    (h0 : w0.keys = State.init) (h : List (KeyCli.Env × KeyCli.CliFlags))
    (hc : KeyCli.CliCleanRun K.W K.pt State.init h)
    (KE : KeyCli.Env) (wf : KeyCli.CliFlags) (E : EndorseEnv) (fl : EndorseCli.CliFlags)
    (hres : (endorseRun K (run K w0 (keySteps h)).1 KE wf E fl).result = .ok ())
    (hmo : fl.measurementOnly = false) (hdry : fl.dryRun = false) (hsnap : fl.snapshotDir = "") :
    ∃ r g c rt, EndorseCli.contextOf K.EP K.Pr.parseUuid (endorseEnvOf K (run K w0 (keySteps h)).1 KE wf E) fl = .ok r ∧
      Endorse.goldenMeasurement K.Pr K.T r.ctx = .ok g ∧
      certificate (KeyCli.cliRun K.W K.pt State.init h).ca (KeyCli.cliRun K.W K.pt State.init h).ca.primarySigning = some c ∧
      bundle K.W.cfg (KeyCli.cliRun K.W K.pt State.init h).ca = some rt ∧
      endorseWrites K (run K w0 (keySteps h)).1 KE wf E fl =
        some (outPathOf r.fl.cfg, stored K.C c (docOf K.C g c rt r.ts)) := by
  obtain ⟨r, g, c, rt, h1, h2, h3, h4, h5, _⟩ :=
    endorse_facts K hg h hc _ (by rw [run_keySteps, h0]) hres hmo hdry hsnap
  exact ⟨r, g, c, rt, h1, h2, h3, h4, h5⟩

/-- **A kept root survives everything.**  Once the relying party holds a copy `q` of the root object and the file `p`,
    NO later key-management command line matters — further rotations, a `wipeout` of certificates and keys, even a new
    `bootstrap` of another authority: `verify --root_cert q p` still exits 0 inside both validity windows.  (What a
    wipeout does take away is the CA's OWN copy of the root: `C03_tools_wipeout_drops_root`.) -/
theorem C03_tools_kept_root_survives_wipeout (K : Kit Cert Roots R Q) (hA : Agree K) (hg : K.W.guard = true) (w0 : World)
    (h0 : w0.keys = State.init) (h anything : List (KeyCli.Env × KeyCli.CliFlags))
    (hc : KeyCli.CliCleanRun K.W K.pt State.init h) (q : String) (hq : q ≠ "")
    (KE : KeyCli.Env) (wf : KeyCli.CliFlags) (E : EndorseEnv) (fl : EndorseCli.CliFlags)
    (hres : (endorseRun K (run K w0 (keySteps h ++ [.exportRoot q])).1 KE wf E fl).result = .ok ())
    (hmo : fl.measurementOnly = false) (hdry : fl.dryRun = false) (hsnap : fl.snapshotDir = "")
    (hprov : fl.clspec ≠ 0) :
    ∃ p rt c, bundle K.W.cfg (KeyCli.cliRun K.W K.pt State.init h).ca = some rt ∧
      certificate (KeyCli.cliRun K.W K.pt State.init h).ca (KeyCli.cliRun K.W K.pt State.init h).ca.primarySigning = some c ∧
      (p ≠ q → ∀ now, validAt rt now → validAt c now →
        (step K (run K w0 (keySteps h ++ [.exportRoot q, .endorse KE wf E fl] ++ keySteps anything)).1
          (.rp now (verifyLine q p))).2 = "ok") := by
  have hk : (run K w0 (keySteps h)).1.keys = KeyCli.cliRun K.W K.pt State.init h := by rw [run_keySteps, h0]
  obtain ⟨r, g, c, rt, _, _, hcert, hrt, hwr, hd⟩ := endorse_facts K hg h hc _
    (by rw [run_snoc, keys_exportRoot, hk]) hres hmo hdry hsnap
  refine ⟨outPathOf r.fl.cfg, rt, c, hrt, hcert,
    fun hpq now hvr hvc => verify_written _ now _ q hA (hd hprov) hq ?_ ?_ hvr hvc⟩
  · rw [run_append, read_keySteps, List.append_cons, run_snoc, read_endorse K _ hwr, if_pos rfl]
  · rw [run_append, read_keySteps, List.append_cons, run_snoc, read_endorse K _ hwr, if_neg (Ne.symm hpq), run_snoc,
      read_exportRoot K _ q (by rw [hk]; exact hrt), if_pos rfl]

/-- **Whatever the signer produces verifies.**  After any history of key-management command lines on a clean store
    (accepted bootstraps on a clean store; anything else: arbitrary lines, also refused or failing ones), with the root
    object copied to `q`: an `endorse` line that exits 0 (not dry-run, not measurement-only, not in snapshot mode, with
    provenance) wrote a file `p` on which `gcetcbendorsement verify --root_cert q p` exits 0 at every time inside the
    validity of the root and of the primary's certificate. -/
theorem C03_tools_signed_verifies (K : Kit Cert Roots R Q) (hA : Agree K) (hg : K.W.guard = true) (w0 : World)
    (h0 : w0.keys = State.init) (h : List (KeyCli.Env × KeyCli.CliFlags))
    (hc : KeyCli.CliCleanRun K.W K.pt State.init h) (q : String) (hq : q ≠ "")
    (KE : KeyCli.Env) (wf : KeyCli.CliFlags) (E : EndorseEnv) (fl : EndorseCli.CliFlags)
    (hres : (endorseRun K (run K w0 (keySteps h ++ [.exportRoot q])).1 KE wf E fl).result = .ok ())
    (hmo : fl.measurementOnly = false) (hdry : fl.dryRun = false) (hsnap : fl.snapshotDir = "")
    (hprov : fl.clspec ≠ 0) :
    ∃ p rt c, bundle K.W.cfg (KeyCli.cliRun K.W K.pt State.init h).ca = some rt ∧
      certificate (KeyCli.cliRun K.W K.pt State.init h).ca (KeyCli.cliRun K.W K.pt State.init h).ca.primarySigning = some c ∧
      (p ≠ q → ∀ now, validAt rt now → validAt c now →
        (step K (run K w0 (keySteps h ++ [.exportRoot q, .endorse KE wf E fl])).1 (.rp now (verifyLine q p))).2 = "ok") := by
  -- the case of no later command line
  simpa only [keySteps, List.map_nil, List.append_nil] using
    C03_tools_kept_root_survives_wipeout K hA hg w0 h0 h [] hc q hq KE wf E fl hres hmo hdry hsnap hprov

/-- **Endorsements written before later rotations still verify, under the root exported AFTER them.**  Between the
    `endorse` and the export of the root there may be any number of further `rotate` lines (any flags, accepted or
    not): the root object is the same, and the file carries its own signing certificate. -/
theorem C03_tools_old_endorsements_survive (K : Kit Cert Roots R Q) (hA : Agree K) (hg : K.W.guard = true) (w0 : World)
    (h0 : w0.keys = State.init) (h later : List (KeyCli.Env × KeyCli.CliFlags))
    (hc : KeyCli.CliCleanRun K.W K.pt State.init h) (hrot : RotateOnly later) (q : String) (hq : q ≠ "")
    (KE : KeyCli.Env) (wf : KeyCli.CliFlags) (E : EndorseEnv) (fl : EndorseCli.CliFlags)
    (hres : (endorseRun K (run K w0 (keySteps h)).1 KE wf E fl).result = .ok ())
    (hmo : fl.measurementOnly = false) (hdry : fl.dryRun = false) (hsnap : fl.snapshotDir = "")
    (hprov : fl.clspec ≠ 0) :
    ∃ p rt c, bundle K.W.cfg (KeyCli.cliRun K.W K.pt State.init h).ca = some rt ∧
      certificate (KeyCli.cliRun K.W K.pt State.init h).ca (KeyCli.cliRun K.W K.pt State.init h).ca.primarySigning = some c ∧
      (p ≠ q → ∀ now, validAt rt now → validAt c now →
        (step K (run K w0 (keySteps h ++ [.endorse KE wf E fl] ++ keySteps later ++ [.exportRoot q])).1
          (.rp now (verifyLine q p))).2 = "ok") := by
  have hk : (run K w0 (keySteps h)).1.keys = KeyCli.cliRun K.W K.pt State.init h := by rw [run_keySteps, h0]
  obtain ⟨r, g, c, rt, _, _, hcert, hrt, hwr, hd⟩ := endorse_facts K hg h hc _ hk hres hmo hdry hsnap
  -- the later rotations leave the root the authority serves as it was
  have hrt' : bundle K.W.cfg (run K w0 (keySteps h ++ [.endorse KE wf E fl] ++ keySteps later)).1.keys.ca = some rt := by
    rw [run_append, run_keySteps, run_snoc]
    show bundle K.W.cfg (KeyCli.cliRun K.W K.pt (step K _ (.endorse KE wf E fl)).1.keys later).ca = _
    rw [keys_endorse, hk, bundle_rotations hg later hrot _
      (InvBound_cliRun hg h State.init (Inv_init K.W.cfg) Bound_init hc).1]
    exact hrt
  refine ⟨outPathOf r.fl.cfg, rt, c, hrt, hcert,
    fun hpq now hvr hvc => verify_written _ now _ q hA (hd hprov) hq ?_ ?_ hvr hvc⟩
  · rw [run_snoc, read_exportRoot K _ q hrt', if_neg hpq, run_append, read_keySteps, run_snoc, read_endorse K _ hwr,
      if_pos rfl]
  · rw [run_snoc, read_exportRoot K _ q hrt', if_pos rfl]

/-- **`sev validate --launch_vmsas n` accepts a report carrying the measurement the written endorsement lists for
    `n`.**  After any clean-run history, an `endorse` line that exits 0 wrote a file `p`; on every later world that
    still has `p` and a copy `q` of the root object of that moment, `gcetcbendorsement sev validate --launch_vmsas n
    --endorsement p --root_cert q ATT` exits 0 at every time inside both validity windows when ATT is an SEV-SNP
    attestation whose 48-byte measurement is the one the document lists for `n ≠ 0` — provided the third-party checks
    the model leaves abstract (policy derivation `sevPolicyOptions`, go-sev-guest's report validation
    `snpBaseChecks`) pass. -/
theorem C03_tools_sev_validate_listed (K : Kit Cert Roots R Q) (hA : Agree K) (hg : K.W.guard = true) (w0 : World)
    (h0 : w0.keys = State.init) (h : List (KeyCli.Env × KeyCli.CliFlags))
    (hc : KeyCli.CliCleanRun K.W K.pt State.init h)
    (KE : KeyCli.Env) (wf : KeyCli.CliFlags) (E : EndorseEnv) (fl : EndorseCli.CliFlags)
    (hres : (endorseRun K (run K w0 (keySteps h)).1 KE wf E fl).result = .ok ())
    (hmo : fl.measurementOnly = false) (hdry : fl.dryRun = false) (hsnap : fl.snapshotDir = "")
    (hprov : fl.clspec ≠ 0) :
    ∃ p rt c d, endorseWrites K (run K w0 (keySteps h)).1 KE wf E fl = some (p, stored K.C c d) ∧
      bundle K.W.cfg (KeyCli.cliRun K.W K.pt State.init h).ca = some rt ∧
      ∀ (w' : World) (q a s : String) (n now : Nat) (content : Bytes) (sa : Verify.Attestation)
        (sd : Endorse.SnpDoc) (vopts : Nat),
        q ≠ "" → p ≠ "" → w'.read p = some (stored K.C c d) → w'.read q = some (K.C.rootPem rt) →
        w'.read a = some content → K.RW.P.parseAttestation content = some (.sevSnp sa) →
        sa.measurement.length = 48 → K.RW.L.parseUint s = some n → n < 2 ^ 32 → n ≠ 0 →
        d.snp = some sd → Verify.lookupNat sd.measurements n = some sa.measurement →
        K.RW.P.v.sevPolicyOptions ⟨K.C.marshalGolden d, K.C.signPss c.subjectKey (K.C.marshalGolden d)⟩ n false
          (K.RW.tagS none) = some vopts →
        K.RW.P.v.snpBaseChecks sa.tag vopts = true →
        validAt rt now → validAt c now →
        (step K w' (.rp now (sevLine s p q a))).2 = "ok" := by
  obtain ⟨r, g, c, rt, _, _, _, hrt, hwr, hd⟩ :=
    endorse_facts K hg h hc _ (by rw [run_keySteps, h0]) hres hmo hdry hsnap
  exact ⟨_, rt, c, _, hwr, hrt, sev_validate_written hA (hd hprov) _⟩

/-- **`tdx validate --ram_gib g` on the written endorsement**: exits 0 at every time inside both validity windows on a
    TDX quote, provided the third-party checks (`tdxPolicyOptions`: gcetcbendorsement.TdxPolicy for that RAM size and
    validate.PolicyToOptions; `tdxQuoteChecks`: go-tdx-guest's validation of the quote against the derived options,
    which is where the MRTD is compared) pass.  That the derived policy admits every MRTD the document lists for its
    RAM size is `C03_every_listed_mrtd_accepted` (Props/C03.lean) through `C02_cli_tdx_named_mrtd`'s reading. -/
theorem C03_tools_tdx_validate_listed (K : Kit Cert Roots R Q) (hA : Agree K) (hg : K.W.guard = true) (w0 : World)
    (h0 : w0.keys = State.init) (h : List (KeyCli.Env × KeyCli.CliFlags))
    (hc : KeyCli.CliCleanRun K.W K.pt State.init h)
    (KE : KeyCli.Env) (wf : KeyCli.CliFlags) (E : EndorseEnv) (fl : EndorseCli.CliFlags)
    (hres : (endorseRun K (run K w0 (keySteps h)).1 KE wf E fl).result = .ok ())
    (hmo : fl.measurementOnly = false) (hdry : fl.dryRun = false) (hsnap : fl.snapshotDir = "")
    (hprov : fl.clspec ≠ 0) :
    ∃ p rt c d, endorseWrites K (run K w0 (keySteps h)).1 KE wf E fl = some (p, stored K.C c d) ∧
      bundle K.W.cfg (KeyCli.cliRun K.W K.pt State.init h).ca = some rt ∧
      ∀ (w' : World) (q a s : String) (g : Int) (now : Nat) (content : Bytes) (qt vopts : Nat),
        q ≠ "" → p ≠ "" → w'.read p = some (stored K.C c d) → w'.read q = some (K.C.rootPem rt) →
        w'.read a = some content → K.RW.P.parseAttestation content = some (.tdx qt) →
        K.RW.L.parseInt s = some g → -(2 ^ 63 : Int) ≤ g → g < 2 ^ 63 →
        K.RW.P.v.tdxPolicyOptions ⟨K.C.marshalGolden d, K.C.signPss c.subjectKey (K.C.marshalGolden d)⟩
          (RpCli.ramTag g) false (K.RW.tagT none) = some vopts →
        K.RW.P.v.tdxQuoteChecks qt vopts = true →
        validAt rt now → validAt c now →
        (step K w' (.rp now (tdxLine s p q a))).2 = "ok" := by
  obtain ⟨r, g, c, rt, _, _, _, hrt, hwr, hd⟩ :=
    endorse_facts K hg h hc _ (by rw [run_keySteps, h0]) hres hmo hdry hsnap
  exact ⟨_, rt, c, _, hwr, hrt, tdx_validate_written hA (hd hprov) _⟩

/-- …and in the measurement reading of the same command line (Model/Policy.lean, the reading `C02_cli_tdx_named_mrtd`
    is stated in): a quote carrying the MRTD of a row the written document lists is accepted by `tdx validate
    --ram_gib <that row's RAM size>` — `rows` is what the policy derivation decodes from the written payload
    (`PolicyPrims.goldenTdx`), well-formed (48-byte MRTDs); `otherChecks` stands for every other third-party check. -/
theorem C03_tools_tdx_validate_listed_mrtd (K : Kit Cert Roots R Q) (hA : Agree K) (hg : K.W.guard = true) (w0 : World)
    (h0 : w0.keys = State.init) (h : List (KeyCli.Env × KeyCli.CliFlags))
    (hc : KeyCli.CliCleanRun K.W K.pt State.init h)
    (KE : KeyCli.Env) (wf : KeyCli.CliFlags) (E : EndorseEnv) (fl : EndorseCli.CliFlags)
    (hres : (endorseRun K (run K w0 (keySteps h)).1 KE wf E fl).result = .ok ())
    (hmo : fl.measurementOnly = false) (hdry : fl.dryRun = false) (hsnap : fl.snapshotDir = "")
    (hprov : fl.clspec ≠ 0) :
    ∃ p rt c d, endorseWrites K (run K w0 (keySteps h)).1 KE wf E fl = some (p, stored K.C c d) ∧
      bundle K.W.cfg (KeyCli.cliRun K.W K.pt State.init h).ca = some rt ∧
      ∀ (M : RpCli.MeasurePrims) (w' : World) (q a s : String) (now : Nat) (content : Bytes)
        (rows : List Policy.TdxRow) (row : Policy.TdxRow),
        q ≠ "" → p ≠ "" → w'.read p = some (stored K.C c d) → w'.read q = some (K.C.rootPem rt) →
        w'.read a = some content → M.quoteMrtd content = some row.mrtd →
        K.RW.G.goldenTdx ⟨K.C.marshalGolden d, K.C.signPss c.subjectKey (K.C.marshalGolden d)⟩ = some (some rows) →
        (∀ x ∈ rows, x.mrtd.length = Policy.mrTdSize) → row ∈ rows → row.ramGib < 4294967296 →
        K.RW.L.parseInt s = some (row.ramGib : Int) →
        M.otherChecks content ⟨K.C.marshalGolden d, K.C.signPss c.subjectKey (K.C.marshalGolden d)⟩ = true →
        RpCli.measure K.RW M (rpEnv w' now) (tdxLine s p q a) = true := by
  obtain ⟨r, g, c, rt, _, _, _, hrt, hwr, _⟩ :=
    endorse_facts K hg h hc _ (by rw [run_keySteps, h0]) hres hmo hdry hsnap
  exact ⟨_, rt, c, _, hwr, hrt, tdx_measure_written hA rt c _ _⟩

/-- An accepted `wipeout` that selects the certificates removes the CA's own root object: there is nothing left to
    export, on any store. -/
theorem C03_tools_wipeout_drops_root (K : Kit Cert Roots R Q) (w : World) (E : KeyCli.Env) (f : KeyCli.CliFlags)
    (hd : KeyCli.Handed) (o : Flags) (c : KeyCli.WipeCtx)
    (hc : KeyCli.cmdOf K.W K.pt E w.keys f = .ok hd) (hcmd : hd.cmd = .wipeout o c) (hsel : c.ca = true) (q : String) :
    (step K (step K w (.key E f)).1 (.exportRoot q)).2 = "none" := by
  have : (KeyCli.cliStep K.W K.pt E w.keys f).1.ca = CA.empty := by
    unfold KeyCli.cliStep
    simp only [hc, hcmd, KeyCli.libStep, wipeout, hsel, if_true]
  simp only [step, exportRoot, this]
  have hb : bundle K.W.cfg CA.empty = none := by
    unfold bundle; cases K.W.cfg.ca <;> rfl
  rw [hb]

/-- Without a root file the relying party refuses: `verify --root_cert q p` with no file at `q` does not exit 0,
    whatever `p` holds (there is no getter in this world, so an absent flag value is refused as well). -/
theorem C03_tools_verify_needs_root (K : Kit Cert Roots R Q) (w : World) (now : Nat) (q p : String)
    (hq : w.read q = none) : (step K w (.rp now (verifyLine q p))).2 = "err" := by
  simp only [step, rp_verify_eq, Verify.cliVerify]
  cases he : Verify.readEndorsement K.RW.P.vp ⟨w.read, none, now⟩ p with
  | error c => rfl
  | ok e =>
    have : Verify.rootOfTrust K.RW.P.vp ⟨w.read, none, now⟩ q = .error (if q != "" then "root-read" else "no-getter") := by
      unfold Verify.rootOfTrust
      by_cases h : (q != "") = true
      · simp [h, hq]
      · simp [h]
    simp only [this]
    rfl

/-- FULL STATEMENT of the invariant without the clean-store hypothesis (fails today, see
    `C03_tools_finding_rebootstrap`; tool-level form of the known findings C12-K1…K4). -/
def C03_tools_key_bound_any_history : Prop :=
  ∀ (W : KeyCli.Wiring), W.guard = true → ∀ (pt : String → Option (Int × Nat))
    (h : List (KeyCli.Env × KeyCli.CliFlags)) (n : KName) (c : KeyHistory.Cert) (k : Nat), n ≠ rootName →
    certificate (KeyCli.cliRun W pt State.init h).ca n = some c →
    KeyHistory.get (KeyCli.cliRun W pt State.init h).km.live n = some k → c.subjectKey = k

/-- `bootstrap --timestamp 2024-09-01…; bootstrap --timestamp 2024-10-01… --overwrite --keep_going` on the shipped
    wiring (both lines accepted, both exit 0) -/
def exRebootKg : List (KeyCli.Env × KeyCli.CliFlags) :=
  [(KeyCli.exEnv, KeyCli.exB "2024-09-01T00:00:00Z"),
   (KeyCli.exEnv, { KeyCli.exB "2024-10-01T12:00:00+02:00" with overwrite := true, keepGoing := true })]

/-- Witness (confirmed on the real tools: known findings C03-T1 / C03-T2): after the second bootstrap the key directory
    holds key 3 under `primarySigningKey`, while the certificate the store records for that name — kept by
    gcsca.upload because of `--keep_going` — certifies key 1 and is issued by the OLD root (key 0); the root object is
    the NEW root (key 2). -/
theorem C03_tools_finding_rebootstrap : ¬ C03_tools_key_bound_any_history := by
  intro hfull
  -- one evaluation of the history for both facts
  have key : (certificate (KeyCli.cliRun KeyCli.exW KeyCli.exPt State.init exRebootKg).ca firstName).map (·.subjectKey) =
        some 1 ∧
      KeyHistory.get (KeyCli.cliRun KeyCli.exW KeyCli.exPt State.init exRebootKg).km.live firstName = some 3 := by
    decide +kernel
  obtain ⟨c, hc, h1⟩ := Option.map_eq_some_iff.mp key.1
  have := hfull KeyCli.exW rfl KeyCli.exPt exRebootKg firstName c 3 firstName_ne_root hc key.2
  omega

/-- …and what `endorse` then does, for EVERY codec: both accepted lines exit 0, SignDoc over that store succeeds,
    embeds the kept certificate (key 1, issued by key 0) and signs with key 3 — a file no verifier holding the CA's
    root object (key 2) can accept. -/
theorem C03_tools_finding_rebootstrap_signs_uncertified (C : Codec Cert) (ts : Int × Nat) (g d : Endorse.Golden)
    (sig : Bytes)
    (h : Endorse.signDoc (some (keysOf C KeyCli.exW.cfg (KeyCli.cliRun KeyCli.exW KeyCli.exPt State.init exRebootKg))) ts g
      = .ok (d, sig)) :
    ∃ c rt, d.cert = C.certDer c ∧ c.subjectKey = 1 ∧ c.signerKey = 0 ∧
      bundle KeyCli.exW.cfg (KeyCli.cliRun KeyCli.exW KeyCli.exPt State.init exRebootKg).ca = some rt ∧
      rt.subjectKey = 2 ∧ sig = C.signPss 3 (C.marshalGolden d) := by
  obtain ⟨c, rt, k, h1, h2, h3, h4, h5⟩ := signDoc_keysOf _ _ _ _ _ _ _ h
  have e : (certificate (KeyCli.cliRun KeyCli.exW KeyCli.exPt State.init exRebootKg).ca
        (KeyCli.cliRun KeyCli.exW KeyCli.exPt State.init exRebootKg).ca.primarySigning).map
        (fun c => (c.subjectKey, c.signerKey)) = some (1, 0) ∧
      KeyHistory.get (KeyCli.cliRun KeyCli.exW KeyCli.exPt State.init exRebootKg).km.live
        (KeyCli.cliRun KeyCli.exW KeyCli.exPt State.init exRebootKg).ca.primarySigning = some 3 ∧
      (bundle KeyCli.exW.cfg (KeyCli.cliRun KeyCli.exW KeyCli.exPt State.init exRebootKg).ca).map (·.subjectKey)
        = some 2 := by decide +kernel
  rw [h1, h2, h3] at e
  simp only [Option.map_some, Option.some.injEq, Prod.mk.injEq] at e
  obtain ⟨⟨e1, e2⟩, rfl, e3⟩ := e
  exact ⟨c, rt, by rw [h4]; rfl, e1, e2, h2, e3, h5⟩

/-- a reference kit (Model/ToolChainRef.lean: the Lean protobuf codec on both sides, text certificates, a signature
    that records key and message) on the shipped wiring -/
def exKit : Kit KeyHistory.Cert (List KeyHistory.Cert) Unit Unit :=
  Ref.kit true KeyCli.exPt (fun _ => some (List.replicate 16 7))

def exEndorse : EndorseCli.CliFlags :=
  { addSnp := true, uefi := "fw.fd", clspec := 123, snpLaunchVmsas := 2, timestamp := ["2025-01-01T00:00:00-08:00"] }

def exEE : EndorseEnv := ⟨(1790000000, 0), "id", "out"⟩

/-- a world with a clean store and a firmware image -/
def exW0 : World := ⟨State.init, [("fw.fd", [1])], .notFound⟩

/-- `bootstrap; rotate; rotate --rotated_key_serial_override 2^63; rotate` on the shipped wiring: the one bootstrap runs
    on the empty store. -/
theorem exGood_clean : KeyCli.CliCleanRun KeyCli.exW KeyCli.exPt State.init KeyCli.exGood :=
  ⟨fun _ _ => ⟨rfl, rfl, rfl⟩, fun h => by simp [KeyCli.exR] at h, fun h => by simp [KeyCli.exR] at h,
    fun h => by simp [KeyCli.exR] at h, trivial⟩

/-- The hypotheses of the main theorems (other than the third-party contracts `Agree`) are met by a concrete history
    of the shipped wiring: `bootstrap; rotate; rotate --rotated_key_serial_override 2^63; rotate` is a clean run, the
    export finds a root, the `endorse` line exits 0 on the world after it, is not dry-run / measurement-only /
    snapshot, carries provenance — and there are times inside both validity windows. -/
example :
    exW0.keys = State.init ∧ KeyCli.CliCleanRun exKit.W exKit.pt State.init KeyCli.exGood ∧
    (endorseRun exKit (run exKit exW0 (keySteps KeyCli.exGood ++ [.exportRoot "kept.crt"])).1 KeyCli.exEnv
      (KeyCli.exB "") exEE exEndorse).result = .ok () ∧
    exEndorse.measurementOnly = false ∧ exEndorse.dryRun = false ∧ exEndorse.snapshotDir = "" ∧ exEndorse.clspec ≠ 0 ∧
    (∃ rt c, bundle exKit.W.cfg (KeyCli.cliRun exKit.W exKit.pt State.init KeyCli.exGood).ca = some rt ∧
      certificate (KeyCli.cliRun exKit.W exKit.pt State.init KeyCli.exGood).ca
        (KeyCli.cliRun exKit.W exKit.pt State.init KeyCli.exGood).ca.primarySigning = some c ∧
      validAt rt (1800000000 + 62167219200) ∧ validAt c (1800000000 + 62167219200)) := by
  -- one evaluation of the key history for the root and the primary's certificate
  have key : bundle exKit.W.cfg (KeyCli.cliRun exKit.W exKit.pt State.init KeyCli.exGood).ca =
        some ⟨1, 1, "GCE-cc-tcb-root", "GCE-cc-tcb-root", 1, 0, 0, 0, true, 96, 13, 63892368000, 64681286400⟩ ∧
      certificate (KeyCli.cliRun exKit.W exKit.pt State.init KeyCli.exGood).ca
        (KeyCli.cliRun exKit.W exKit.pt State.init KeyCli.exGood).ca.primarySigning =
        some ⟨9223372036854775809, 9223372036854775809, "GCE-uefi-signer", "GCE-cc-tcb-root", 1, 4, 0, 0, false, 1, 13,
          63957219200, 64114985600⟩ := by decide +kernel
  refine ⟨rfl, exGood_clean, by decide +kernel, rfl, rfl, rfl, by decide, _, _, key.1, key.2, ?_, ?_⟩ <;>
    (unfold validAt; decide)

/-- a kit whose reading side satisfies the third-party contracts for ALL documents (Proofs/ToolChainToy.lean: unbounded
    length-prefixed encodings, opaque certificates), on the shipped wiring with the reference measuring side -/
def exToy : Kit Bytes (List Bytes) Unit Unit :=
  Toy.kit KeyCli.exW KeyCli.exPt (Ref.eparams KeyCli.exPt) (Ref.eprims fun _ => some (List.replicate 16 7))
    Endorse.genTables

/-- **All hypotheses of `C03_tools_signed_verifies` hold together** — `Agree` included — for a concrete kit and the
    history `bootstrap; rotate; rotate --rotated_key_serial_override 2^63; rotate; export; endorse`: the theorem
    applies and yields its conclusion for it. -/
example : Agree exToy ∧
    ∃ p rt c, bundle exToy.W.cfg (KeyCli.cliRun exToy.W exToy.pt State.init KeyCli.exGood).ca = some rt ∧
      certificate (KeyCli.cliRun exToy.W exToy.pt State.init KeyCli.exGood).ca
        (KeyCli.cliRun exToy.W exToy.pt State.init KeyCli.exGood).ca.primarySigning = some c ∧
      (p ≠ "kept.crt" → ∀ now, validAt rt now → validAt c now →
        (step exToy (run exToy exW0 (keySteps KeyCli.exGood ++
          [.exportRoot "kept.crt", .endorse KeyCli.exEnv (KeyCli.exB "") exEE exEndorse])).1
          (.rp now (verifyLine "kept.crt" p))).2 = "ok") :=
  ⟨Toy.agree _ _ _ _ _,
   C03_tools_signed_verifies exToy (Toy.agree _ _ _ _ _) rfl exW0 rfl KeyCli.exGood exGood_clean
    "kept.crt" (by decide) KeyCli.exEnv (KeyCli.exB "") exEE exEndorse (by decide +kernel) rfl rfl rfl (by decide)⟩

end GceTcb.ToolChain
