import GceTcb.Proofs.AttestChain
import GceTcb.Proofs.AttestBridge
import GceTcb.Proofs.ExtractLocal
/-
C16 — "extraction returns … the attestation's certificate-table entry byte for byte", from the BYTES of the
quote: the quote path of extract.Attestation / extract.Endorsement end to end (text forms included).

Models: Model/HexB64.lean (encoding/hex.DecodeString; base64.NewDecoder(StdEncoding) + io.ReadAll),
Model/AttestChain.lean (go-sev-guest certificate table and report acceptance, extractsev.CheckCertTable,
the chain of extract.Attestation in the order of the code, `teeOf` = the `Tee` that Model/Extract takes as a
parameter).  Lemmas: Proofs/HexB64.lean, Proofs/AttestChain.lean, Proofs/AttestBridge.lean (the chain of C07),
Proofs/ExtractLocal.lean (extract.Endorsement on a quote that carries the entry).  Parameters: the four proto.Unmarshal
readings and go-tdx-guest's QuoteToProto (`Protos`), with the laws `ProtoLaws` (compared with the real
functions by stream c16wire ops `law` / `lawtdx`).

A well-formed table is `TableOk table hs body`: header entries `hs`, the all-zero terminator, any `body`;
every entry's range lies behind the header and inside the table, the ranges together are no longer than the
table, the table is shorter than 4 GiB.  Ranges may be in any order, with gaps and trailing bytes;
`C16_wire_marshal_wellformed` shows that what abi.CertTable.Marshal produces for ANY list of (GUID, blob)
pairs is such a table whose entries are those pairs.
-/
namespace GceTcb.AttestChain
open GceTcb GceTcb.Codec GceTcb.DecTotal
open GceTcb.HexB64 hiding hexDecode hexEncode

/-! ## text decoders -/

/-- hex.DecodeString(hex.EncodeToString(b)) = b for every byte string (lower case) … -/
theorem C16_wire_hex_roundtrip (b : Bytes) : HexB64.hexDecode (HexB64.hexEncode b) = some b := hexDecode_hexEncode b
/-- … and for upper-case digits -/
theorem C16_wire_hex_upper_roundtrip (b : Bytes) : HexB64.hexDecode (hexEncodeUpper b) = some b := hexDecode_hexEncodeUpper b

/-- the streaming base64 decoder returns b for StdEncoding.EncodeToString(b), for every byte string … -/
theorem C16_wire_base64_roundtrip (b : Bytes) : b64Decode (b64Encode b) = some b := b64Decode_b64Encode b
/-- … and for every text that is that encoding with '\r' and '\n' inserted anywhere (wrapped lines, a
    trailing newline, CRLF) -/
theorem C16_wire_base64_newlines (t b : Bytes) (h : dropNL t = b64Encode b) : b64Decode t = some b :=
  b64Decode_of_dropNL t b h

/-- hex does NOT skip anything: one byte that is no hex digit (a newline, a space) or an odd length and
    DecodeString fails -/
theorem C16_wire_hex_strict (t : Bytes) (c : UInt8) (hc : c ∈ t) (hn : hexNib c = none) : HexB64.hexDecode t = none :=
  hexDecode_none_of_mem t c hc hn

theorem C16_wire_hex_odd (t : Bytes) (h : t.length % 2 = 1) : HexB64.hexDecode t = none := hexDecode_odd t h

/-- base64: a byte outside the alphabet, '=', CR, LF anywhere and the decoder fails (a space, a tab, NUL,
    '-' / '_' of the URL alphabet) -/
theorem C16_wire_base64_strict (t : Bytes) (c : UInt8) (hc : c ∈ t) (hl : b64Legal c = false) : b64Decode t = none :=
  b64Decode_none_of_mem t c hc hl

/-- when Go's chunked decoder accepts more (a padded quantum in the interior that happens to end a chunk) the
    result extends the strict reading: on everything the strict decoder accepts they agree -/
theorem C16_wire_base64_loose_agrees (t d : Bytes) (h : b64Decode t = some d) : b64DecodeLoose t = some d :=
  (b64DecodeQ_some h).2.2

example : HexB64.hexDecode [48, 65, 102, 70] = some [0x0a, 0xff] := by decide +kernel
example : b64Decode [81, 85, 13, 10, 70, 66, 10] = some [65, 65, 65] := by decide +kernel     -- "QU\r\nFB\n"
example : b64Decode [81, 81, 61, 61] = some [65] ∧ b64Decode [81, 81, 61] = none ∧ b64Decode [81, 81] = none := by decide +kernel

/-! ## the certificate table -/

/-- go-sev-guest reads from a well-formed table exactly the entries the header names, each with the bytes of
    its range, and extractsev.CheckCertTable passes it -/
theorem C16_wire_table_entries (table : Bytes) (hs : List Hdr) (body : Bytes) (w : TableOk table hs body) :
    checkCertTable table = true ∧ unmarshal table = .ok (entriesOf table hs) :=
  (table_reads w).2

/-! ## report ++ table, table alone -/

/-- the report's version field is 2 or 3 (what the ABI defines; abi.ReportToProto itself leaves the version to
    validation) -/
def VersionOk (report : Bytes) : Prop := ∃ (v : UInt8) (rest : Bytes), report = v :: 0 :: 0 :: 0 :: rest ∧ (v = 2 ∨ v = 3)

/-- the hypotheses on a raw quote: a report that abi.ReportToProto accepts, followed by a well-formed table
    whose LAST entry under the GCE GUID names the range holding `blob` -/
structure RawQuote (report table : Bytes) (pre : List Hdr) (hg : Hdr) (post : List Hdr) (body blob : Bytes) : Prop where
  size : report.length = reportSize
  accepted : reportAccepted report = true
  version : VersionOk report
  wf : TableOk table (pre ++ hg :: post) body
  guid : hg.guid = gceGuid
  last : ∀ h ∈ post, h.guid ≠ gceGuid
  blob : (table.drop hg.off).take hg.len = blob

/-- any text the protobuf decoders do not claim and that the hex / base64 attempt turns into report ++ table, the raw
    bytes themselves included -/
theorem text_reading (X : Protos) {report table : Bytes} {pre post : List Hdr} {hg : Hdr} {body blob : Bytes}
    (q : RawQuote report table pre hg post body blob) (t : Bytes) (hp : protoRejects X t)
    (hd : textDecode goVariant t = report ++ table) :
    ∃ a, attestation X t = .ok a ∧ teeOf a = some (.sev (reportMeasurement report) (some blob)) := by
  have hne : t.length ≠ 0 := fun h0 => by
    rw [List.eq_nil_of_length_eq_zero h0] at hd
    have : 0 = (report ++ table).length := congrArg List.length hd
    rw [List.length_append, q.size] at this
    simp only [reportSize] at this
    omega
  refine ⟨.sevRaw (reportMeasurement report) (entriesOf table (pre ++ hg :: post)), ?_, ?_⟩
  · rw [attestation_text X t hne hp, hd]
    exact rawFormats_report_table q.wf X q.size q.accepted
  · simp only [teeOf, extrasGet_gce table pre post hg q.guid q.last, q.blob]

/-- extract.Attestation on the RAW bytes report ++ table: the SEV-SNP reading with the report's measurement
    and, under the GCE GUID, exactly the bytes of the entry — for every report the ABI parser accepts, every
    well-formed table, every blob (any length, any first / last byte). -/
theorem C16_wire_raw_attestation_exact (X : Protos) (L : ProtoLaws X) {report table : Bytes} {pre post : List Hdr}
    {hg : Hdr} {body blob : Bytes} (q : RawQuote report table pre hg post body blob) :
    ∃ a, attestation X (report ++ table) = .ok a ∧ teeOf a = some (.sev (reportMeasurement report) (some blob)) :=
  text_reading X q _
    (by obtain ⟨v, rest, rfl, hv⟩ := q.version; exact L.field0 v _ (by rcases hv with rfl | rfl <;> decide))
    (textDecode_of_zero _ (List.mem_append_left _ (zero_mem_of_reportAccepted report q.accepted)))

/-- the same for the certificate table ALONE (the protobuf decoders and the report reading must not claim the
    bytes: see C16_wire_proto_reading_wins / C16_wire_report_reading_wins), with `Measurement: []byte{0}` -/
theorem C16_wire_table_attestation_exact (X : Protos) {table : Bytes} {pre post : List Hdr} {hg : Hdr} {body blob : Bytes}
    (w : TableOk table (pre ++ hg :: post) body) (hk : hg.guid = gceGuid) (hlast : ∀ h ∈ post, h.guid ≠ gceGuid)
    (hblob : (table.drop hg.off).take hg.len = blob)
    (hp : protoRejects X table) (hnr : reportAccepted (table.take reportSize) = false) :
    ∃ a, attestation X table = .ok a ∧ teeOf a = some (.sev [0] (some blob)) :=
  ⟨_, attestation_table w X hp hnr, by simp only [teeOf, extrasGet_gce table pre post hg hk hlast, hblob]⟩

/-! ## extract.Endorsement -/

/-- Model/Extract's extract.Endorsement with the quote READ FROM ITS BYTES, no event log, no forced fetch (any
    provider, getter, reader) -/
def endorsementOfQuote (v : Variant) (X : Protos) (env : Extract.Env) (o : Extract.Options) (quote : Bytes) : Extract.Res :=
  Extract.endorsement env { o with quote := quoteTee v X quote, eventLog := none, forceFetch := false }

theorem endorsement_of_tee {v : Variant} {X : Protos} {env : Extract.Env} {o : Extract.Options} {quote m blob : Bytes}
    (h : ∃ a, attestationWith v X quote = .ok a ∧ teeOf a = some (.sev m (some blob))) (hb : blob ≠ []) :
    endorsementOfQuote v X env o quote = { out := .ok blob, urls := [], paths := [], provCalls := 0 } := by
  obtain ⟨a, ha, ht⟩ := h
  rw [endorsementOfQuote, Extract.endorsement_skip_eventlog env _ (Or.inl rfl),
    Extract.quotePhase_supplied_entry env _ [] [] m blob rfl (by simp only [quoteTee, ha, ht])
      (List.isEmpty_eq_false_iff.mpr hb)]

/-- C16 on the raw quote: Endorsement with Quote = report ++ table and no event log returns exactly `blob`
    (a non-empty one: Go's `len(endorsement) > 0`), asks no getter, opens no path, calls no provider. -/
theorem C16_wire_raw_blob_exact (X : Protos) (L : ProtoLaws X) (env : Extract.Env) (o : Extract.Options)
    {report table : Bytes} {pre post : List Hdr} {hg : Hdr} {body blob : Bytes}
    (q : RawQuote report table pre hg post body blob) (hb : blob ≠ []) :
    endorsementOfQuote goVariant X env o (report ++ table) = { out := .ok blob, urls := [], paths := [], provCalls := 0 } :=
  endorsement_of_tee (C16_wire_raw_attestation_exact X L q) hb

theorem C16_wire_table_blob_exact (X : Protos) (env : Extract.Env) (o : Extract.Options)
    {table : Bytes} {pre post : List Hdr} {hg : Hdr} {body blob : Bytes}
    (w : TableOk table (pre ++ hg :: post) body) (hk : hg.guid = gceGuid) (hlast : ∀ h ∈ post, h.guid ≠ gceGuid)
    (hblob : (table.drop hg.off).take hg.len = blob)
    (hp : protoRejects X table) (hnr : reportAccepted (table.take reportSize) = false) (hb : blob ≠ []) :
    endorsementOfQuote goVariant X env o table = { out := .ok blob, urls := [], paths := [], provCalls := 0 } :=
  endorsement_of_tee (C16_wire_table_attestation_exact X w hk hlast hblob hp hnr) hb

/-! ## text forms -/

/-- every text that hex.DecodeString turns into report ++ table (lower, upper, mixed case) -/
theorem C16_wire_hextext_attestation_exact (X : Protos) {report table : Bytes} {pre post : List Hdr} {hg : Hdr}
    {body blob : Bytes} (q : RawQuote report table pre hg post body blob) (t : Bytes)
    (ht : HexB64.hexDecode t = some (report ++ table)) (hp : protoRejects X t) :
    ∃ a, attestation X t = .ok a ∧ teeOf a = some (.sev (reportMeasurement report) (some blob)) :=
  text_reading X q t hp (by simp only [textDecode, goVariant, id, ht])

/-- C16 through hex(report ++ table) -/
theorem C16_wire_hex_blob_exact (X : Protos) (env : Extract.Env) (o : Extract.Options)
    {report table : Bytes} {pre post : List Hdr} {hg : Hdr} {body blob : Bytes}
    (q : RawQuote report table pre hg post body blob) (hb : blob ≠ [])
    (hp : protoRejects X (HexB64.hexEncode (report ++ table))) :
    endorsementOfQuote goVariant X env o (HexB64.hexEncode (report ++ table))
      = { out := .ok blob, urls := [], paths := [], provCalls := 0 } :=
  endorsement_of_tee (C16_wire_hextext_attestation_exact X q _ (hexDecode_hexEncode _) hp) hb

theorem C16_wire_hex_upper_blob_exact (X : Protos) (env : Extract.Env) (o : Extract.Options)
    {report table : Bytes} {pre post : List Hdr} {hg : Hdr} {body blob : Bytes}
    (q : RawQuote report table pre hg post body blob) (hb : blob ≠ [])
    (hp : protoRejects X (hexEncodeUpper (report ++ table))) :
    endorsementOfQuote goVariant X env o (hexEncodeUpper (report ++ table))
      = { out := .ok blob, urls := [], paths := [], provCalls := 0 } :=
  endorsement_of_tee (C16_wire_hextext_attestation_exact X q _ (hexDecode_hexEncodeUpper _) hp) hb

/-- the base64 text of a version 2 / 3 report is never a hex text: its second character is 'g' or 'w' -/
theorem b64_not_hex (report tail t : Bytes) (h : VersionOk report) (ht : dropNL t = b64Encode (report ++ tail)) :
    HexB64.hexDecode t = none := by
  obtain ⟨v, rest, rfl, hv⟩ := h
  have hm : b64Char (v.toNat % 4 * 16 + (0 : UInt8).toNat / 16) ∈ dropNL t := by
    rw [ht]; exact List.mem_cons_of_mem _ List.mem_cons_self
  exact hexDecode_none_of_mem t _ (List.mem_filter.mp hm).1 (by rcases hv with rfl | rfl <;> decide)

/-- every text that is base64(report ++ table) with CR / LF inserted anywhere -/
theorem C16_wire_b64text_attestation_exact (X : Protos) {report table : Bytes} {pre post : List Hdr} {hg : Hdr}
    {body blob : Bytes} (q : RawQuote report table pre hg post body blob) (t : Bytes)
    (ht : dropNL t = b64Encode (report ++ table)) (hp : protoRejects X t) :
    ∃ a, attestation X t = .ok a ∧ teeOf a = some (.sev (reportMeasurement report) (some blob)) :=
  text_reading X q t hp (by
    simp only [textDecode, goVariant, id, b64_not_hex report table t q.version ht, b64Decode_of_dropNL t _ ht])

/-- C16 through base64(report ++ table) -/
theorem C16_wire_base64_blob_exact (X : Protos) (env : Extract.Env) (o : Extract.Options)
    {report table : Bytes} {pre post : List Hdr} {hg : Hdr} {body blob : Bytes}
    (q : RawQuote report table pre hg post body blob) (hb : blob ≠ [])
    (hp : protoRejects X (b64Encode (report ++ table))) :
    endorsementOfQuote goVariant X env o (b64Encode (report ++ table))
      = { out := .ok blob, urls := [], paths := [], provCalls := 0 } :=
  endorsement_of_tee (C16_wire_b64text_attestation_exact X q _ (dropNL_b64Encode _) hp) hb

/-! ## what abi.CertTable.Marshal lays out is well formed -/

/-- for ANY list of (GUID, blob) pairs — blobs of any length and content — the table go-sev-guest's Marshal
    produces is well formed and reads back as exactly those pairs -/
theorem C16_wire_marshal_wellformed (es : List (Bytes × Bytes)) (hg : ∀ e ∈ es, e.1.length = 16)
    (hsmall : (marshal es).length < u32) :
    TableOk (marshal es) (layoutHdrs ((es.length + 1) * entrySize) es) (blobsOf es)
    ∧ unmarshal (marshal es) = .ok es := by
  obtain ⟨w, he⟩ := marshal_wellformed es hg hsmall
  exact ⟨w, by rw [(table_reads w).2.2, he]⟩

/-- extract.Attestation on a marshalled table alone: the blob stored last under the GCE GUID, whatever
    surrounds it -/
theorem C16_wire_marshal_table_exact (X : Protos) (before after : List (Bytes × Bytes)) (blob : Bytes)
    (hg : ∀ e ∈ before ++ (gceGuid, blob) :: after, e.1.length = 16)
    (hafter : ∀ e ∈ after, e.1 ≠ gceGuid)
    (hsmall : (marshal (before ++ (gceGuid, blob) :: after)).length < u32)
    (hp : protoRejects X (marshal (before ++ (gceGuid, blob) :: after)))
    (hnr : reportAccepted ((marshal (before ++ (gceGuid, blob) :: after)).take reportSize) = false) :
    ∃ a, attestation X (marshal (before ++ (gceGuid, blob) :: after)) = .ok a ∧ teeOf a = some (.sev [0] (some blob)) := by
  obtain ⟨w, he⟩ := marshal_wellformed _ hg hsmall
  refine ⟨_, attestation_table w X hp hnr, ?_⟩
  rw [he, teeOf, extrasGet_last before after blob hafter]

/-! ## the caller's bytes reach the decoders untouched -/

/-- Each raw decoder of the chain is applied to the caller's bytes themselves, or to exactly what
    hex.DecodeString / the base64 decoder make of the caller's bytes: no trimming, no normalisation. -/
def BytesUntouched (v : Variant) : Prop :=
  ∀ (X : Protos) (q : Bytes), q.length ≠ 0 → protoRejects X q →
    attestationWith v X q = rawFormats X
      (match HexB64.hexDecode q with
       | some d => d
       | none => match b64Decode q with
         | some d => d
         | none => q)

theorem C16_wire_bytes_untouched : BytesUntouched goVariant := by
  intro X q hne hp
  exact attestation_text X q hne hp

/-- decoders that refuse everything: an instance of the parameters that meets the laws -/
def noProtos : Protos :=
  ⟨fun _ => none, fun _ => none, fun _ => none, fun _ => none, fun _ => .err "tdx"⟩

theorem noProtos_laws : ProtoLaws noProtos where
  field0 := fun _ _ _ => ⟨rfl, rfl, rfl, rfl⟩
  tdxVersion := fun _ _ r h => by simp [noProtos] at h
  tdxShort := fun _ _ r h => by simp [noProtos] at h

/-- a table whose only entry is the GCE entry "A\n" -/
def trimWitness : Bytes := marshal [(gceGuid, [65, 10])]

/-- the variant of seeded/C16-G (`quote = bytes.TrimSpace(quote)` before the hex attempt) is a counter-model:
    the raw decoders do not see the caller's bytes -/
theorem C16_wire_trim_is_countermodel : ¬ BytesUntouched trimVariant := by
  intro h
  have := h noProtos trimWitness (by decide) ⟨rfl, rfl, rfl, rfl⟩
  revert this
  decide +kernel

/-- … and what that costs: an entry that ends in '\n' at the end of the table is returned by the code as it
    is, and is lost (the table's last range now points outside the bytes) with the trim -/
theorem C16_wire_trim_breaks :
    (∃ a, attestation noProtos trimWitness = .ok a ∧ teeOf a = some (.sev [0] (some [65, 10])))
    ∧ attestationWith trimVariant noProtos trimWitness = .err "unknown-format" := by
  constructor
  · exact ⟨.sevRaw [0] [(gceGuid, [65, 10])], by decide +kernel, by decide +kernel⟩
  · decide +kernel

/-! ## which reading wins -/

/-- protobuf first: bytes that proto.Unmarshal accepts as an attest.Attestation are that, whatever the hex,
    base64 or raw readings of the same bytes would be (a hex text such as "3030" is a well-formed message of
    unknown fields) -/
theorem C16_wire_proto_reading_wins (v : Variant) (X : Protos) (q : Bytes) (t : Tee) (hne : q.length ≠ 0)
    (h : X.unmarshalTpm q = some t) : attestationWith v X q = .ok (.proto t) := by
  simp only [attestationWith, hne, if_false, h]

/-- hex before base64: every hex text of a length divisible by four is also a base64 text; the hex reading is
    taken -/
theorem C16_wire_hex_wins_over_base64 (q d : Bytes) (h : HexB64.hexDecode q = some d) : textDecode goVariant q = d := by
  simp only [textDecode, goVariant, id, h]

example : HexB64.hexDecode [48, 48, 48, 48] = some [0, 0] ∧ b64Decode [48, 48, 48, 48] = some [0xd3, 0x4d, 0x34] := by decide +kernel

/-- a quote that one of the raw SEV-SNP decoders accepts is never taken for text: an accepted report has its
    must-be-zero bytes, a table its terminator, and a zero byte is neither a hex digit nor base64 -/
theorem C16_wire_raw_never_text (q : Bytes)
    (h : reportAccepted q = true ∨ (q ≠ [] ∧ checkCertTable q = true)) : textDecode goVariant q = q := by
  apply textDecode_of_zero
  rcases h with h | ⟨hne, h⟩
  · exact zero_mem_of_reportAccepted q h
  · exact zero_mem_of_checkCertTable q hne h

/-- report + table before table alone: bytes whose first 1184 read as a report and whose rest passes as a
    table are read that way, even if the whole is also a well-formed table (a crafted first GUID can carry the
    policy bits; stream c16wire has such a table) -/
theorem C16_wire_report_reading_wins (X : Protos) (q : Bytes) (es : List (Bytes × Bytes))
    (hl : reportSize ≤ q.length) (ha : reportAccepted (q.take reportSize) = true)
    (hc : checkCertTable (q.drop reportSize) = true) (hu : unmarshal (q.drop reportSize) = .ok es) :
    rawFormats X q = .ok (.sevRaw (reportMeasurement q) es) := by
  simp only [rawFormats, reportCertsToProto, hl, if_true, hc, ha, hu]

/-- two entries under the GCE GUID: extract.Attestation / Endorsement return the LAST (abi.CertTable.Proto
    fills a map), extractsev.FromCertTable the FIRST (abi.CertTable.GetByGUIDString) -/
theorem C16_wire_duplicate_last_wins (l1 l2 : List (Bytes × Bytes)) (b : Bytes) (h2 : ∀ e ∈ l2, e.1 ≠ gceGuid) :
    extrasGet (l1 ++ (gceGuid, b) :: l2) gceGuid = some b := extrasGet_last l1 l2 b h2

theorem C16_wire_duplicate_first_wins (l1 l2 : List (Bytes × Bytes)) (b : Bytes) (h1 : ∀ e ∈ l1, e.1 ≠ gceGuid) :
    lookupFirst (l1 ++ (gceGuid, b) :: l2) gceGuid = some b := lookupFirst_first gceGuid b l2 l1 h1

example : extrasGet [(gceGuid, [1]), (gceGuid, [2])] gceGuid = some [2]
    ∧ fromCertTable (marshal [(gceGuid, [1]), (gceGuid, [2])]) = .ok [1] := by decide +kernel

/-! ## totality of the byte-level part -/

/-- No decoder of the byte-level part panics, on ANY byte string (with the repair of this property in
    extractsev.CheckCertTable: go-sev-guest adds Offset + Length in 32 bits, and the check in front of it
    keeps every range end below 2^32 whatever the length of the table). -/
theorem C16_wire_no_panic (X : Protos) (q : Bytes) (s : String) : attestation X q ≠ .panic s := by
  rw [attestation, attestationWith]
  split
  · nofun
  split
  · nofun
  split
  · split
    · nofun
    · exact afterSevAtt_no_panic X q s
  · exact afterSevAtt_no_panic X q s

/-- the check as it was lets a range through that ends beyond 2^32 in a table longer than that; go-sev-guest
    then slices from the offset to the wrapped end: `certs[4294967286:10]` (confirmed on the real code with a
    table of 2^32 + 58 bytes: "slice bounds out of range [4294967286:10]") -/
theorem C16_wire_old_check_lets_wrap_through (n : Nat) (hn : 4294967306 ≤ n) :
    checkRangesOld n 0 [⟨gceGuid, 4294967286, 20⟩] = true
    ∧ checkRanges n 0 [⟨gceGuid, 4294967286, 20⟩] = false
    ∧ ∀ certs : Bytes, certs.length = n → n % u32 ≥ 10 →
        entryBlob certs ⟨gceGuid, 4294967286, 20⟩ = .panic "abi.CertTable.Unmarshal:slice" := by
  refine ⟨?_, ?_, fun certs hl hm => ?_⟩
  · simp only [checkRangesOld]
    rw [if_neg (by omega), if_neg (by omega)]
  · simp only [checkRanges]
    rw [if_neg (by omega), if_pos (by decide)]
  · simp only [entryBlob, show (4294967286 + 20) % u32 = 10 by decide, hl]
    rw [if_neg (by omega), if_pos (by decide)]

/-- the GUID bytes the model keys on are the regenerated sev.GCEFwCertGUID in uuid.UUID.String() form -/
theorem C16_wire_gce_guid : Extract.uuidString gceGuid = Gen.Names.gceFwCertGUID := by decide +kernel

/-! ## non-vacuity: a concrete raw quote -/

def exReport : Bytes := [2, 0, 0, 0] ++ zeros 4 ++ [0, 0, 2, 0, 0, 0, 0, 0] ++ zeros 1168
def exTable : Bytes := marshal [(vcekGuid, [1, 2, 3]), (gceGuid, [32, 65, 10]), (arkGuid, [9])]

theorem exReport_length : exReport.length = reportSize := by
  simp only [exReport, List.length_append, zeros_length, List.length_cons, List.length_nil, reportSize]

theorem exReport_accepted : reportAccepted exReport = true := by
  simp only [reportAccepted, exReport_length, Nat.le_refl, decide_true, Bool.true_and]
  decide +kernel

example : ∃ pre hg post body, RawQuote exReport exTable pre hg post body [32, 65, 10] := by
  obtain ⟨w, _⟩ := marshal_wellformed [(vcekGuid, [1, 2, 3]), (gceGuid, [32, 65, 10]), (arkGuid, [9])]
    (by decide +kernel) (by decide +kernel)
  exact ⟨[⟨vcekGuid, 96, 3⟩], ⟨gceGuid, 99, 3⟩, [⟨arkGuid, 102, 1⟩], _,
    ⟨exReport_length, exReport_accepted, ⟨2, _, rfl, Or.inl rfl⟩, w, rfl, by decide +kernel, by decide +kernel⟩⟩

/-- the raw quote of the seeded scenario: report ++ table whose GCE entry "A\n" ends the quote -/
def trimQuote : Bytes := exReport ++ marshal [(gceGuid, [65, 10])]

/-- with the TrimSpace variant the report + table quote is not readable at all … -/
theorem C16_wire_trim_breaks_raw_quote : attestationWith trimVariant noProtos trimQuote = .err "unknown-format" := by
  decide +kernel

/-- … while the code as it is returns the entry, newline included: `C16_wire_raw_attestation_exact` at this quote -/
theorem C16_wire_trim_breaks_raw_quote_go :
    (match attestation noProtos trimQuote with
     | .ok a => teeOf a
     | _ => none) = some (.sev (zeros 48) (some [65, 10])) := by
  obtain ⟨w, _⟩ := marshal_wellformed [(gceGuid, [65, 10])] (by decide) (by decide)
  obtain ⟨a, ha, ht⟩ := C16_wire_raw_attestation_exact noProtos noProtos_laws (pre := []) (post := [])
    ⟨exReport_length, exReport_accepted, ⟨2, _, rfl, Or.inl rfl⟩, w, rfl, nofun, rfl⟩
  have hm : reportMeasurement exReport = zeros 48 := by decide +kernel
  rw [trimQuote, ha, ← hm]
  exact ht

/-- 1184 bytes that are BOTH a well-formed certificate table (first GUID 02 00 00 00 | 00 00 00 00 | 00 00 02 00 …
    carries version 2 and the policy's reserved bit; the GCE entry's 64 bytes lie where a report has its
    REPORT_DATA) AND a report that abi.ReportToProto accepts -/
def tableOrReport : Bytes :=
  [2, 0, 0, 0, 0, 0, 0, 0, 0, 0, 2, 0, 0, 0, 0, 0] ++ le32 72 ++ le32 8 ++ gceGuid ++ le32 80 ++ le32 64
    ++ zeros 24 ++ zeros 8 ++ List.replicate 64 65 ++ zeros 1040

/-- the report reading is taken (no certificates), not the table reading (which has the GCE entry) -/
theorem C16_wire_table_or_report_witness :
    rawFormats noProtos tableOrReport = .ok (.sevRaw (List.replicate 48 0) [])
    ∧ (match tableOrTdx noProtos tableOrReport with
       | .ok a => teeOf a
       | _ => none) = some (.sev [0] (some (List.replicate 64 65))) := by
  decide +kernel

/-! ## the chain of C07 -/

/-- Model/DecTotal's extract.Attestation (for which Props/C07Dec proves: no panic, bounded work, for every
    instance of its third-party parameters) with the hex, base64 and certificate-table parameters instantiated
    by the models of this property IS this chain, on every quote below 4 GiB. -/
theorem C16_wire_is_C07_chain {Cert Roots Time : Type} (P : Parsers Cert Roots Time) (q : Bytes) (hs : q.length < u32) :
    (DecTotal.attestation (wireParsers P) q).out = mapOut toTee (attestation (protosOf P) q) :=
  attestation_bridge P q hs

/-! ## tables beyond the line protocol -/

/-- the evaluation the driver uses for tables longer than 4 GiB (op `tblbig`: the header as bytes, the rest of
    the table zero) IS the model's CheckCertTable / FromCertTable on that table -/
theorem C16_wire_sparse_is_model (pre : Bytes) (k : Nat) (es : List Hdr) (hh : headerLoop (pre.length + 1) pre = some es) :
    fromCertTableSparse false pre (pre.length + k) = (checkCertTable (pre ++ zeros k), fromCertTable (pre ++ zeros k)) := by
  have hlen := (headerLoop_some hh).1
  have hloop := headerLoop_mono (zeros k) k _ _ es hh
  rw [Nat.add_right_comm] at hloop
  simp only [fromCertTableSparse, hh, fromCertTable, checkCertTable, unmarshal, parseHeader, List.length_append, zeros_length,
    if_neg (show ¬ pre.length + k = 0 by simp only [entrySize] at hlen; omega), hloop, Bool.false_eq_true, if_false]
  generalize es.all _ = a
  cases a
  · rfl
  simp only [if_true, Bool.true_and]
  cases hc : checkRanges (pre.length + k) 0 es
  · rfl
  · simp only [if_true, Bool.not_true, Bool.false_eq_true, if_false,
      unmarshalSparse_eq pre k es fun e he => (checkRanges_sound _ es 0 hc e he).1]

example : fromCertTableSparse true (gceGuid ++ le32 4294967286 ++ le32 20 ++ zeros 24) 4294967354
    = (true, .panic "abi.CertTable.Unmarshal:slice")
  ∧ fromCertTableSparse false (gceGuid ++ le32 4294967286 ++ le32 20 ++ zeros 24) 4294967354 = (false, .err "check") := by
  decide +kernel

end GceTcb.AttestChain
