import GceTcb.Proofs.EndorseCli
import GceTcb.Props.C06
import GceTcb.Gen.EndorseFlags
import GceTcb.Proofs.ProtoWire
/-
C06 at the command line — the document the `endorse` COMMAND signs describes the image and the command line.

`cliRun P Pr T E fl keys vcs vcss` (Model/EndorseCli.lean) is the whole command: cobra's flag values `fl`, the
file system and environment `E` → `ecOf` (flag parsing, PersistentPreRunE, InitContext: the endorse.Context)
→ `requestOf` → `VF.virtualFirmware` (the pipeline model of C06 / C15).  The theorems hold for every command
line, file system, environment, parameter (`kds.ParseProductLine`, `time.Parse`, `proto.Unmarshal`,
`uuid.Parse`, the measurement functions, SHA-384), key material and back-end behaviour.
-/
namespace GceTcb.EndorseCli
open GceTcb GceTcb.Endorse GceTcb.Endorse.Spec GceTcb.VF

/-- The model's flag table is the table the extractor reads off the `…Var(&dest, "name", default, …)` calls of
    endorseCommand.AddFlags (through the helpers of cmd/flags.go) and output.Options.AddFlags: a new flag, a
    changed default or a flag bound to another field breaks this. -/
theorem C06_cli_flag_table : flagTable = Gen.EndorseFlags.flags := rfl

/-- The defaults the model's command-line record starts from are the defaults of the table. -/
theorem C06_cli_defaults :
    ∀ row ∈ renderDefaults {}, ∃ t ∈ flagTable, t.1 = row.1 ∧ t.2.2.1 = row.2 := by decide +kernel

/-- `kds.ParseProductLine` as the extractor observes it on the linked function agrees with the model's table on
    every probed spelling; the default product, the SHA-1 size and the measurement size are the linked values. -/
theorem C06_cli_product_table :
    (∀ p ∈ Gen.EndorseFlags.productLines, (productTable.find? (fun q => q.1 == p.1)).map (·.2) = p.2) ∧
    defaultProduct = Gen.EndorseFlags.defaultProduct ∧ sha1Size = Gen.EndorseFlags.sha1Size ∧
    measurementSize = Gen.EndorseFlags.measurementSize := by decide +kernel

/-- The functions the model was written from still have the statement skeleton it was written from: order of
    the checks in PersistentPreRunE, InitContext, scrtmMain, validateSnpFlags, timeFlag.Set,
    amdProductFlag.Set; the two side-file spellings; the composition order and the function RunE runs. -/
theorem C06_cli_source_skeleton :
    Skeleton.preRunSteps = Gen.EndorseFlags.preRunSteps ∧ Skeleton.initSteps = Gen.EndorseFlags.initSteps ∧
    Skeleton.scrtmSteps = Gen.EndorseFlags.scrtmSteps ∧
    Skeleton.validateSnpSteps = Gen.EndorseFlags.validateSnpSteps ∧
    Skeleton.timeSetSteps = Gen.EndorseFlags.timeSetSteps ∧
    Skeleton.productSetSteps = Gen.EndorseFlags.productSetSteps ∧
    Skeleton.scrtmSpellings = Gen.EndorseFlags.scrtmSpellings ∧
    Skeleton.composeOrder = Gen.EndorseFlags.composeOrder ∧ Skeleton.composeRun = Gen.EndorseFlags.composeRun ∧
    Skeleton.persistentPreRunE = Gen.EndorseFlags.persistentPreRunE ∧
    Skeleton.ecAllocated = Gen.EndorseFlags.ecAllocated ∧ Skeleton.uefiSuffix = Gen.EndorseFlags.uefiSuffix :=
  ⟨rfl, rfl, rfl, rfl, rfl, rfl, rfl, rfl, rfl, rfl, rfl, rfl⟩

/-- First spelling `<stem>_scrtm_ver.pb` readable and non-empty: its version is THE version, whatever the
    second spelling holds. -/
theorem C06_cli_side_first (P : Params) (E : Env) (uefi : String) (b : Bytes) (v : Nat)
    (h1 : E.readFile (sidePath1 uefi) = some b) (hb : b ≠ []) (hv : P.unmarshalScrtm b = some v) :
    scrtmMain P E uefi = .ok (true, v) ∧ sideSvn P E uefi = v := by
  unfold sidePath1 at h1
  exact ((scrtmMain_read P E uefi b (by simp only [scrtmPaths, readFirst, h1])).2 hb).1 v hv

/-- First spelling unreadable, second spelling `<image>.scrtm.pb` readable and non-empty: its version. -/
theorem C06_cli_side_second (P : Params) (E : Env) (uefi : String) (b : Bytes) (v : Nat)
    (h1 : E.readFile (sidePath1 uefi) = none) (h2 : E.readFile (sidePath2 uefi) = some b) (hb : b ≠ [])
    (hv : P.unmarshalScrtm b = some v) :
    scrtmMain P E uefi = .ok (true, v) ∧ sideSvn P E uefi = v := by
  unfold sidePath1 at h1
  unfold sidePath2 at h2
  exact ((scrtmMain_read P E uefi b (by simp only [scrtmPaths, readFirst, h1, h2])).2 hb).1 v hv

/-- No side file in either spelling: no version, SVN 0. -/
theorem C06_cli_side_absent (P : Params) (E : Env) (uefi : String)
    (h1 : E.readFile (sidePath1 uefi) = none) (h2 : E.readFile (sidePath2 uefi) = none) :
    scrtmMain P E uefi = .ok (false, 0) ∧ sideSvn P E uefi = 0 := by
  unfold sidePath1 at h1
  unfold sidePath2 at h2
  exact (scrtmMain_read P E uefi [] (by simp only [scrtmPaths, readFirst, h1, h2])).1 rfl

/-- The side file that is consulted does not decode: the command is refused (never a guessed SVN). -/
theorem C06_cli_side_corrupt (P : Params) (Pr : Prims) (T : Tables) (E : Env) (fl : CliFlags) (keys : Option Keys)
    (vcs : Option (List Commit.Attempt)) (vcss : List (List Commit.Attempt))
    (hne : readFirst E (scrtmPaths fl.uefi) ≠ []) (hv : P.unmarshalScrtm (readFirst E (scrtmPaths fl.uefi)) = none) :
    (cliRun P Pr T E fl keys vcs vcss).effects = [] ∧ (cliRun P Pr T E fl keys vcs vcss).result.isOk = false := by
  rcases cliRun_cases P Pr T E fl keys vcs vcss with ⟨_, he, e, hr⟩ | ⟨commit, ts, prod, ok, v, img, svsm, m, A, _, _⟩
  · exact ⟨he, by rw [hr]; rfl⟩
  · have := A.sideFile
    rw [((scrtmMain_read P E fl.uefi _ rfl).2 hne).2 hv] at this
    cases this

/-- For an image `<stem>.fd` the first spelling is `<stem>_scrtm_ver.pb` beside it — whatever the directory
    names contain (the defect repaired by `fix: the S_CRTM side file <stem>_scrtm_ver.pb is looked up beside
    the image` was a first-occurrence replacement). -/
theorem C06_cli_side_path (stem : String) : sidePath1 (stem ++ ".fd") = stem ++ "_scrtm_ver.pb" := by
  unfold sidePath1 trimSuffix
  have h : (".fd".toList).isSuffixOf (stem ++ ".fd").toList = true := by
    rw [String.toList_append, List.isSuffixOf_iff_suffix]
    exact List.suffix_append _ _
  rw [if_pos h, String.toList_append, List.length_append]
  simp

/-- The stored product after all `--snp_product` occurrences: none given → the default (Milan);
    otherwise an empty value changes nothing and a non-empty one must parse and wins. -/
theorem C06_cli_product_rules (P : Params) (cur : Nat) (v : String) (vs : List String) :
    productSetAll P cur [] = .ok cur ∧
    productSetAll P cur ("" :: vs) = productSetAll P cur vs ∧
    (∀ p, v ≠ "" → P.parseProduct v = some p → productSetAll P cur (v :: vs) = productSetAll P p vs) ∧
    (v ≠ "" → P.parseProduct v = none → productSetAll P cur (v :: vs) = .err "parse:product") := by
  refine ⟨rfl, ?_, ?_, ?_⟩
  · simp [productSetAll, productSet]
  · intro p hv hp
    simp [productSetAll, productSet, hv, hp]
  · intro hv hp
    simp [productSetAll, productSet, hv, hp]

/-- The stored time after all `--timestamp` occurrences (Go's zero time = "not set"): an empty value changes
    nothing; the first non-empty value must parse and is stored; once a non-zero time is stored any further
    occurrence is an error. -/
theorem C06_cli_timestamp_rules (P : Params) (v : String) (vs : List String) (t : Int × Nat) :
    timeSetAll P zeroTime [] = .ok zeroTime ∧
    timeSetAll P zeroTime ("" :: vs) = timeSetAll P zeroTime vs ∧
    (v ≠ "" → P.parseTime v = some t → timeSetAll P zeroTime (v :: vs) = timeSetAll P t vs) ∧
    (v ≠ "" → P.parseTime v = none → timeSetAll P zeroTime (v :: vs) = .err "parse:timestamp") ∧
    (t ≠ zeroTime → timeSetAll P t (v :: vs) = .err "parse:time-already-set") := by
  refine ⟨rfl, ?_, ?_, ?_, ?_⟩
  · simp [timeSetAll, timeSet]
  · intro hv hp
    simp [timeSetAll, timeSet, hv, hp]
  · intro hv hp
    simp [timeSetAll, timeSet, hv, hp]
  · intro ht
    simp [timeSetAll, timeSet, ht]

/-- For every accepted command line the endorse.Context handed to the pipeline carries: a section for
    exactly the technologies added; in EVERY one of them the SVN of the side file (0 when there is none); the
    product, VMSA count, ids, machine shapes and early-accept flag named on the command line; clspec and the
    decoded --commit; the --timestamp, or the time of the run when none (or the zero time) is given; the bytes
    of the file at --uefi and its base name; the SVSM inputs; and the mode flags, directories, candidate name
    and retry budget unchanged. -/
theorem C06_cli_request (P : Params) (U : String → Option Bytes) (E : Env) (fl : CliFlags) (ec : EC) (ow : Bool)
    (h : ecOf P U E fl = .ok (ec, ow)) :
    (ec.snp.isSome = fl.addSnp ∧ ec.tdx.isSome = fl.addTdx) ∧
    (∀ r, ec.snp = some r → r.svn = sideSvn P E fl.uefi ∧ r.familyId = fl.snpFamilyId ∧
        r.imageId = fl.snpImageId ∧ r.launchVmsas = fl.snpLaunchVmsas ∧
        productSetAll P defaultProduct fl.snpProduct = .ok r.product) ∧
    (∀ t, ec.tdx = some t → t.svn = sideSvn P E fl.uefi ∧
        t.includeEarlyAccept = fl.tdxIncludeEarlyAccept ∧ t.machineShapes = fl.tdxMachineShapes) ∧
    (ec.clSpec = fl.clspec ∧ hexDecode fl.commit = some ec.commit) ∧
    (∃ ts, timeSetAll P zeroTime fl.timestamp = .ok ts ∧ ec.timestamp = if ts = zeroTime then E.now else ts) ∧
    (E.readFile fl.uefi = some ec.image ∧ ec.imageName = pathBase fl.uefi) ∧
    (readSvsm E fl.svsmPath = .ok ec.svsmImage ∧
      readSvsmMeasurement P E fl.svsmSnpMeasurementPath = .ok ec.svsmSnpMeasurement) ∧
    (ec.dryRun = fl.dryRun ∧ ec.measurementOnly = fl.measurementOnly ∧ ow = fl.overwrite ∧
      ec.snapshotDir = fl.snapshotDir ∧ ec.candidateName = fl.candidateName ∧ ec.outDir = fl.outDir ∧
      ec.commitRetries = fl.commitRetries ∧ ec.releaseBranch = fl.releaseBranch) := by
  obtain ⟨commit, ts, prod, ok, v, img, svsm, m, A, rfl, rfl⟩ := (ecOf_ok_explicit P U E fl ec ow).mp h
  have hsv : (if ok = true then v else 0) = sideSvn P E fl.uefi := by
    unfold sideSvn
    rw [A.sideFile]
    cases ok <;> rfl
  refine ⟨⟨?_, ?_⟩, ?_, ?_, ⟨rfl, A.commitHex⟩, ⟨ts, A.time, ?_⟩, ⟨A.image, rfl⟩, ⟨A.svsmImage, A.svsmMeasurement⟩,
    ⟨rfl, rfl, rfl, rfl, rfl, rfl, rfl, rfl⟩⟩
  · rw [ecFinal_snp]
    cases fl.addSnp <;> rfl
  · rw [ecFinal_tdx]
    cases fl.addTdx <;> rfl
  · intro r hr
    rw [ecFinal_snp] at hr
    split at hr
    · cases hr; exact ⟨hsv, rfl, rfl, rfl, A.product⟩
    · cases hr
  · intro t ht
    rw [ecFinal_tdx] at ht
    split at ht
    · cases ht; exact ⟨hsv, rfl, rfl⟩
    · cases ht
  · exact ecFinal_timestamp E fl commit ts prod ok v img svsm m

/-- The common cases spelled out: one `--timestamp v` that parses to a non-zero time is the request's (and the
    document's) timestamp; no `--timestamp` at all means the time of the run; one `--snp_product v` kds knows is
    the product measured for; no `--snp_product` means Milan. -/
theorem C06_cli_single_values (P : Params) (U : String → Option Bytes) (E : Env) (fl : CliFlags) (ec : EC) (ow : Bool)
    (h : ecOf P U E fl = .ok (ec, ow)) :
    (∀ v t, fl.timestamp = [v] → v ≠ "" → P.parseTime v = some t → t ≠ zeroTime → ec.timestamp = t) ∧
    (fl.timestamp = [] → ec.timestamp = E.now) ∧
    (∀ v p r, fl.snpProduct = [v] → v ≠ "" → P.parseProduct v = some p → ec.snp = some r → r.product = p) ∧
    (∀ r, fl.snpProduct = [] → ec.snp = some r → r.product = 1) := by
  obtain ⟨_, hsnp, _, _, ⟨ts, hts, htse⟩, _⟩ := C06_cli_request P U E fl ec ow h
  refine ⟨?_, ?_, ?_, ?_⟩
  · intro v t hv hne hp hz
    rw [hv] at hts
    simp only [timeSetAll, timeSet, hne, hp, if_true, if_false] at hts
    cases hts
    rw [htse, if_neg hz]
  · intro hv
    rw [hv] at hts
    cases hts
    rw [htse, if_pos rfl]
  · intro v p r hv hne hp hr
    have := (hsnp r hr).2.2.2.2
    rw [hv] at this
    simp only [productSetAll, productSet, hne, hp, if_false] at this
    cases this; rfl
  · intro r hv hr
    have := (hsnp r hr).2.2.2.2
    rw [hv] at this
    simp only [productSetAll, Outcome.ok.injEq] at this
    exact this.symm

/-- What the trial change `seeded/C06-B` (the side file's SVN reaches only one technology when both are endorsed)
    breaks: with BOTH technologies added, both sections carry the same SVN — the side file's. -/
theorem C06_cli_svn_every_technology (P : Params) (U : String → Option Bytes) (E : Env) (fl : CliFlags) (ec : EC)
    (ow : Bool) (h : ecOf P U E fl = .ok (ec, ow)) (hs : fl.addSnp = true) (ht : fl.addTdx = true) :
    ∃ r t, ec.snp = some r ∧ ec.tdx = some t ∧ r.svn = sideSvn P E fl.uefi ∧ t.svn = sideSvn P E fl.uefi := by
  obtain ⟨⟨h1, h2⟩, h3, h4, _⟩ := C06_cli_request P U E fl ec ow h
  rw [hs] at h1
  rw [ht] at h2
  obtain ⟨r, hr⟩ := Option.isSome_iff_exists.mp h1
  obtain ⟨t, htt⟩ := Option.isSome_iff_exists.mp h2
  exact ⟨r, t, hr, htt, (h3 r hr).1, (h4 t htt).1⟩

/-- `--add_snp=false` drops every SNP flag value, `--add_tdx=false` every TDX one (with neither, the pipeline
    refuses before any effect: `C15_cli_no_technology`). -/
theorem C06_cli_dropped_technologies (P : Params) (U : String → Option Bytes) (E : Env) (fl : CliFlags) (ec : EC)
    (ow : Bool) (h : ecOf P U E fl = .ok (ec, ow)) :
    (fl.addSnp = false → ec.snp = none ∧ launchVmsasOf ec.snp = 0) ∧ (fl.addTdx = false → ec.tdx = none) := by
  obtain ⟨⟨h1, h2⟩, _⟩ := C06_cli_request P U E fl ec ow h
  constructor
  · intro hs
    have : ec.snp = none := by simpa [hs] using h1
    exact ⟨this, by rw [this]; rfl⟩
  · intro ht
    simpa [ht] using h2

/-- Every document the command hands to the signer describes the image at --uefi and the
    command line.  `img` is the content of the file at --uefi; the digest is its hash; clspec / commit /
    timestamp are the command line's (the time of the run when no timestamp is given); the SNP section exists
    iff --add_snp, carries the side file's SVN, the ids of the command line (default family, random image id
    when empty), one measurement per named count (the whole supported table for 0), each the launch digest of
    THIS image for that count and the named product; the TDX section exists iff --add_tdx, carries the side
    file's SVN and one (two with early accept) row per named shape in order plus the default row, each
    labelled and valued for this image (`WrittenRow`, see C06_tdx_rows / C06_no_placeholder). -/
theorem C06_cli_document (P : Params) (Pr : Prims) (T : Tables) (E : Env) (fl : CliFlags) (keys : Option Keys)
    (vcs : Option (List Commit.Attempt)) (vcss : List (List Commit.Attempt)) (hT : T.vmsaCounts.Nodup)
    (k : String) (d : Golden) (hsign : Eff.sign k d ∈ (cliRun P Pr T E fl keys vcs vcss).effects) :
    ∃ img commit ts prod,
      E.readFile fl.uefi = some img ∧ hexDecode fl.commit = some commit ∧
      timeSetAll P zeroTime fl.timestamp = .ok ts ∧ productSetAll P defaultProduct fl.snpProduct = .ok prod ∧
      fl.measurementOnly = false ∧
      d.digest = Pr.sha384 img ∧ d.clSpec = fl.clspec ∧ d.commit = commit ∧
      d.timestamp = some (if ts = zeroTime then E.now else ts) ∧
      (fl.addSnp = false → d.snp = none) ∧
      (fl.addSnp = true → ∃ s, d.snp = some s ∧ s.svn = sideSvn P E fl.uefi ∧
        s.measurements.map (·.1) = snpCounts T.vmsaCounts fl.snpLaunchVmsas ∧
        (∀ p ∈ s.measurements, Pr.launchDigest img p.1 prod = .ok p.2) ∧
        Pr.parseUuid (if fl.snpFamilyId = "" then T.familyId else fl.snpFamilyId) = some s.familyId ∧
        Pr.parseUuid (if fl.snpImageId = "" then E.rndImageId else fl.snpImageId) = some s.imageId ∧
        s.policy = T.policy ∧ readSvsmMeasurement P E fl.svsmSnpMeasurementPath = .ok s.svsm) ∧
      (fl.addTdx = false → d.tdx = none) ∧
      (fl.addTdx = true → ∃ t, d.tdx = some t ∧ t.svn = sideSvn P E fl.uefi ∧
        Paired (WrittenRow Pr T img) (tdxConfigs fl.tdxMachineShapes fl.tdxIncludeEarlyAccept) t.rows) := by
  rcases cliRun_cases P Pr T E fl keys vcs vcss with ⟨_, he, _⟩ | ⟨commit, ts', prod, ok, v, img', svsm, m, A, he, hrun⟩
  · rw [he] at hsign; cases hsign
  · rw [hrun] at hsign
    generalize ecFinal E fl commit ts' prod ok v img' svsm m = ec at he hsign
    obtain ⟨hmo, g, hg, hin⟩ := (sign_mem_iff Pr T _ keys _ _ vcs vcss k d).mp hsign
    obtain ⟨hd1, hd2, hd3, hd4, hd5, hd6⟩ := signDocEff_docs keys _ g k d hin
    obtain ⟨⟨ts1, ts2⟩, hsnp, htdx, ⟨hcl, hcm⟩, ⟨ts, hts, htse⟩, ⟨himg, _⟩, ⟨_, hsm⟩, _⟩ :=
      C06_cli_request P Pr.parseUuid E fl ec _ he
    have hdig := C06_digest Pr T _ g hg
    obtain ⟨hf1, hf2, hf3, hf4⟩ := C06_fields Pr T _ g hg
    obtain ⟨hk0, hk⟩ := C06_snp_keys Pr T _ g hT hg
    obtain ⟨hr0, hr⟩ := C06_tdx_rows Pr T _ g hg
    refine ⟨ec.image, ec.commit, ts, prod, himg, hcm, hts, A.product, hmo, ?_, ?_, ?_, ?_, ?_, ?_, ?_, ?_⟩
    · rw [hd1, hdig]; rfl
    · rw [hd4, hf1]; exact hcl
    · rw [hd5, hf2]; rfl
    · rw [hd6, htse]
    · intro hs
      rw [hd2]
      exact hk0 (by simpa [ctxOf, hs] using ts1)
    · intro hs
      rw [hs] at ts1
      obtain ⟨r, hr'⟩ := Option.isSome_iff_exists.mp ts1
      obtain ⟨s, hgs, hkeys, hvals⟩ := hk r hr'
      obtain ⟨e1, e2, e3, e4, e5⟩ := hsnp r hr'
      obtain ⟨f1, f2, f3, f4, f5⟩ := hf3 r s hr' hgs
      refine ⟨s, by rw [hd2]; exact hgs, by rw [f1, e1], by rw [hkeys, e4], ?_, ?_, ?_, f4, ?_⟩
      · intro p hp
        have := hvals p hp
        rwa [Outcome.ok.inj (e5.symm.trans A.product)] at this
      · rw [← f2]; unfold canonFamily; rw [e2]
      · rw [← f3]; unfold canonImage; rw [e3]; rfl
      · rw [f5]; exact hsm
    · intro ht
      rw [hd3]
      exact hr0 (by simpa [ctxOf, ht] using ts2)
    · intro ht
      rw [ht] at ts2
      obtain ⟨t, ht'⟩ := Option.isSome_iff_exists.mp ts2
      obtain ⟨dd, hgd, hsvn, hp⟩ := hr t ht'
      obtain ⟨e1, e2, e3⟩ := htdx t ht'
      refine ⟨dd, by rw [hd3]; exact hgd, by rw [hsvn, e1], ?_⟩
      rw [e2, e3] at hp
      exact hp

/-- The SCRTMVersion message `endorse` itself writes when it snapshots an image (`proto.Marshal` of
    `SCRTMVersion{Version: w}`: field 1 as a varint, omitted when zero) is read back by the Lean wire codec that
    instantiates `proto.Unmarshal` as `uint32(w)`, for every 64-bit `w` (an SVN ≥ 2^31 is a negative enum, which
    Go sign-extends to 64 bits before writing: `w = svn + 2^64 - 2^32`); in particular every SVN below 2^31
    round-trips, the empty file is version 0, and a truncated field is refused. -/
theorem C06_cli_scrtm_wire (w : Nat) :
    unmarshalScrtmWire (ProtoWire.encFields (ProtoWire.optVarint 1 w)) = some (w % 2 ^ 64 % 2 ^ 32) ∧
    (w < 2 ^ 31 → unmarshalScrtmWire (ProtoWire.encFields (ProtoWire.optVarint 1 w)) = some w) ∧
    unmarshalScrtmWire [] = some 0 ∧ unmarshalScrtmWire [8] = none := by
  have hgood : ∀ f ∈ ProtoWire.optVarint 1 w, f.Good := by
    intro f hf
    unfold ProtoWire.optVarint at hf
    split at hf
    · cases hf
    · simp only [List.mem_singleton] at hf
      subst hf
      exact ProtoWire.good_fVarint 1 w ⟨by decide, by decide⟩
  have main : unmarshalScrtmWire (ProtoWire.encFields (ProtoWire.optVarint 1 w)) = some (w % 2 ^ 64 % 2 ^ 32) := by
    unfold unmarshalScrtmWire
    rw [ProtoWire.decodeInto_encFields scrtmStep 0 _ hgood]
    have := ProtoWire.foldFields_optVarint scrtmStep 1 w 0 (fun _ x => x % 2 ^ 32) [] rfl rfl
    simpa [ProtoWire.foldFields] using this
  refine ⟨main, ?_, by decide, by decide⟩
  intro hw
  rw [main]
  congr 1
  omega

/-- An accepted command line with both technologies and both side-file spellings (in a directory whose name
    contains ".fd"): both requests carry SVN 5 (the first spelling's), product Genoa (2), the wall-clock time. -/
example :
    (match ecOf exParams exPrims.parseUuid exEnv exFlags with
     | .ok (ec, _) => (ec.snp.map (fun r => (r.svn, r.product, r.launchVmsas)), ec.tdx.map (·.svn), ec.timestamp,
         ec.imageName, ec.image)
     | _ => (none, none, (0, 0), "", [])) =
      (some (5, 2, 2), some 5, (42, 0), "fw.fd", [0xAA]) := by decide +kernel

/-- … and the refusals are reachable: unknown product, second timestamp, commit of 2 bytes, no ".fd", bad id. -/
example :
    errClass (ecOf exParams exPrims.parseUuid exEnv { exFlags with snpProduct := ["Rome"] }) = "parse:product" ∧
    errClass (ecOf exParams exPrims.parseUuid exEnv { exFlags with timestamp := ["T", "T"] }) = "parse:time-already-set" ∧
    errClass (ecOf exParams exPrims.parseUuid exEnv { exFlags with commit := "0102" }) = "prerun:commit-length" ∧
    errClass (ecOf exParams exPrims.parseUuid exEnv { exFlags with uefi := "fw.bin" }) = "prerun:uefi-suffix" ∧
    errClass (ecOf exParams exPrims.parseUuid exEnv { exFlags with snpFamilyId := "nope" }) = "prerun:family_id" ∧
    errClass (ecOf exParams exPrims.parseUuid exEnv exFlags) = "accepted" := by
  decide +kernel

end GceTcb.EndorseCli
