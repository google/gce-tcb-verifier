import GceTcb.Proofs.CAStore
/-
C11 — The certificate-authority store is consistent at every crash point.
Property theorems only (helper lemmas live in Proofs/CAStore.lean; the write-log model of gcsca.Finalize in
Model/CAStore.lean).

Scope (the property's own): the storage writes of a bootstrap of a store that has no manifest yet, and of
every later rotation, at object granularity; every order in which Go's map iteration may visit the
pending certificates (`order` ranges over all permutations of the mutation's certificates); every prefix
length `k` (a crash after `k` completed object writes; a refused upload — object exists, overwrite off —
just ends the log earlier: `C11_log_writes_prefix`).  Re-bootstrap over a populated store is outside.

Certificates are records; "verifies under the root r" is `sigBy = r.pub`; that the certificates of one
operation are signed by the root in force is a hypothesis (it is what C10/C12 establish about rotate.Key
and rotate.Bootstrap), as is that certificate object names are not the manifest's or the root's name.
-/
namespace GceTcb.CA

/-- **Bootstrap of an empty store**: for every visiting order of the two pending certificates and every
    crash point, the store reloads consistently. -/
theorem C11_prefix_consistent_bootstrap (cfg : Cfg) (st : Store) (rootK signK : String) (rc sc : Cert)
    (hno : lookup st manifestName = none) (hrm : cfg.rootPath ≠ manifestName)
    (hself : rc.sigBy = rc.pub) (hsig : sc.sigBy = rc.pub)
    (hn1 : ¬ Bad cfg (certObjectName cfg rc)) (hn2 : ¬ Bad cfg (certObjectName cfg sc))
    (order : List (String × Cert)) (hperm : order.Perm (bootMut rootK signK rc sc).certs) (k : Nat) :
    Consistent cfg (applyPrefix k (fullWrites cfg Manifest.empty (bootMut rootK signK rc sc) order) st) :=
  (finalize_bootMut hno hrm hself hsig hn1 hn2 hperm).pre k

/-- **A rotation from a good store**: for every visiting order of the pending certificate(s) and every
    crash point, the store reloads consistently. -/
theorem C11_prefix_consistent_rotation (cfg : Cfg) (st : Store) (m : Manifest) (r : Cert) (kv : String) (c : Cert)
    (hg : Good cfg m r st) (hsig : c.sigBy = r.pub) (hn : ¬ Bad cfg (certObjectName cfg c))
    (order : List (String × Cert)) (hperm : order.Perm (rotMut kv c).certs) (k : Nat) :
    Consistent cfg (applyPrefix k (fullWrites cfg m (rotMut kv c) order) st) :=
  (finalize_rotMut hg hsig hn hperm).pre k

/-- induction over the history: every reachable store is good -/
theorem C11_reachable_good (cfg : Cfg) (st : Store) (m : Manifest) (r : Cert) (h : Reachable cfg st m r) :
    Good cfg m r st := by
  induction h with
  | boot st rootK signK rc sc order mf hno hrm hself hsig hn1 hn2 hperm hmf =>
    exact good_of_man (finalize_bootMut hno hrm hself hsig hn1 hn2 hperm).full hmf
  | rot st m r kv c order mf hprev hsig hn hperm hmf ih =>
    exact good_of_man (finalize_rotMut ih hsig hn hperm).full hmf

/-- **Every crash point of every rotation in any history**: after a first bootstrap and any number of
    completed rotations, the next rotation's writes — in any visiting order, cut at any prefix — leave a
    store that reloads consistently. -/
theorem C11_prefix_consistent (cfg : Cfg) (st : Store) (m : Manifest) (r : Cert) (hreach : Reachable cfg st m r)
    (kv : String) (c : Cert) (hsig : c.sigBy = r.pub) (hn : ¬ Bad cfg (certObjectName cfg c))
    (order : List (String × Cert)) (hperm : order.Perm (rotMut kv c).certs) (k : Nat) :
    Consistent cfg (applyPrefix k (fullWrites cfg m (rotMut kv c) order) st) :=
  C11_prefix_consistent_rotation cfg st m r kv c (C11_reachable_good cfg st m r hreach) hsig hn order hperm k

/-- **The manifest is written last**, and never ahead of the certificates it references: the writes of one
    Finalize are certificate/root writes to other objects, optionally followed by ONE manifest write, and
    every entry of the written manifest is an old entry or names an object written earlier in the same
    Finalize. -/
theorem C11_manifest_last (cfg : Cfg) (m : Manifest) (mu : Mut) (order : List (String × Cert)) (rp : Nat)
    (hrm : cfg.rootPath ≠ manifestName)
    (hpaths : ∀ e ∈ m.entries, ¬ Bad cfg e.2)
    (hord : ∀ kc ∈ order, ¬ Bad cfg (certObjectName cfg kc.2) ∧ kc.2.sigBy = rp) :
    ∃ pre mf, (∀ w ∈ pre, w.1 ≠ manifestName) ∧
      (fullWrites cfg m mu order = pre ∨ fullWrites cfg m mu order = pre ++ [(manifestName, .manifest mf)]) ∧
      (∀ e ∈ mf.entries, e ∈ m.entries ∨ e.2 ∈ pre.map (·.1)) := by
  obtain ⟨hW, _⟩ := uploadWrites_writes cfg rp order (applyPrimaries mu m)
    (by rw [applyPrimaries_entries]; exact hpaths) hord
  obtain ⟨hE, _⟩ := uploadWrites_manifest cfg order (applyPrimaries mu m)
  refine ⟨(uploadWrites cfg (applyPrimaries mu m) order).1 ++ rootWrites cfg mu,
    (uploadWrites cfg (applyPrimaries mu m) order).2, pre_ne_manifest mu hrm hW, ?_, fun e he => ?_⟩
  · unfold fullWrites
    cases manifestChanged mu m order
    · exact .inl (List.append_nil _)
    · exact .inr rfl
  · rw [← applyPrimaries_entries mu m]
    refine (hE e he).imp_right fun ⟨c, h⟩ => ?_
    exact List.mem_map_of_mem (f := (·.1)) (List.mem_append_left _ h)

/-- **Entries come with their upload**: a manifest entry that was not there before is appended only for a
    certificate whose DER object is written by the same Finalize. -/
theorem C11_entries_with_upload (cfg : Cfg) (m : Manifest) (mu : Mut) (order : List (String × Cert)) (rp : Nat)
    (hpaths : ∀ e ∈ m.entries, ¬ Bad cfg e.2)
    (hord : ∀ kc ∈ order, ¬ Bad cfg (certObjectName cfg kc.2) ∧ kc.2.sigBy = rp)
    (e : String × String) (he : e ∈ (uploadWrites cfg (applyPrimaries mu m) order).2.entries)
    (hnew : e ∉ m.entries) :
    ∃ c, (e.2, Obj.der c) ∈ (uploadWrites cfg (applyPrimaries mu m) order).1 :=
  ((uploadWrites_manifest cfg order _).1 e he).resolve_left (by rwa [applyPrimaries_entries])

/-- the writes of the probing log (with refusals) are a prefix of the planned writes, so the prefix
    theorems cover it -/
theorem C11_log_writes_prefix (cfg : Cfg) (st : Store) (m : Manifest) (mu : Mut) (order : List (String × Cert)) :
    ∃ j, writesOf (finalizeLog cfg st m mu order) = (fullWrites cfg m mu order).take j := by
  unfold finalizeLog
  obtain ⟨j, hj⟩ := writesOf_runPlan_prefix cfg.overwrite st (planned cfg m mu order)
  exact ⟨j, by rw [hj, planned_writes]⟩

/-- **An upload onto another key version's object makes no storage call**: when the first certificate Finalize
    visits would go to an object that the manifest records for a different key version (gcsca.upload after its
    "fix:" commit), the storage log of that Finalize is empty — with and without overwrite — so the store is
    left exactly as it was. -/
theorem C11_claimed_upload_writes_nothing (cfg : Cfg) (st : Store) (m : Manifest) (mu : Mut) (k : String) (c : Cert)
    (rest : List (String × Cert))
    (h : heldByOther (applyPrimaries mu m) (uploadName cfg (applyPrimaries mu m) k c) k = true) :
    finalizeLog cfg st m mu ((k, c) :: rest) = [] := by
  unfold finalizeLog planned
  simp only [uploadPlan, List.map_cons, List.cons_append, runPlan, h, if_true]

/-- the executable check the driver prints is implied by `Consistent` -/
theorem C11_consistentB_of (cfg : Cfg) (st : Store) (h : Consistent cfg st) : consistentB cfg st = true := by
  unfold Consistent at h; unfold consistentB
  cases hm : lookup st manifestName with
  | none => rfl
  | some o =>
    rw [hm] at h
    cases o with
    | der c => exact h.elim
    | pem c => exact h.elim
    | manifest m =>
      obtain ⟨h1, h2⟩ := h
      have ha : (m.entries.all fun e => isDer st e.2) = true :=
        List.all_eq_true.mpr fun e he => by obtain ⟨c, hc⟩ := h1 e he; unfold isDer; rw [hc]
      by_cases hs : m.signing = ""
      · simp [ha, hs]
      · obtain ⟨path, c, r, e1, e2, e3, e4⟩ := h2 hs
        simp [ha, primaryChainsB, e1, e2, e3, e4]

/-- Non-vacuity (bootstrap): the hypotheses hold for the empty store; with the signing certificate
    visited first the four writes are sigcn-2, rootcn-1, root.crt, manifest; the store after three of them
    has no manifest yet (consistent, as proved); WRITING THE MANIFEST FIRST instead would not be: a store
    holding only the final manifest fails the check. -/
example :
    let ws := fullWrites c11Cfg Manifest.empty (bootMut "root" "sk" c11Rc c11Sc) [("sk", c11Sc), ("root", c11Rc)]
    ws.map (·.1) = ["certs/sigcn-2.crt", "certs/rootcn-1.crt", "root.crt", manifestName] ∧
    consistentB c11Cfg (applyPrefix 3 ws []) = true ∧ consistentB c11Cfg (applyPrefix 4 ws []) = true ∧
    consistentB c11Cfg (applyWrites (ws.drop 3) []) = false := by
  decide +kernel

/-- Non-vacuity (rotation): from the bootstrapped store, the rotation's two writes; after the first the
    old manifest still rules, after the second the new key is primary and chains. -/
example :
    let st0 := applyWrites (fullWrites c11Cfg Manifest.empty (bootMut "root" "sk" c11Rc c11Sc) [("root", c11Rc), ("sk", c11Sc)]) []
    let m0 : Manifest := ⟨[("root", "certs/rootcn-1.crt"), ("sk", "certs/sigcn-2.crt")], "root", "sk"⟩
    let ws := fullWrites c11Cfg m0 (rotMut "sk_1" ⟨"sig", 3, 2, 0⟩) [("sk_1", ⟨"sig", 3, 2, 0⟩)]
    lookup st0 manifestName = some (.manifest m0) ∧
    ws.map (·.1) = ["certs/sig-3.crt", manifestName] ∧
    consistentB c11Cfg (applyPrefix 1 ws st0) = true ∧ consistentB c11Cfg (applyPrefix 2 ws st0) = true ∧
    storedManifest (applyPrefix 2 ws st0) = some ⟨[("root", "certs/rootcn-1.crt"), ("sk", "certs/sigcn-2.crt"), ("sk_1", "certs/sig-3.crt")], "root", "sk_1"⟩ := by
  decide +kernel

/-- Non-vacuity (refusal): a rotation whose certificate carries the common name and serial of the recorded
    primary's (object certs/sigcn-2.crt, held by "sk") makes no storage call even with overwrite allowed; the same
    certificate under a fresh serial is probed and written. -/
example :
    let st0 := applyWrites (fullWrites c11Cfg Manifest.empty (bootMut "root" "sk" c11Rc c11Sc) [("root", c11Rc), ("sk", c11Sc)]) []
    let m0 : Manifest := ⟨[("root", "certs/rootcn-1.crt"), ("sk", "certs/sigcn-2.crt")], "root", "sk"⟩
    finalizeLog { c11Cfg with overwrite := true } st0 m0 (rotMut "sk_1" ⟨"sigcn", 2, 2, 0⟩) [("sk_1", ⟨"sigcn", 2, 2, 0⟩)] = [] ∧
    (finalizeLog { c11Cfg with overwrite := true } st0 m0 (rotMut "sk_1" ⟨"sigcn", 3, 2, 0⟩) [("sk_1", ⟨"sigcn", 3, 2, 0⟩)]).length = 3 := by
  decide +kernel

end GceTcb.CA
