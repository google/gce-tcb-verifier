import GceTcb.Proofs.RpCli
import GceTcb.Props.C17
import GceTcb.Gen.RpFlags
/-
C17 at the command line — `gcetcbendorsement sev policy | tdx policy` with `--base FILE` / `--overwrite` / `--out`:
the base policy file is never modified, without `--overwrite` nothing set in it is weakened, and a refused command
line has no effect.

The caller's policy is a FILE here (`--base`, read as a binary-serialized policy; the flag is a persistent flag of
the parent commands `sev` / `tdx`), the result is written to `--out` (default `-`, standard output) in the form
`--outform` names.  Effects are the `Create` / write calls on the Backend's IO (`Run.effects`); `fsAfter` is the file
system after them.  Everything holds for every command line, file system, writer behaviour (Create / Write may fail,
the destination may be a terminal) and every choice of the decoding primitives.
-/
namespace GceTcb.RpCli
open GceTcb

variable {Cert Roots Time R Q : Type}

/-! ### obligations on the regenerated command-line facts -/

/-- `--overwrite` (default false) and `--base` are persistent flags of `sev` / `tdx`, seen from them, from `policy`
    and from `validate`, and not from the root, `verify`, `extract`, `inspect`, `inspect mask`; `--out` (default `-`)
    is a local flag of each of the two `policy` commands; `--outform` is not seen from `sev`, `tdx`, the `validate`
    commands or `verify`; a command line without `--overwrite` has it false. -/
theorem C17_cli_flag_scope :
    ("sev", "persistent", "overwrite", "Bool", "false", "sevCommand.overwrite") ∈ Gen.RpFlags.flags ∧
    ("tdx", "persistent", "overwrite", "Bool", "false", "tdxCommand.overwrite") ∈ Gen.RpFlags.flags ∧
    ("sev", "persistent", "base", "String", "\"\"", "sevCommand.base") ∈ Gen.RpFlags.flags ∧
    ("tdx", "persistent", "base", "String", "\"\"", "tdxCommand.base") ∈ Gen.RpFlags.flags ∧
    ("sev policy", "local", "out", "String", "\"-\"", "sevPolicyCommand.out") ∈ Gen.RpFlags.flags ∧
    ("tdx policy", "local", "out", "String", "\"-\"", "tdxPolicyCommand.out") ∈ Gen.RpFlags.flags ∧
    flagTable = Gen.RpFlags.flags ∧
    (∀ c ∈ ["sev", "sev validate", "sev policy"], ownerOf c "overwrite" = some "sev" ∧ ownerOf c "base" = some "sev") ∧
    (∀ c ∈ ["tdx", "tdx validate", "tdx policy"], ownerOf c "overwrite" = some "tdx" ∧ ownerOf c "base" = some "tdx") ∧
    (∀ c ∈ ["", "verify", "extract", "inspect", "inspect mask"], ownerOf c "overwrite" = none ∧ ownerOf c "base" = none) ∧
    (∀ c ∈ ["sev", "sev validate", "tdx", "tdx validate", "verify"], ownerOf c "outform" = none) ∧
    (∀ cmd args, namedOverwrite ⟨cmd, [], args⟩ = false) :=
  ⟨List.mem_of_getElem? (i := 11) rfl, List.mem_of_getElem? (i := 20) rfl, List.mem_of_getElem? (i := 12) rfl,
   List.mem_of_getElem? (i := 21) rfl, List.mem_of_getElem? (i := 18) rfl, List.mem_of_getElem? (i := 25) rfl, rfl,
   fun c hc => ⟨owner_sev c hc _ (by simp), owner_sev c hc _ (by simp)⟩,
   fun c hc => ⟨owner_tdx c hc _ (by simp), owner_tdx c hc _ (by simp)⟩, by decide +kernel, by decide +kernel,
   fun _ _ => rfl⟩

/-- The RunE bodies of the policy commands fill Base / Overwrite / LaunchVmsas / AllowUnspecifiedVmsas / RAMGiB from
    the parent command's struct; the statement skeletons of the functions involved are the ones the model was
    written from; `ParseBytesForm` as linked agrees with the model on every probed spelling. -/
theorem C17_cli_wiring :
    Skeleton.wiringOf Gen.RpFlags.wiring "sevPolicyCommand.runE" =
      [("Base", "s.basePolicy"), ("Overwrite", "s.overwrite"), ("LaunchVmsas", "s.launchVmsas"),
       ("AllowUnspecifiedVmsas", "s.allowUnspecifiedVmsas")] ∧
    Skeleton.wiringOf Gen.RpFlags.wiring "tdxPolicyCommand.runE" =
      [("Base", "s.basePolicy"), ("Overwrite", "s.overwrite"), ("RAMGiB", "s.ramGiB")] ∧
    Skeleton.readProtoSteps = Gen.RpFlags.readProtoSteps ∧
    Skeleton.sevPreRunSteps = Gen.RpFlags.sevPreRunSteps ∧ Skeleton.tdxPreRunSteps = Gen.RpFlags.tdxPreRunSteps ∧
    Skeleton.sevPolicyPreRunSteps = Gen.RpFlags.sevPolicyPreRunSteps ∧
    Skeleton.sevPolicyRunSteps = Gen.RpFlags.sevPolicyRunSteps ∧
    Skeleton.tdxPolicyPreRunSteps = Gen.RpFlags.tdxPolicyPreRunSteps ∧
    Skeleton.tdxPolicyRunSteps = Gen.RpFlags.tdxPolicyRunSteps ∧
    commands = Gen.RpFlags.commands ∧
    (∀ p ∈ Gen.RpFlags.bytesForms, parseBytesForm p.1 = p.2) ∧
    bytesRaw = Gen.RpFlags.bytesRaw ∧ bytesHex = Gen.RpFlags.bytesHex ∧ bytesBase64 = Gen.RpFlags.bytesBase64 ∧
    bytesAuto = Gen.RpFlags.bytesAuto :=
  ⟨by decide +kernel, by decide +kernel, rfl, rfl, rfl, rfl, rfl, rfl, rfl, rfl, by decide +kernel, rfl, rfl, rfl, rfl⟩

/-! ### what the policy commands hand to the library -/

/-- `sev policy`: the options record is the command line's: Base = the decoding of the file `--base` names (no flag
    or the empty value: none — NOT "some default policy"), Overwrite / LaunchVmsas / AllowUnspecifiedVmsas as named,
    and the destination is `--out`. -/
theorem C17_cli_sev_options (W : World Cert Roots Time R Q) (E : Env Time) (cl : CmdLine)
    (e : Verify.Endorsement) (o : Policy.SevPolicyOptions R) (out : OutSpec) (hv : cl.cmd = "sev policy")
    (h : callOf W.P W.L E cl = .ok (.sevPolicy e o out)) :
    ((namedBase cl = "" ∧ o.base = none) ∨
     (namedBase cl ≠ "" ∧ ∃ b q, E.readFile (namedBase cl) = some b ∧ W.P.unmarshalSevPolicy b = some q ∧ o.base = some q)) ∧
    o.overwrite = namedOverwrite cl ∧ o.launchVmsas = namedVmsas W.L cl ∧
    o.allowUnspecifiedVmsas = namedAllow cl ∧ out.path = namedOut cl ∧
    ∃ path, cl.args = [path] ∧ Verify.readEndorsement W.P.vp E.backend path = .ok e := by
  rcases callOf_sevPolicy_ok h hv with hc | ⟨base, path, out', e', hbase, hargs, hout, he, ⟨⟩⟩
  · cases hc
  · have hb := sevBase_ok _ _ _ _ hbase
    rw [(parsed_sevBase W.L cl hv).1] at hb
    exact ⟨hb, rfl, rfl, rfl, hout, path, hargs, he⟩

/-- `tdx policy`: likewise. -/
theorem C17_cli_tdx_options (W : World Cert Roots Time R Q) (E : Env Time) (cl : CmdLine)
    (e : Verify.Endorsement) (o : Policy.TdxPolicyOptions Q R) (out : OutSpec) (hv : cl.cmd = "tdx policy")
    (h : callOf W.P W.L E cl = .ok (.tdxPolicy e o out)) :
    ((namedBase cl = "" ∧ o.base = none) ∨
     (namedBase cl ≠ "" ∧ ∃ b q, E.readFile (namedBase cl) = some b ∧ W.P.unmarshalTdxPolicy b = some q ∧ o.base = some q)) ∧
    o.overwrite = namedOverwrite cl ∧ o.ramGib = namedRamGiB W.L cl ∧ out.path = namedOut cl ∧
    ∃ path, cl.args = [path] ∧ Verify.readEndorsement W.P.vp E.backend path = .ok e := by
  rcases callOf_tdxPolicy_ok h hv with hc | ⟨base, path, out', e', hbase, hargs, hout, he, ⟨⟩⟩
  · cases hc
  · have hb := tdxBase_ok _ _ _ _ hbase
    rw [parsed_tdxBase W.L cl hv] at hb
    exact ⟨hb, rfl, rfl, hout, path, hargs, he⟩

/-- A run of a policy command has no effect, or it is `emit`, to the `out` of its library call, of the policy the
    library derives for that call. -/
theorem C17_cli_run_cases (W : World Cert Roots Time R Q) (E : Env Time) (cl : CmdLine)
    (hv : cl.cmd = "sev policy" ∨ cl.cmd = "tdx policy") :
    ((run W E cl).effects = []) ∨
    (∃ e o out q, cl.cmd = "sev policy" ∧ callOf W.P W.L E cl = .ok (.sevPolicy e o out) ∧
      (∃ g, W.G.goldenSev e = some g ∧ Policy.sevPolicy W.G.pem W.G.dflt g o = some q) ∧
      run W E cl = emit E out.path (.sevPolicy (outFormOf out (E.isTerminal out.path)) q)) ∨
    (∃ e o out q, cl.cmd = "tdx policy" ∧ callOf W.P W.L E cl = .ok (.tdxPolicy e o out) ∧
      (∃ rows, W.G.goldenTdx e = some rows ∧ Policy.tdxPolicy W.G.emptyQ W.G.emptyR rows o = some q) ∧
      run W E cl = emit E out.path (.tdxPolicy (outFormOf out (E.isTerminal out.path)) q)) := by
  unfold run
  cases hc : callOf W.P W.L E cl with
  | err c => exact Or.inl rfl
  | panic s => exact Or.inl rfl
  | ok c =>
    rcases hv with hv | hv
    · rcases callOf_sevPolicy_ok hc hv with rfl | ⟨base, path, out, e, _, _, _, _, rfl⟩
      · exact Or.inl rfl
      · simp only [exec]
        split
        · exact Or.inl rfl
        · rename_i g hg
          split
          · exact Or.inl rfl
          · rename_i q hq
            exact Or.inr (Or.inl ⟨e, _, out, q, hv, rfl, ⟨g, hg, hq⟩, rfl⟩)
    · rcases callOf_tdxPolicy_ok hc hv with rfl | ⟨base, path, out, e, _, _, _, _, rfl⟩
      · exact Or.inl rfl
      · simp only [exec]
        split
        · exact Or.inl rfl
        · rename_i rows hg
          split
          · exact Or.inl rfl
          · rename_i q hq
            exact Or.inr (Or.inr ⟨e, _, out, q, hv, rfl, ⟨rows, hg, hq⟩, rfl⟩)

/-! ### effects -/

/-- What a policy command does, if anything, is one `emit` to its `--out` destination. -/
theorem run_emits_to_out (W : World Cert Roots Time R Q) (E : Env Time) (cl : CmdLine)
    (hv : cl.cmd = "sev policy" ∨ cl.cmd = "tdx policy") :
    (run W E cl).effects = [] ∨ ∃ w, run W E cl = emit E (namedOut cl) w := by
  rcases C17_cli_run_cases W E cl hv with h0 | ⟨e, o, out, q, hc, hcall, _, hrun⟩ | ⟨e, o, out, q, hc, hcall, _, hrun⟩
  · exact .inl h0
  · obtain ⟨_, _, _, _, hout, _⟩ := C17_cli_sev_options W E cl e o out hc hcall
    exact .inr ⟨_, hout ▸ hrun⟩
  · obtain ⟨_, _, _, hout, _⟩ := C17_cli_tdx_options W E cl e o out hc hcall
    exact .inr ⟨_, hout ▸ hrun⟩

/-- Every effect of a policy command line is on its `--out` destination. -/
theorem C17_cli_effects_only_out (W : World Cert Roots Time R Q) (E : Env Time) (cl : CmdLine)
    (hv : cl.cmd = "sev policy" ∨ cl.cmd = "tdx policy") :
    ∀ eff ∈ (run W E cl).effects, eff.path = namedOut cl := by
  intro eff hm
  rcases run_emits_to_out W E cl hv with h0 | ⟨w, hrun⟩
  · rw [h0] at hm; cases hm
  · exact emit_effects_path E _ w eff (hrun ▸ hm)

/-- "`--base FILE` is never modified on disk": after ANY run of a policy command every file other than the `--out`
    destination holds what it held — in particular the base policy file, unless the caller names that very file
    as `--out`. -/
theorem C17_cli_base_file_untouched (W : World Cert Roots Time R Q) (E : Env Time) (cl : CmdLine)
    (render : Written R Q → Bytes) (hv : cl.cmd = "sev policy" ∨ cl.cmd = "tdx policy") :
    (∀ x, x ≠ namedOut cl → fsAfter render E.readFile (run W E cl).effects x = E.readFile x) ∧
    (namedBase cl ≠ namedOut cl →
      fsAfter render E.readFile (run W E cl).effects (namedBase cl) = E.readFile (namedBase cl)) := by
  have h := C17_cli_effects_only_out W E cl hv
  exact ⟨fun x hx => fsAfter_other render _ _ x h hx _, fun hx => fsAfter_other render _ _ _ h hx _⟩

/-- "Rejected command lines have no effect": a policy command line that does not exit 0 has created and written
    nothing — except when the destination could be created and the WRITE to it failed (then the destination was
    created / truncated, as the caller asked, and nothing else happened). -/
theorem C17_cli_refused_no_effect (W : World Cert Roots Time R Q) (E : Env Time) (cl : CmdLine)
    (hv : cl.cmd = "sev policy" ∨ cl.cmd = "tdx policy") (h : (run W E cl).result ≠ Verify.accept) :
    (run W E cl).effects = [] ∨
    ((run W E cl).effects = [.create (namedOut cl)] ∧ (run W E cl).result = .err "write" ∧
      E.createOk (namedOut cl) = true ∧ E.writeOk (namedOut cl) = false) := by
  rcases run_emits_to_out W E cl hv with h0 | ⟨w, hrun⟩
  · exact Or.inl h0
  · rw [hrun] at h ⊢
    exact emit_refused E _ _ h

/-! ### no weakening through the command line -/

/-- a write effect of a run of `emit` is the write of exactly what was emitted -/
theorem C17_cli_emit_write_mem (E : Env Time) (p path : String) (w w' : Written R Q)
    (h : Effect.write path w' ∈ (emit E p w).effects) : path = p ∧ w' = w := by
  rcases emit_cases E p w with hc | hc | hc <;> rw [hc] at h
  · cases h
  · simp at h
  · simp at h
    exact h

/-- `sev policy`: what the command writes is the library's result for the options the command line names
    (`Policy.modifyPolicy` on the policy decoded from `--base`, or on the default policy without the flag), it goes
    to `--out`, and: the minimum SVN and every unrelated field are the base's in every case; WITHOUT `--overwrite`
    (absent, or `--overwrite=false`) every value set in the base policy file survives — guest policy bits,
    measurement, minimum SVN (which moreover admits the endorsed SVN) — and the trusted key lists only grow. -/
theorem C17_cli_sev_no_weaken (W : World Cert Roots Time R Q) (E : Env Time) (cl : CmdLine) (hv : cl.cmd = "sev policy")
    (path : String) (form : OutForm) (q : Policy.SevPolicy R)
    (hw : Effect.write path (.sevPolicy form q) ∈ (run W E cl).effects) :
    ∃ e o out s, callOf W.P W.L E cl = .ok (.sevPolicy e o out) ∧ W.G.goldenSev e = some (some s) ∧
      Policy.modifyPolicy W.G.pem s (o.base.getD W.G.dflt) o = some q ∧ path = namedOut cl ∧
      q.rest = (o.base.getD W.G.dflt).rest ∧ q.minimumGuestSvn = (o.base.getD W.G.dflt).minimumGuestSvn ∧
      (namedOverwrite cl = false → ∀ p0, o.base = some p0 →
        (p0.policy ≠ 0 → q.policy = p0.policy) ∧ (p0.measurement ≠ [] → q.measurement = p0.measurement) ∧
        q.minimumGuestSvn = p0.minimumGuestSvn ∧ (p0.minimumGuestSvn ≠ 0 → p0.minimumGuestSvn ≤ s.svn) ∧
        (∃ l, q.trustedIdKeys = p0.trustedIdKeys ++ l) ∧ (∃ l, q.trustedAuthorKeys = p0.trustedAuthorKeys ++ l)) := by
  rcases C17_cli_run_cases W E cl (Or.inl hv) with h0 | ⟨e, o, out, q', hc, hcall, ⟨g, hg, hq⟩, hrun⟩ | ⟨_, _, _, _, hc, _⟩
  · rw [h0] at hw; cases hw
  · injection (C17_cli_emit_write_mem E _ _ _ _ (hrun ▸ hw)).2 with _ hqq
    subst hqq
    obtain ⟨_, hover, _⟩ := C17_cli_sev_options W E cl e o out hc hcall
    cases g with
    | none => simp [Policy.sevPolicy] at hq
    | some s =>
      have hm : Policy.modifyPolicy W.G.pem s (o.base.getD W.G.dflt) o = some q := hq
      have hrest := Policy.C17_sev_rest_preserved _ _ _ _ _ hm
      refine ⟨e, o, out, s, hcall, hg, hm, C17_cli_effects_only_out W E cl (.inl hv) _ hw, hrest.1, hrest.2, ?_⟩
      intro how p0 hb
      have how' : o.overwrite = false := by rw [hover, how]
      have := Policy.C17_sev_no_weaken _ _ _ _ _ how' hm
      simpa [hb] using this
  · rw [hv] at hc; simp at hc

/-- `tdx policy`: what the command writes is the library's result for the options the command line names; unrelated
    fields are the base's; the allow-list placed in the result is exactly the endorsement's MRTDs for the RAM size
    named on the command line; and WITHOUT `--overwrite` an MRTD allow-list present in the base policy file is never
    replaced (the command is refused instead). -/
theorem C17_cli_tdx_no_weaken (W : World Cert Roots Time R Q) (E : Env Time) (cl : CmdLine) (hv : cl.cmd = "tdx policy")
    (path : String) (form : OutForm) (q : Policy.TdxPolicy Q R)
    (hw : Effect.write path (.tdxPolicy form q) ∈ (run W E cl).effects) :
    ∃ e o out rs, callOf W.P W.L E cl = .ok (.tdxPolicy e o out) ∧ W.G.goldenTdx e = some (some rs) ∧
      Policy.tdxPolicy W.G.emptyQ W.G.emptyR (some rs) o = some q ∧ path = namedOut cl ∧
      q.rest = (o.base.getD ⟨none, W.G.emptyR⟩).rest ∧
      (∃ b, q.body = some b ∧
        b.anyMrTd = (rs.filter (fun m => namedRamGiB W.L cl == 0 || m.ramGib == Policy.u32 (namedRamGiB W.L cl))).map (·.mrtd)) ∧
      (namedOverwrite cl = false → ∀ b0, (o.base.getD ⟨none, W.G.emptyR⟩).body = some b0 → b0.anyMrTd = []) := by
  rcases C17_cli_run_cases W E cl (Or.inr hv) with h0 | ⟨_, _, _, _, hc, _⟩ | ⟨e, o, out, q', hc, hcall, ⟨rows, hg, hq⟩, hrun⟩
  · rw [h0] at hw; cases hw
  · rw [hv] at hc; simp at hc
  · injection (C17_cli_emit_write_mem E _ _ _ _ (hrun ▸ hw)).2 with _ hqq
    subst hqq
    obtain ⟨_, hover, hram, _⟩ := C17_cli_tdx_options W E cl e o out hc hcall
    cases rows with
    | none => simp [Policy.tdxPolicy] at hq
    | some rs =>
      obtain ⟨h1, ⟨b, hb, hl, _⟩, h3⟩ := Policy.C17_tdx _ _ _ _ _ hq
      refine ⟨e, o, out, rs, hcall, hg, hq, C17_cli_effects_only_out W E cl (.inr hv) _ hw, h1, ⟨b, hb, ?_⟩, ?_⟩
      · rw [hl, hram]
      · intro how
        exact h3 (by rw [hover, how])

/-! ### the output form -/

/-- What `--outform` selects (the usage text: "textproto|bin|hex|base64|auto … Auto means the default is textproto
    if writing to a terminal, otherwise bin"); any other value refuses the command line before anything is read. -/
theorem C17_cli_outform (out : String) (term : Bool) :
    (outSpecOf out "textproto").map (fun s => outFormOf s term) = some .text ∧
    (outSpecOf out "bin").map (fun s => outFormOf s term) = some .raw ∧
    (outSpecOf out "hex").map (fun s => outFormOf s term) = some .hex ∧
    (outSpecOf out "base64").map (fun s => outFormOf s term) = some .base64 ∧
    (outSpecOf out "auto").map (fun s => outFormOf s term) = some (if term then .text else .raw) ∧
    (∀ f, f ≠ "textproto" → parseBytesForm f = none → outSpecOf out f = none) := by
  refine ⟨by cases term <;> rfl, by cases term <;> rfl, by cases term <;> rfl, by cases term <;> rfl,
    by cases term <;> rfl, ?_⟩
  intro f hf hp
  have : (f == "textproto") = false := by simpa using hf
  simp [outSpecOf, this, hp]

/-! ### non-vacuity and a witness -/

open ExampleP in
/-- Non-vacuity: an agreeing base policy file is extended (its unrelated field 42 and its key carried over) and
    written to --out; the empty file is the empty policy (NOT the default policy: its `rest` is 0, not 7); junk, a
    missing file and an unknown --outform are refused with no effect. -/
example :
    (run W E (line "agree" [])).result = Verify.accept ∧
    (run W E (line "agree" [])).effects.map Effect.path = ["p.out", "p.out"] ∧
    (writtenSev (run W E (line "agree" [])).effects).map (fun q => (q.measurement, q.minimumGuestSvn, q.trustedIdKeys, q.rest))
      = some (m4, 3, [[1, 2]], 42) ∧
    (writtenSev (run W E (line "empty" [])).effects).map (·.rest) = some 0 ∧
    (writtenSev (run W E ⟨"sev policy", [("launch_vmsas", "4")], ["e"]⟩).effects).map (·.rest) = some 7 ∧
    ((run W E (line "junk" [])).result, (run W E (line "junk" [])).effects.length) = (.err "base-unmarshal", 0) ∧
    ((run W E (line "nosuchfile" [])).result, (run W E (line "nosuchfile" [])).effects.length) = (.err "base-read", 0) ∧
    ((run W E (line "agree" [("outform", "yaml")])).result, (run W E (line "agree" [("outform", "yaml")])).effects.length)
      = (.err "outform", 0) := by decide +kernel

open ExampleP in
/-- `--overwrite` stated exactly: a base policy file whose measurement conflicts with the endorsement's is refused
    without the flag (and with `--overwrite=false`), with no effect; with `--overwrite` the measurement is replaced —
    the weakening the caller asked for — and the base file is left as it was. -/
theorem C17_cli_overwrite_witness :
    ((run W E (line "conflict" [])).result, (run W E (line "conflict" [])).effects.length) = (.err "policy", 0) ∧
    (run W E (line "conflict" [("overwrite", "false")])).result = .err "policy" ∧
    (run W E (line "conflict" [("overwrite", "true")])).result = Verify.accept ∧
    (writtenSev (run W E (line "conflict" [("overwrite", "true")])).effects).map (·.measurement) = some m4 ∧
    fsAfter (fun _ => [0xFF]) E.readFile (run W E (line "conflict" [("overwrite", "true")])).effects "conflict" = some [0xB1] ∧
    fsAfter (fun _ => [0xFF]) E.readFile (run W E (line "conflict" [("overwrite", "true")])).effects "p.out" = some [0xFF] := by
  decide +kernel

end GceTcb.RpCli
