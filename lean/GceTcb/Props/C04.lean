import GceTcb.Model.SevCfg
import GceTcb.Proofs.SnpBounds
import GceTcb.Proofs.SnpExample
import GceTcb.Gen.AbiSizes
/-
C04 — SEV-SNP golden measurement equals the AMD launch-digest definition.

Model: Model/GuidTable.lean, Model/SevMeta.lean, Model/SevLd.lean (sev.LaunchDigest and everything it
calls, function by function, over the regenerated tables `genCfg`).  Specification:
Spec/SnpLaunch.lean (`snpSpec`, written from the AMD SEV-SNP ABI and the APM).  `H` (SHA-384) is a
parameter: every theorem holds for every `H` whose output has the 48 bytes of Go's `[48]byte`.
-/
namespace GceTcb.Props.C04
open GceTcb GceTcb.Codec GceTcb.GuidTable GceTcb.SevMeta GceTcb.SevLd
open GceTcb.Codecs (ResetBlock zeros)
open GceTcb.Proofs.SnpSections (Sec SectionsValid Disjoint count)
open GceTcb.Proofs.SnpChain (WidthOK KindKnown toSpec)
open GceTcb.Proofs.SnpDigest (CfgIsSpec Accepts)
open GceTcb.Proofs

/-! ## regenerated facts = specification tables -/

/-- the statements of sev.PutVmsa (regenerated from the source) are the expected statement table -/
theorem C04_gen_vmsa_layout :
    Gen.SevLayout.VmsaLayout = Spec.SnpLaunch.vmsaLayout ∧ Gen.SevLayout.SizeofVmsaCheck = Spec.SnpLaunch.sizeofVmsa ∧
    Gen.SevLayout.SizeofVmsa = Spec.SnpLaunch.sizeofVmsa := by decide

/-- the segment encoder's stores (C18's regenerated table) are the four stores `expand` uses for `seg` -/
theorem C04_gen_vmcbseg_layout :
    Gen.AbiSizes.VmcbSegPutLayout = [(0, 2, "le:Selector"), (2, 2, "le:Attrib"), (4, 4, "le:Limit"), (8, 8, "le:Base")] := by
  decide

/-- `sev.VmsaV1`, evaluated with the repository's proto type, is the GCE reset state of the specification -/
theorem C04_template :
    Gen.SevLayout.VmsaTemplate = Spec.SnpLaunch.gceResetState ∧ Gen.SevLayout.TemplateReserved = [] := by decide

/-- address widths, page-type and section-kind encodings, page size, ROM top, PAGE_INFO size, vCPU counts -/
theorem C04_gen_constants :
    Gen.SevLayout.BitWidths = Spec.SnpLaunch.productWidths ∧
    Gen.SevLayout.PageTypes = [Spec.SnpLaunch.pageTypeNormal, Spec.SnpLaunch.pageTypeVmsa, Spec.SnpLaunch.pageTypeZero,
      Spec.SnpLaunch.pageTypeUnmeasured, Spec.SnpLaunch.pageTypeSecrets, Spec.SnpLaunch.pageTypeCpuid] ∧
    Gen.SevLayout.PageTypes = [pageTypeNormal, pageTypeVmsa, pageTypeZero, pageTypeUnmeasured, pageTypeSecret, pageTypeCpuid] ∧
    Gen.SevLayout.SectionKinds = [kindUnmeasured, kindSecret, kindCpuid, kindSvsmCaa] ∧
    Gen.SevLayout.KindSwitch = Gen.SevLayout.SectionKinds.map (fun k => (k, Spec.SnpLaunch.kindPageType k)) ∧
    (∀ k ∈ Gen.SevLayout.SectionKinds, sectionPageType k = some (Spec.SnpLaunch.kindPageType k)) ∧
    Gen.SevLayout.PageSize = 4096 ∧ Gen.SevLayout.RomTop = 2 ^ 32 ∧ Gen.SevLayout.SizeofPageInfo = 0x70 ∧
    Gen.SevLayout.VmsaCounts = Spec.SnpLaunch.gceVmsaCounts := by decide

theorem C04_cfg_is_spec : CfgIsSpec genCfg :=
  ⟨C04_gen_vmsa_layout.1, C04_gen_vmsa_layout.2.1, C04_template.1, C04_gen_constants.1⟩

/-- the supported products have the address widths of the specification: Milan 48, Genoa 52 -/
theorem C04_widths (product : Nat) (h : product = 1 ∨ product = 2) :
    WidthOK (genCfg.width product) ∧
    (Spec.SnpLaunch.productWidths.find? (fun p => p.1 == product)).map (·.2) = some (genCfg.width product) := by
  rcases h with rfl | rfl
  · exact ⟨⟨by decide, by decide⟩, by decide⟩
  · exact ⟨⟨by decide, by decide⟩, by decide⟩

/-! ## sev.LaunchDigest against the specification's digest chain -/

/-- the products sev.LaunchDigest measures for — those with an entry in `bitWidth` — are Milan (enum value 1)
    and Genoa (2), the products of the specification's width table -/
theorem C04_supported_products (product : Nat) :
    (genCfg.supported product = true ↔ product = 1 ∨ product = 2) ∧
    ((Spec.SnpLaunch.productWidths.find? (fun p => p.1 == product)).isSome = true ↔ product = 1 ∨ product = 2) := by
  have h : genCfg.supported product = true ↔ product = 1 ∨ product = 2 := by
    rcases SnpDigest.product_cases genCfg C04_cfg_is_spec product with ⟨hp, hs, _⟩ | ⟨hp, hs, _⟩ <;> simp [hs] <;> omega
  refine ⟨h, ?_⟩
  rw [← h, Cfg.supported, C04_cfg_is_spec.widths]

/-- **Main theorem — total over launch options.** For every hash `H`, every image (a Go slice: length below
    2^63), every vCPU count and EVERY product value: sev.LaunchDigest returns `d` exactly when the product is
    supported (Milan or Genoa), it accepts the image (`Accepts`: at least one vCPU, the GUIDed table / reset block /
    SNP metadata parse to `rb`, `secs`, the ROM is a whole number of pages and fits below 4 GiB, the metadata is
    well-formed, every kind is known and every range page-aligned) and `d` is the SNP_LAUNCH_UPDATE chain of the
    specification over the ROM pages, the declared sections in declared order and `vcpus` VMSA pages at the
    product's highest page. -/
theorem C04_digest_eq_spec (H : Bytes → Bytes) (hH : ∀ x, (H x).length = 48) (o : Opts)
    (fw : Bytes) (hfw : fw.length < 2 ^ 63) (d : Bytes) :
    launchDigest H genCfg o fw = .ok d ↔
      (o.product = 1 ∨ o.product = 2) ∧
      ∃ rb secs, Accepts o fw rb secs ∧
        d = Spec.SnpLaunch.snpSpec H fw (secs.map toSpec) rb.addr o.vcpus.toNat (genCfg.width o.product) :=
  SnpDigest.launchDigest_total H hH genCfg C04_cfg_is_spec o fw hfw d

/-- **A product without a known address width is refused** — UNKNOWN (0), Turin (3, which `--snp_product`
    accepts), any other number — for every image, every hash and every vCPU count ≥ 1, before the image is
    looked at (the product-check fix; `C04_old_unsupported_product_*` say what happened before). -/
theorem C04_rejects_unsupported_product (H : Bytes → Bytes) (o : Opts) (hp : o.product ≠ 1 ∧ o.product ≠ 2)
    (hv : 1 ≤ o.vcpus) (fw : Bytes) : launchDigest H genCfg o fw = .err "product" :=
  SnpDigest.launchDigest_unsupported H genCfg o fw hv (SnpDigest.unsupported_of genCfg C04_cfg_is_spec _ hp).1

/-- … so no product value outside {Milan, Genoa} ever yields a digest (no hypothesis on vCPUs, image or hash) -/
theorem C04_no_digest_for_unsupported_product (H : Bytes → Bytes) (o : Opts) (hp : o.product ≠ 1 ∧ o.product ≠ 2)
    (fw : Bytes) (d : Bytes) : launchDigest H genCfg o fw ≠ .ok d := by
  intro h
  by_cases hv : 1 ≤ o.vcpus
  · rw [C04_rejects_unsupported_product H o hp hv fw] at h; cases h
  · unfold launchDigest at h; rw [if_pos (by omega)] at h; cases h

/-- for Milan and Genoa the product check changes nothing: LaunchDigest is the measurement it always was -/
theorem C04_supported_product_unchanged (H : Bytes → Bytes) (o : Opts) (hp : o.product = 1 ∨ o.product = 2) (fw : Bytes) :
    launchDigest H genCfg o fw = launchDigestOld H genCfg o fw :=
  SnpDigest.launchDigest_supported H genCfg o fw ((C04_supported_products o.product).1.mpr hp)

/-- the ways the property names in which SNP metadata is malformed -/
inductive Malformed (secs : List Sec) : Prop
  | misaligned (s : Sec) (h : s ∈ secs) (hm : s.address % 4096 ≠ 0 ∨ s.length % 4096 ≠ 0)
  | empty (s : Sec) (h : s ∈ secs) (hm : s.length = 0)
  | overlap (h : ¬ secs.Pairwise Disjoint)
  | duplicateCpuid (h : 2 ≤ count kindCpuid secs)
  | duplicateSecrets (h : 2 ≤ count kindSecret secs)
  | missingUnmeasured (h : count kindUnmeasured secs = 0)
  | missingSecrets (h : count kindSecret secs = 0)
  | missingCpuid (h : count kindCpuid secs = 0)
  | unknownKind (s : Sec) (h : s ∈ secs) (hm : ¬ KindKnown s)

/-- Malformed SNP metadata is rejected with an error (never a digest, never a panic), one clause per
    malformation named in the property — for every product value. -/
theorem C04_rejects_malformed (H : Bytes → Bytes) (hH : ∀ x, (H x).length = 48) (o : Opts)
    (fw : Bytes) (hfw : fw.length < 2 ^ 63) (rb : ResetBlock) (secs : List Sec)
    (hparse : extractFromFirmware true true fw = .ok (some rb, some secs)) (hm : Malformed secs) :
    ∃ e, launchDigest H genCfg o fw = .err e := by
  cases hl : launchDigest H genCfg o fw with
  | err e => exact ⟨e, rfl⟩
  | panic p => exact absurd hl (SnpBounds.launchDigest_no_panic H genCfg C04_cfg_is_spec o fw p)
  | ok d =>
    exfalso
    obtain ⟨_, rb', secs', ha, _⟩ := (C04_digest_eq_spec H hH o fw hfw d).mp hl
    cases hparse.symm.trans ha.parsed
    cases hm with
    | misaligned s h hm =>
      rcases hm with hm | hm
      · exact hm (ha.measurable s h).2
      · exact hm (ha.valid.lengths s h).1
    | empty s h hm => exact (ha.valid.lengths s h).2 hm
    | overlap h => exact h ha.valid.disjoint
    | duplicateCpuid h => have := ha.valid.oneCpuid; omega
    | duplicateSecrets h => have := ha.valid.oneSecret; omega
    | missingUnmeasured h => have := ha.valid.hasUnmeasured; omega
    | missingSecrets h => have := ha.valid.hasSecret; omega
    | missingCpuid h => have := ha.valid.hasCpuid; omega
    | unknownKind s h hm => exact hm (ha.measurable s h).1

/-- fewer than one vCPU is rejected before the image is looked at -/
theorem C04_rejects_vcpus (H : Bytes → Bytes) (o : Opts) (fw : Bytes) (h : o.vcpus < 1) :
    launchDigest H genCfg o fw = .err "vcpus" := by
  unfold launchDigest; rw [if_pos h]

/-! ## sev/abi.go: the VMSA page (PutVmsa) and PAGE_INFO against the APM / ABI layouts -/

/-- PutVmsa as regenerated from the source writes, on a fresh 4 KiB page, the bytes the APM layout
    prescribes for the register state `v.f` — for every VMSA value that passes its range and
    must-be-zero checks. -/
theorem C04_vmsa_layout (v : Vmsa) (h : SnpVmsa.entriesOk v 4096 Gen.SevLayout.VmsaLayout) :
    putVmsa Gen.SevLayout.VmsaLayout Gen.SevLayout.SizeofVmsaCheck v (zeros 4096) = .ok (Spec.SnpLaunch.vmsaBytes v.f) := by
  rw [C04_gen_vmsa_layout.1, C04_gen_vmsa_layout.2.1] at *
  exact SnpVmsa.putVmsa_spec_layout v h

/-- **Strictness of PutVmsa** (the converse of `C04_vmsa_layout`): on a fresh 4 KiB page the regenerated PutVmsa
    returns a page exactly when every statement's check passes, and the page is then the APM-layout bytes. -/
theorem C04_vmsa_strict (v : Vmsa) (page : Bytes) :
    putVmsa Gen.SevLayout.VmsaLayout Gen.SevLayout.SizeofVmsaCheck v (zeros 4096) = .ok page ↔
      SnpVmsa.entriesOk v 4096 Gen.SevLayout.VmsaLayout ∧ page = Spec.SnpLaunch.vmsaBytes v.f := by
  rw [C04_gen_vmsa_layout.1, C04_gen_vmsa_layout.2.1]
  exact SnpVmsa.putVmsa_spec_iff v page

/-- Hence every accepted save area has: segment selectors and attributes below 2^16, CPL below 2^8, every 64-bit
    reserved field (incl. X87_STATE_GPA, which PutVmsa does not write) zero, and every reserved byte field — incl.
    VALID_BITMAP and the 1016-byte reserved_12 beyond the written area — absent or of exactly its ABI size and all
    zero.  Nothing is dropped silently (D23) and the ABI size of reserved_11 is 48 bytes, 0x3B8–0x3E7 (D11b). -/
theorem C04_vmsa_accepted_fields (v : Vmsa) (page : Bytes)
    (h : putVmsa Gen.SevLayout.VmsaLayout Gen.SevLayout.SizeofVmsaCheck v (zeros 4096) = .ok page) :
    (∀ e ∈ Gen.SevLayout.VmsaLayout, SnpVmsa.EntryStrict v e) ∧
    v.f "X87StateGpa" = 0 ∧ v.f "Reserved_8" = 0 ∧ v.f "Reserved_9" = 0 ∧
    ((v.r "ValidBitmap").length = 0 ∨ ((v.r "ValidBitmap").length = 16 ∧ allZero (v.r "ValidBitmap") = true)) ∧
    ((v.r "Reserved_11").length = 0 ∨ ((v.r "Reserved_11").length = 48 ∧ allZero (v.r "Reserved_11") = true)) ∧
    ((v.r "Reserved_12").length = 0 ∨ ((v.r "Reserved_12").length = 1016 ∧ allZero (v.r "Reserved_12") = true)) := by
  have hok := ((C04_vmsa_strict v page).mp h).1
  have hs : ∀ e ∈ Gen.SevLayout.VmsaLayout, SnpVmsa.EntryStrict v e := fun e he => SnpVmsa.entryCheck_strict v 4096 e (hok e he)
  refine ⟨hs, ?_, ?_, ?_, ?_, ?_, ?_⟩
  · exact (hs ("resv64", 0x400, 0x408, "X87StateGpa") (by decide)).2.2.1 rfl
  · exact (hs ("resv64", 0x300, 0x308, "Reserved_8") (by decide)).2.2.1 rfl
  · exact (hs ("resv64", 0x320, 0x328, "Reserved_9") (by decide)).2.2.1 rfl
  · exact (hs ("resv", 0x3F0, 0x400, "ValidBitmap") (by decide)).2.2.2 (Or.inl rfl)
  · exact (hs ("resv", 0x3B8, 0x3E8, "Reserved_11") (by decide)).2.2.2 (Or.inl rfl)
  · exact (hs ("mbz", 0x408, 0x800, "Reserved_12") (by decide)).2.2.2 (Or.inr rfl)

/-- a VMSA value that fails a check of PutVmsa is refused with an error: e.g. a 17-bit selector -/
theorem C04_vmsa_rejects_wide_selector (v : Vmsa) (h : v.f "Es.Selector" ≥ 2 ^ 16) :
    putVmsa Gen.SevLayout.VmsaLayout Gen.SevLayout.SizeofVmsaCheck v (zeros 4096) = .err "selector-range" := by
  rw [C04_gen_vmsa_layout.1, C04_gen_vmsa_layout.2.1]
  have hl : (zeros 4096).length = 4096 := List.length_replicate
  unfold putVmsa
  rw [if_neg (by rw [hl]; decide)]
  unfold Spec.SnpLaunch.vmsaLayout
  rw [putEntries]
  have : putEntry v (zeros 4096) ("seg", 0x00, 0x10, "Es") = .err "selector-range" := by
    unfold putEntry entryCheck
    rw [hl]
    simp only [if_true]
    rw [if_neg (by decide), if_neg (by decide), if_pos (by simpa using h)]
  rw [this]

/-- the PAGE_INFO bytes the code hashes are the ABI structure (IMI 0, VMPL permissions 0, LENGTH 0x70) -/
theorem C04_pageinfo_layout (d c : Bytes) (pt gpa : Nat) (hd : d.length = 48) (hc : c.length = 48) (hpt : pt < 256) :
    pageInfoBytes d c pt gpa = Spec.SnpLaunch.pageInfo d c pt gpa ∧
    (gpa < 2 ^ 64 → (pageInfoBytes d c pt gpa).length = Gen.SevLayout.SizeofPageInfo) := by
  refine ⟨SnpChain.pageInfoBytes_eq d c pt gpa hd hc hpt, fun _ => ?_⟩
  rw [SnpChain.pageInfoBytes_eq d c pt gpa hd hc hpt]
  simp [Spec.SnpLaunch.pageInfo, hd, hc]
  decide

/-! ## sev.prepareVmsas (which VMSAs are measured) and sev.UnsignedSnp -/

/-- the AP reset vector is split into RIP (low 16 bits) and CS.base (the rest): the unique split with
    `rip < 2^16`, `csBase` a multiple of 2^16 and `rip + csBase = addr` -/
theorem C04_ap_split (rb : ResetBlock) :
    (ripAndCsBase rb).1 = rb.addr % 2 ^ 16 ∧ (ripAndCsBase rb).2 = rb.addr - rb.addr % 2 ^ 16 ∧
    (ripAndCsBase rb).1 < 2 ^ 16 ∧ (ripAndCsBase rb).2 % 2 ^ 16 = 0 ∧ (ripAndCsBase rb).1 + (ripAndCsBase rb).2 = rb.addr := by
  refine ⟨rfl, rfl, ?_, ?_, ?_⟩ <;> simp only [ripAndCsBase] <;> omega

/-- one VMSA for the boot processor (the reset state) and `vcpus − 1` identical ones for the APs (reset
    state with CS.base/RIP from the reset block): `vcpus` pages in all, each measured as a VMSA page at
    the product's highest guest-physical page `2^width − 4096` -/
theorem C04_counts (vcpus : Int) (hv : 1 ≤ vcpus) (rb : ResetBlock) (product : Nat) (hp : product = 1 ∨ product = 2) :
    prepareVmsas genCfg.template vcpus (some rb)
      = .ok (SnpVmsa.bspVmsa :: List.replicate (vcpus.toNat - 1) (SnpVmsa.apVmsa rb)) ∧
    (SnpVmsa.bspVmsa :: List.replicate (vcpus.toNat - 1) (SnpVmsa.apVmsa rb)).length = vcpus.toNat ∧
    SnpVmsa.bspVmsa.f = Spec.SnpLaunch.bspState ∧ (SnpVmsa.apVmsa rb).f = Spec.SnpLaunch.apState rb.addr ∧
    productHigh (genCfg.width product) = 2 ^ genCfg.width product - 4096 ∧
    productHigh (genCfg.width product) = Spec.SnpLaunch.productHigh (genCfg.width product) := by
  have hw := (C04_widths product hp).1
  refine ⟨SnpDigest.prepareVmsas_eq _ C04_template.1 vcpus hv rb, ?_, rfl, rfl, SnpChain.productHigh_eq _ hw, ?_⟩
  · simp; omega
  · rw [SnpChain.productHigh_eq _ hw, SnpChain.specProductHigh_eq _ hw]

/-- sev.UnsignedSnp: one measurement per requested count, each the LaunchDigest for that count -/
theorem C04_unsigned_snp (H : Bytes → Bytes) (launchVmsas product : Nat) (fw : Bytes) (ds : List (Nat × Bytes))
    (h : unsignedSnp H genCfg Gen.SevLayout.VmsaCounts true true launchVmsas product fw = .ok ds) :
    ds.map (·.1) = vmsaCounts Spec.SnpLaunch.gceVmsaCounts launchVmsas ∧
    ∀ p ∈ ds, launchDigest H genCfg ⟨(p.1 : Nat), product⟩ fw = .ok p.2 := by
  unfold unsignedSnp at h
  simp only [Bool.not_true, Bool.false_eq_true, if_false] at h
  have := SnpBounds.generateLDs_total H genCfg C04_cfg_is_spec product fw (vmsaCounts Gen.SevLayout.VmsaCounts launchVmsas)
  rw [h, C04_gen_constants.2.2.2.2.2.2.2.2.2] at this
  exact this

/-! ## a concrete image

`SevExample.exFw` (Model/SevExample.lean) is a 4 KiB image: SEV metadata at offset 0 declaring, in this
order, a secrets page 0x80D000, nine unmeasured pages from 0x800000, a CPUID page 0x80E000 and an SVSM
calling area 0x80C000; GUIDed table with the metadata-offset block and the SEV-ES reset block (AP reset
vector 0x0080B004) before the footer.  The harness builds the same bytes independently, compares them with
the driver's (`c04 op=example`) and runs the real sev.LaunchDigest on them. -/

open GceTcb.SevExample in
/-- The right-hand side of `C04_digest_eq_spec` is inhabited: the example image meets `Accepts` for every
    vCPU count ≥ 1 and any product — and its declared order is not the ascending one. -/
theorem C04_example_accepts (o : Opts) (hv : 1 ≤ o.vcpus) :
    Accepts o exFw exRb exSecs ∧ exFw.length = 4096 ∧ exRb.addr = 0x80B004 ∧
    ¬ exSecs.Pairwise (fun a b => a.address ≤ b.address) :=
  ⟨SnpExample.ex_accepts o hv, SnpExample.ex_length, rfl, by decide⟩

open GceTcb.SevExample in
/-- sev.LaunchDigest on the example image returns the specification's SNP_LAUNCH_UPDATE chain — for every
    hash with 48-byte output (nothing is hashed in this proof), every vCPU count ≥ 1, Milan and Genoa. -/
theorem C04_example_digest (H : Bytes → Bytes) (hH : ∀ x, (H x).length = 48) (o : Opts)
    (hp : o.product = 1 ∨ o.product = 2) (hv : 1 ≤ o.vcpus) :
    launchDigest H genCfg o exFw =
      .ok (Spec.SnpLaunch.snpSpec H exFw (exSecs.map toSpec) 0x80B004 o.vcpus.toNat (genCfg.width o.product)) :=
  (C04_digest_eq_spec H hH o exFw (by rw [SnpExample.ex_length]; decide) _).mpr ⟨hp, exRb, exSecs, SnpExample.ex_accepts o hv, rfl⟩

open GceTcb.SevExample in
/-- … and that chain runs over these pages (PAGE_TYPE, GPA, has contents), then `vcpus` VMSA pages: the ROM
    page below 4 GiB, then the metadata ranges in DECLARED order (not sorted by address). -/
theorem C04_example_pages :
    (Spec.SnpLaunch.romPages exFw ++ (exSecs.map toSpec).flatMap Spec.SnpLaunch.sectionPages).map
        (fun p => (p.pageType, p.gpa, p.data.isSome)) =
      [(1, 0xFFFFF000, true), (5, 0x80D000, false),
       (4, 0x800000, false), (4, 0x801000, false), (4, 0x802000, false), (4, 0x803000, false), (4, 0x804000, false),
       (4, 0x805000, false), (4, 0x806000, false), (4, 0x807000, false), (4, 0x808000, false),
       (6, 0x80E000, false), (3, 0x80C000, false)] ∧
    (∀ vcpus, (Spec.SnpLaunch.vmsaPages 0x80B004 vcpus (Spec.SnpLaunch.productHigh 48)).map (fun p => (p.pageType, p.gpa)) =
      (2, 0xFFFFFFFFF000) :: List.replicate (vcpus - 1) (2, 0xFFFFFFFFF000)) := by
  refine ⟨by rw [Spec.SnpLaunch.romPages, SnpExample.ex_length]; decide, fun vcpus => ?_⟩
  simp [Spec.SnpLaunch.vmsaPages, Spec.SnpLaunch.vmsaPage, List.map_replicate, Spec.SnpLaunch.productHigh,
    Spec.SnpLaunch.pageTypeVmsa]

open GceTcb.SevExample in
/-- Each edit of ONE descriptor of the example realises one malformation named in the property (the clause
    of `Malformed` in the same position), and the edited image still parses — so the hypotheses of
    `C04_rejects_malformed` are inhabited clause by clause. -/
theorem C04_example_malformed :
    Malformed vMisAddr ∧ Malformed vMisLen ∧ Malformed vEmpty ∧ Malformed vOverlap ∧ Malformed vDupCpuid ∧
    Malformed vDupSecret ∧ Malformed vNoUnmeasured ∧ Malformed vNoSecret ∧ Malformed vNoCpuid ∧ Malformed vUnknown ∧
    (variants.map (·.2)).all (fun v => v.length == 4 && (List.zip v exSecs).countP (fun p => p.1 != p.2) == 1) = true :=
  ⟨.misaligned ⟨0x810800, 0x1000, kindSecret⟩ (by decide) (Or.inl (by decide)),
   .misaligned ⟨0x800000, 0x8800, kindUnmeasured⟩ (by decide) (Or.inr (by decide)),
   .empty ⟨0x80C000, 0, kindSvsmCaa⟩ (by decide) rfl,
   .overlap (by decide), .duplicateCpuid (by decide), .duplicateSecrets (by decide),
   .missingUnmeasured (by decide), .missingSecrets (by decide), .missingCpuid (by decide),
   .unknownKind ⟨0x80C000, 0x1000, 5⟩ (by decide) (by decide), by decide⟩

section rejected
open GceTcb.SevExample
variable (H : Bytes → Bytes) (hH : ∀ x, (H x).length = 48) (o : Opts) (hp : o.product = 1 ∨ o.product = 2) (hv : 1 ≤ o.vcpus)
include hH hp hv

/-- the secrets page moved to 0x810800: refused by the first iteration of the section loop -/
theorem C04_example_rejected_misaligned_address : launchDigest H genCfg o (fwOf vMisAddr) = .err "align-addr" :=
  SnpExample.rejected vMisAddr (by decide) (by decide) _ H hH genCfg C04_cfg_is_spec o hp hv
    (Or.inr ⟨(SnpSections.validateSections_ok_iff _).mpr (by decide), rfl⟩)
/-- the unmeasured range shortened to 8.5 pages -/
theorem C04_example_rejected_misaligned_length : launchDigest H genCfg o (fwOf vMisLen) = .err "section-length" :=
  SnpExample.rejected vMisLen (by decide) (by decide) _ H hH genCfg C04_cfg_is_spec o hp hv (Or.inl (by decide))
/-- the SVSM calling area with length 0 -/
theorem C04_example_rejected_empty : launchDigest H genCfg o (fwOf vEmpty) = .err "section-length" :=
  SnpExample.rejected vEmpty (by decide) (by decide) _ H hH genCfg C04_cfg_is_spec o hp hv (Or.inl (by decide))
/-- the SVSM calling area moved into the unmeasured range -/
theorem C04_example_rejected_overlap : launchDigest H genCfg o (fwOf vOverlap) = .err "overlap" :=
  SnpExample.rejected vOverlap (by decide) (by decide) _ H hH genCfg C04_cfg_is_spec o hp hv
    (Or.inl (SnpExample.validateSections_overlap vOverlap [kindSvsmCaa, kindCpuid, kindUnmeasured, kindSecret] (by decide)
      (by decide) (by decide) (by decide) (by decide) (by decide)))
theorem C04_example_rejected_duplicate_cpuid : launchDigest H genCfg o (fwOf vDupCpuid) = .err "dup-kind" :=
  SnpExample.rejected vDupCpuid (by decide) (by decide) _ H hH genCfg C04_cfg_is_spec o hp hv (Or.inl (by decide))
theorem C04_example_rejected_duplicate_secrets : launchDigest H genCfg o (fwOf vDupSecret) = .err "dup-kind" :=
  SnpExample.rejected vDupSecret (by decide) (by decide) _ H hH genCfg C04_cfg_is_spec o hp hv (Or.inl (by decide))
theorem C04_example_rejected_missing_unmeasured : launchDigest H genCfg o (fwOf vNoUnmeasured) = .err "no-unmeasured" :=
  SnpExample.rejected vNoUnmeasured (by decide) (by decide) _ H hH genCfg C04_cfg_is_spec o hp hv (Or.inl (by decide))
theorem C04_example_rejected_missing_secrets : launchDigest H genCfg o (fwOf vNoSecret) = .err "no-secret" :=
  SnpExample.rejected vNoSecret (by decide) (by decide) _ H hH genCfg C04_cfg_is_spec o hp hv (Or.inl (by decide))
theorem C04_example_rejected_missing_cpuid : launchDigest H genCfg o (fwOf vNoCpuid) = .err "no-cpuid" :=
  SnpExample.rejected vNoCpuid (by decide) (by decide) _ H hH genCfg C04_cfg_is_spec o hp hv (Or.inl (by decide))
/-- descriptor kind 5: the three ranges before it are measured, then the kind switch refuses it -/
theorem C04_example_rejected_unknown_kind : launchDigest H genCfg o (fwOf vUnknown) = .err "unknown-kind" := by
  refine SnpExample.rejected vUnknown (by decide) (by decide) _ H hH genCfg C04_cfg_is_spec o hp hv
    (Or.inr ⟨(SnpSections.validateSections_ok_iff _).mpr (by decide), ?_⟩)
  refine (SnpAnyProduct.measureSections_append H hH _
    [⟨0x80D000, 0x1000, kindSecret⟩, ⟨0x800000, 0x9000, kindUnmeasured⟩, ⟨0x80E000, 0x1000, kindCpuid⟩]
    [⟨0x80C000, 0x1000, 5⟩] ?_ _ (SnpAnyProduct.romDigest_length H hH _)).trans rfl
  intro s hs
  simp only [List.mem_cons, List.not_mem_nil, or_false] at hs
  rcases hs with rfl | rfl | rfl <;>
    exact ⟨by decide, by decide,
      (SnpChain.checkAlign_sec _ (C04_widths _ hp).1 _ _ (by decide) (by decide)).mpr ⟨by decide, by decide⟩⟩

end rejected

/-! ## the library sort

`sort.Slice` is library code; the model uses `List.mergeSort`.  The only thing assumed about the library is its
documented contract (`SnpSections.SortsBy`): the slice is rearranged so that no later element is `less` than
an earlier one; it need not be stable. -/

/-- With ANY sorting function that meets the contract of `sort.Slice(checkData, start_i < start_j)` in place of
    the model's merge sort, validateSections returns the same outcome on every descriptor list: the verdict of
    the sort-based overlap check does not depend on the algorithm (pdqsort in Go 1.19+), on stability, or on the
    order it leaves descriptors with equal start addresses in. -/
theorem C04_sort_model_immaterial (sort : List Sec → List Sec) (h : SnpSections.SortsBy SnpSections.startLt sort)
    (secs : List Sec) : SnpSections.validateSectionsWith sort secs = validateSections secs :=
  SnpSections.validateSectionsWith_eq sort h secs

/-! ## product values outside {Milan, Genoa}: what sev.LaunchDigest did BEFORE the product check

`C04_digest_eq_spec` and `C04_rejects_unsupported_product` are about the code as repaired (the product-check fix).  The
theorems of this section are about the model variant `launchDigestOld` — the same measurement without the
product check, i.e. sev.LaunchDigest as it was — and record the defect: `bitWidth[product]` read 0 for a missing
key, `ProductHighAddress` was 0 and the range arithmetic wrapped.  Reachability: the CLI flag `--snp_product` is
parsed by go-sev-guest's `kds.ParseProductLine`, which accepts "Turin" (enum value 3) besides "Milan" and
"Genoa"; `sev.UnsignedSnp` and `endorse` pass the value on unchecked. -/

/-- The pre-repair sev.LaunchDigest for EVERY product value and every image up to 4 GiB: it returned `d` exactly
    when the image parses, the ROM range and every section range pass the code's alignment and range checks
    evaluated in uint64 at `high = ProductHighAddress(product)`, the metadata is valid with known kinds — and `d`
    is the digest chain with all VMSA pages at `high`. -/
theorem C04_old_any_product_behaviour (H : Bytes → Bytes) (hH : ∀ x, (H x).length = 48) (o : Opts) (fw : Bytes)
    (hfw : fw.length ≤ 2 ^ 32) (d : Bytes) :
    launchDigestOld H genCfg o fw = .ok d ↔
      ∃ rb secs, SnpAnyProduct.AcceptsAt (productHigh (genCfg.width o.product)) o fw rb secs ∧
        d = SnpAnyProduct.chainAt H fw (secs.map toSpec) rb.addr o.vcpus.toNat (productHigh (genCfg.width o.product)) :=
  SnpAnyProduct.launchDigestOld_any H hH genCfg C04_cfg_is_spec o fw hfw d

/-- a product that is not a key of `bitWidth` has width 0 and `ProductHighAddress` 0 (still true of the exported
    sev.ProductHighAddress, which the repaired LaunchDigest does not reach for such a product) -/
theorem C04_old_unsupported_product_width (product : Nat) (hp : product ≠ 1 ∧ product ≠ 2) :
    genCfg.width product = 0 ∧ productHigh (genCfg.width product) = 0 ∧ Spec.SnpLaunch.productHigh 0 = 0 := by
  rw [(SnpDigest.unsupported_of genCfg C04_cfg_is_spec product hp).2]
  exact ⟨rfl, by decide, by decide⟩

/-- **What happened for an unsupported product** (UNKNOWN = 0, Turin = 3, any other number), images up to 4 GiB:
    the product was not refused.  A digest was returned exactly for the images `Accepts` describes whose ROM has at
    least two pages and whose every metadata range has at least two pages or starts at address 0 (the range check
    `gpa > 0 + 0x1000 − len` wraps around 2^64 for `len > 0x1000`, and reads `gpa > 0` for one page); that digest
    is the chain with every VMSA page at guest-physical address 0 — `snpSpec` for "address width 0" — which is the
    launch digest of no AMD product.  All other images were refused (`C04_old_unsupported_product_witness`: a
    one-page range above address 0 gave "address range is larger than the product can represent"). -/
theorem C04_old_unsupported_product_behaviour (H : Bytes → Bytes) (hH : ∀ x, (H x).length = 48) (o : Opts)
    (hp : o.product ≠ 1 ∧ o.product ≠ 2) (fw : Bytes) (hfw : fw.length ≤ 2 ^ 32) (d : Bytes) :
    launchDigestOld H genCfg o fw = .ok d ↔
      ∃ rb secs, Accepts o fw rb secs ∧ 0x2000 ≤ fw.length ∧ (∀ s ∈ secs, 0x2000 ≤ s.length ∨ s.address = 0) ∧
        d = Spec.SnpLaunch.snpSpec H fw (secs.map toSpec) rb.addr o.vcpus.toNat 0 :=
  SnpAnyProduct.launchDigestOld_width_zero H hH genCfg C04_cfg_is_spec o (SnpDigest.unsupported_of genCfg C04_cfg_is_spec _ hp).2 fw hfw d

open GceTcb.SevExample in
/-- Concrete witnesses, kernel-evaluated (Model/SevExample.lean): (1) `wideFw`, 8 KiB, secrets / CPUID / SVSM
    ranges of two pages: the pre-repair code measured it for every unsupported product, VMSA pages at GPA 0 — on
    Milan the same image has them at 0xFFFFFFFFF000 (old and repaired code alike); (2) the 4 KiB example image: was
    refused at the ROM; (3) `twoPageFw`, 8 KiB with the example's one-page secrets and CPUID ranges (what OVMF
    declares): was refused at the first section, both with the range error; (4) the repaired code refuses all
    three for the product itself. -/
theorem C04_old_unsupported_product_witness (H : Bytes → Bytes) (hH : ∀ x, (H x).length = 48) (o : Opts)
    (hp : o.product ≠ 1 ∧ o.product ≠ 2) (hv : 1 ≤ o.vcpus) :
    launchDigestOld H genCfg o wideFw = .ok (Spec.SnpLaunch.snpSpec H wideFw (wideSecs.map toSpec) 0x80B004 o.vcpus.toNat 0) ∧
    (Spec.SnpLaunch.vmsaPages 0x80B004 o.vcpus.toNat (Spec.SnpLaunch.productHigh 0)).map (·.gpa) =
      List.replicate (1 + (o.vcpus.toNat - 1)) 0 ∧
    launchDigest H genCfg ⟨o.vcpus, 1⟩ wideFw =
      .ok (Spec.SnpLaunch.snpSpec H wideFw (wideSecs.map toSpec) 0x80B004 o.vcpus.toNat 48) ∧
    (Spec.SnpLaunch.vmsaPages 0x80B004 o.vcpus.toNat (Spec.SnpLaunch.productHigh 48)).map (·.gpa) =
      List.replicate (1 + (o.vcpus.toNat - 1)) 0xFFFFFFFFF000 ∧
    launchDigestOld H genCfg o exFw = .err "range" ∧
    launchDigestOld H genCfg o twoPageFw = .err "range" ∧
    launchDigest H genCfg o wideFw = .err "product" ∧ launchDigest H genCfg o exFw = .err "product" ∧
    launchDigest H genCfg o twoPageFw = .err "product" := by
  have hw0 := (SnpDigest.unsupported_of genCfg C04_cfg_is_spec _ hp).2
  refine ⟨(SnpAnyProduct.launchDigestOld_width_zero H hH genCfg C04_cfg_is_spec o hw0 wideFw
      (by rw [SnpExample.wide_length]; decide) _).mpr
      ⟨exRb, wideSecs, SnpExample.wide_accepts o hv, by rw [SnpExample.wide_length]; decide, by decide, rfl⟩, ?_,
    (C04_digest_eq_spec H hH ⟨o.vcpus, 1⟩ wideFw (by rw [SnpExample.wide_length]; decide) _).mpr
      ⟨Or.inl rfl, exRb, wideSecs, SnpExample.wide_accepts _ hv, rfl⟩, ?_,
    -- one ROM page: `0 + 0x1000 − 0x1000 = 0 < 0xFFFFF000`
    SnpAnyProduct.launchDigestOld_err H hH genCfg o hv exFw exRb exSecs SnpExample.ex_parse
      (by rw [SnpExample.ex_length]; decide) _ (.inl (by rw [hw0, SnpExample.ex_length]; decide)),
    -- two ROM pages, but the first iteration of the section loop meets a one-page range above address 0
    SnpAnyProduct.launchDigestOld_err H hH genCfg o hv twoPageFw exRb exSecs SnpExample.twoPage_parse
      (by rw [SnpExample.twoPage_length]; decide) _ (.inr ⟨by rw [hw0, SnpExample.twoPage_length]; decide,
        .inr ⟨(SnpSections.validateSections_ok_iff _).mpr SnpExample.ex_sectionsValid, by rw [hw0]; rfl⟩⟩),
    C04_rejects_unsupported_product H o hp hv _, C04_rejects_unsupported_product H o hp hv _,
    C04_rejects_unsupported_product H o hp hv _⟩
  all_goals simp [Spec.SnpLaunch.vmsaPages, Spec.SnpLaunch.vmsaPage, Spec.SnpLaunch.productHigh, List.replicate_succ,
    Nat.add_comm 1]

/-- why that digest is the launch digest of no supported product, stated on the hash inputs: the VMSA pages of
    the chain for "width 0" sit at guest-physical address 0, those of Milan and Genoa at 2^width − 4096, so the
    page sequences differ for every reset vector and every vCPU count ≥ 1 -/
theorem C04_old_unsupported_product_gpa_differs (resetAddr vcpus : Nat) (hv : 1 ≤ vcpus) (product : Nat)
    (hp : product = 1 ∨ product = 2) :
    Spec.SnpLaunch.vmsaPages resetAddr vcpus (Spec.SnpLaunch.productHigh 0) ≠
      Spec.SnpLaunch.vmsaPages resetAddr vcpus (Spec.SnpLaunch.productHigh (genCfg.width product)) := by
  intro h
  have h0 : Spec.SnpLaunch.productHigh 0 = 0 := by decide
  have hw : Spec.SnpLaunch.productHigh (genCfg.width product) ≠ 0 := by
    rcases hp with rfl | rfl <;> decide
  have := congrArg (fun l => (l.map (·.gpa)).head?) h
  obtain ⟨n, rfl⟩ : ∃ n, vcpus = n + 1 := ⟨vcpus - 1, by omega⟩
  simp [Spec.SnpLaunch.vmsaPages, Spec.SnpLaunch.vmsaPage, h0] at this
  exact hw this.symm

/-- sev.UnsignedSnp inherits the refusal: with well-formed ids, any requested VMSA count and any image, an
    unsupported product yields the product error (every requested count is ≥ 1, so the first LaunchDigest
    reaches the product check) — no `Measurements` map is ever built for such a product -/
theorem C04_unsigned_snp_rejects_unsupported_product (H : Bytes → Bytes) (launchVmsas product : Nat)
    (hp : product ≠ 1 ∧ product ≠ 2) (fw : Bytes) :
    unsignedSnp H genCfg Gen.SevLayout.VmsaCounts true true launchVmsas product fw = .err "product" := by
  unfold unsignedSnp
  simp only [Bool.not_true, Bool.false_eq_true, if_false]
  have hfirst : ∃ n rest, vmsaCounts Gen.SevLayout.VmsaCounts launchVmsas = n :: rest ∧ 1 ≤ n := by
    unfold vmsaCounts
    by_cases h0 : launchVmsas = 0
    · rw [if_pos h0]; exact ⟨1, Gen.SevLayout.VmsaCounts.tail, by decide, by decide⟩
    · rw [if_neg h0]; exact ⟨launchVmsas, [], rfl, by omega⟩
  obtain ⟨n, rest, hc, hn⟩ := hfirst
  rw [hc, generateLDs, C04_rejects_unsupported_product H ⟨(n : Nat), product⟩ hp (by simp; omega) fw]

/-! ## non-vacuity -/

-- a hash with 48-byte output exists (SHA-384 in the driver; here the constant one)
example : ∀ x : Bytes, ((fun _ => zeros 48) x).length = 48 := fun _ => List.length_replicate
-- the reset state passes the checks of PutVmsa, so `C04_vmsa_layout` applies to it (and to every AP state)
example : SnpVmsa.entriesOk SnpVmsa.bspVmsa 4096 Gen.SevLayout.VmsaLayout := by
  rw [C04_gen_vmsa_layout.1]; exact SnpVmsa.bsp_ok
example : SnpVmsa.entriesOk (SnpVmsa.apVmsa ⟨0x80b004, 22, []⟩) 4096 Gen.SevLayout.VmsaLayout := by
  rw [C04_gen_vmsa_layout.1]; exact SnpVmsa.ap_ok _
-- well-formed metadata exists
example : SectionsValid [⟨0x800000, 0x3000, 1⟩, ⟨0x803000, 0x1000, 2⟩, ⟨0x804000, 0x1000, 3⟩] := by decide
-- … which validateSections therefore accepts
example : validateSections [⟨0x800000, 0x3000, 1⟩, ⟨0x803000, 0x1000, 2⟩, ⟨0x804000, 0x1000, 3⟩] = .ok () :=
  (SnpSections.validateSections_ok_iff _).mpr (by decide)
-- a malformation on a list of its own: ranges that overlap just below 4 GiB (the others: `C04_example_malformed`)
example : Malformed [⟨0xFFFFE000, 0x3000, 1⟩, ⟨0xFFFFF000, 0x1000, 2⟩, ⟨0x1000, 0x1000, 3⟩] :=
  .overlap (by decide)
-- `Accepts` is inhabited for 1 and 4 vCPUs; the digest theorem applies to them on Milan and on Genoa
example : Accepts ⟨1, 1⟩ SevExample.exFw SevExample.exRb SevExample.exSecs := (C04_example_accepts _ (by decide)).1
example : Accepts ⟨4, 2⟩ SevExample.exFw SevExample.exRb SevExample.exSecs := (C04_example_accepts _ (by decide)).1
example (H : Bytes → Bytes) (hH : ∀ x, (H x).length = 48) : ∃ d, launchDigest H genCfg ⟨1, 1⟩ SevExample.exFw = .ok d :=
  ⟨_, C04_example_digest H hH ⟨1, 1⟩ (Or.inl rfl) (by decide)⟩
example (H : Bytes → Bytes) (hH : ∀ x, (H x).length = 48) : ∃ d, launchDigest H genCfg ⟨4, 2⟩ SevExample.exFw = .ok d :=
  ⟨_, C04_example_digest H hH ⟨4, 2⟩ (Or.inr rfl) (by decide)⟩
-- unsupported product values exist in the enum: UNKNOWN = 0 and Turin = 3 (accepted by the `--snp_product` flag);
-- the pre-repair variant returned a digest for Turin on `wideFw`, the repaired code refuses it
example (H : Bytes → Bytes) (hH : ∀ x, (H x).length = 48) : ∃ d, launchDigestOld H genCfg ⟨4, 3⟩ SevExample.wideFw = .ok d :=
  ⟨_, (C04_old_unsupported_product_witness H hH ⟨4, 3⟩ (by decide) (by decide)).1⟩
example (H : Bytes → Bytes) : launchDigest H genCfg ⟨4, 3⟩ SevExample.wideFw = .err "product" :=
  C04_rejects_unsupported_product H ⟨4, 3⟩ (by decide) (by decide) _
example (H : Bytes → Bytes) : unsignedSnp H genCfg Gen.SevLayout.VmsaCounts true true 0 3 SevExample.wideFw = .err "product" :=
  C04_unsigned_snp_rejects_unsupported_product H 0 3 (by decide) _
-- both sides of the total main theorem are inhabited: a digest on Genoa (above), none on product 0 or 3
example (H : Bytes → Bytes) (d : Bytes) : launchDigest H genCfg ⟨1, 0⟩ SevExample.exFw ≠ .ok d :=
  C04_no_digest_for_unsupported_product H ⟨1, 0⟩ (by decide) _ d
-- the sort contract is satisfiable (the model's merge sort meets it), and ties really may come out either way
example : SnpSections.SortsBy SnpSections.startLt (fun l => l.mergeSort startLe) := SnpSections.mergeSort_sortsBy
example : overlapSorted [⟨0x1000, 0x1000, 1⟩, ⟨0x1000, 0x2000, 2⟩] = true ∧ overlapSorted [⟨0x1000, 0x2000, 2⟩, ⟨0x1000, 0x1000, 1⟩] = true :=
  SnpSections.tie_order_immaterial _ _ rfl (by decide) (by decide) []
example : (ripAndCsBase ⟨0x80b004, 22, []⟩) = (0xb004, 0x800000) := by decide

end GceTcb.Props.C04
