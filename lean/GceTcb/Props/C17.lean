import GceTcb.Proofs.Policy
/-
C17 — Policy derivation never weakens or mutates the caller's policy.

The model functions are pure, so "leaves the caller's base policy unchanged" holds of the model by
construction; on the Go side it is tied by comparing a snapshot of the base taken before the call
(harness stream c17).  `rest` stands for every policy field the code does not name.
-/
namespace GceTcb.Policy
open GceTcb

/-- Unrelated base fields are carried over untouched, and the minimum-SVN constraint is never edited. -/
theorem C17_sev_rest_preserved {R : Type} (pem : Pem) (s : SevSnp) (p q : SevPolicy R)
    (o : SevPolicyOptions R) (h : modifyPolicy pem s p o = some q) :
    q.rest = p.rest ∧ q.minimumGuestSvn = p.minimumGuestSvn := by
  obtain ⟨v, m, hadd, _⟩ := modifyPolicy_spec pem s p q o h
  have sp := addBundle_spec pem _ _ _ hadd
  exact ⟨sp.2.2.2.1, sp.2.2.1⟩

/-- What is placed in the result comes from the endorsement: the measurement for the named count,
    the endorsed guest policy (unless overwrite keeps a non-zero base policy), and exactly the
    CERTIFICATE blocks of the CA bundle (one identity key, at most one author key, nothing after). -/
theorem C17_sev_result_from_endorsement {R : Type} (pem : Pem) (s : SevSnp) (p q : SevPolicy R)
    (o : SevPolicyOptions R) (h : modifyPolicy pem s p o = some q) :
    (o.launchVmsas ≠ 0 → mlookup s.measurements o.launchVmsas = some q.measurement) ∧
    (o.launchVmsas = 0 → q.measurement = p.measurement ∧ o.allowUnspecifiedVmsas = true) ∧
    (o.overwrite = false ∨ p.policy = 0 → q.policy = s.policy) ∧
    (o.overwrite = true → p.policy ≠ 0 → q.policy = p.policy) ∧
    BundleApplied pem s.caBundle p q := by
  obtain ⟨v, m, hadd, hv1, hv2, hm1, hm2, _⟩ := modifyPolicy_spec pem s p q o h
  obtain ⟨hp, hm, _, _, hb⟩ := addBundle_spec pem _ _ _ hadd
  exact ⟨fun hn => (hm1 hn).trans (congrArg some hm.symm), fun hz => ⟨hm.trans (hm2 hz).1, (hm2 hz).2⟩,
    fun hc => hp.trans (hv1 hc), fun h1 h2 => hp.trans (hv2 h1 h2), hb⟩

/-- Without overwrite, every value already set in the base survives unchanged (or the derivation
    fails): guest policy bits, measurement, minimum SVN (which moreover admits the endorsed SVN); the
    trusted key lists only grow. -/
theorem C17_sev_no_weaken {R : Type} (pem : Pem) (s : SevSnp) (p q : SevPolicy R)
    (o : SevPolicyOptions R) (how : o.overwrite = false) (h : modifyPolicy pem s p o = some q) :
    (p.policy ≠ 0 → q.policy = p.policy) ∧
    (p.measurement ≠ [] → q.measurement = p.measurement) ∧
    q.minimumGuestSvn = p.minimumGuestSvn ∧ (p.minimumGuestSvn ≠ 0 → p.minimumGuestSvn ≤ s.svn) ∧
    (∃ l, q.trustedIdKeys = p.trustedIdKeys ++ l) ∧ (∃ l, q.trustedAuthorKeys = p.trustedAuthorKeys ++ l) := by
  obtain ⟨_, _, _, _, _, _, _, hallow⟩ := modifyPolicy_spec pem s p q o h
  obtain ⟨hpm, hsvn⟩ := hallow how
  obtain ⟨hm1, hm0, hpol, _, hb⟩ := C17_sev_result_from_endorsement pem s p q o h
  refine ⟨fun hne => (hpol (Or.inl how)).trans (pma_policy s p _ hpm hne), fun hne => ?_,
    (C17_sev_rest_preserved pem s p q o h).2, hsvn, ?_, ?_⟩
  · by_cases hz : o.launchVmsas = 0
    · exact (hm0 hz).1
    · exact pma_measurement s p _ _ hpm hz (hm1 hz) hne
  · rcases hb with ⟨_, h1, _⟩ | ⟨idb, _, _, h1, _⟩
    · exact ⟨[], by rw [h1, List.append_nil]⟩
    · exact ⟨[idb], h1⟩
  · rcases hb with ⟨_, _, h2⟩ | ⟨_, _, _, _, ⟨_, h2⟩ | ⟨ab, _, h2⟩⟩
    · exact ⟨[], by rw [h2, List.append_nil]⟩
    · exact ⟨[], by rw [h2, List.append_nil]⟩
    · exact ⟨[ab], h2⟩

/-- TDX: unrelated fields survive; an existing MRTD allow-list is replaced only with overwrite; the
    allow-list placed in the result is exactly the endorsement's MRTDs for the requested size. -/
theorem C17_tdx {Q R : Type} (eq : Q) (er : R) (rs : List TdxRow) (o : TdxPolicyOptions Q R)
    (q : TdxPolicy Q R) (h : tdxPolicy eq er (some rs) o = some q) :
    q.rest = (o.base.getD ⟨none, er⟩).rest ∧
    (∃ b, q.body = some b ∧
      b.anyMrTd = (rs.filter (fun m => o.ramGib == 0 || m.ramGib == u32 o.ramGib)).map (·.mrtd) ∧
      b.restQ = (((o.base.getD ⟨none, er⟩).body.map (·.restQ)).getD eq)) ∧
    (o.overwrite = false → ∀ b0, (o.base.getD ⟨none, er⟩).body = some b0 → b0.anyMrTd = []) := by
  exact (tdxPolicy_spec eq er rs o q h _ rfl).2.2

/-- Non-vacuity: a base policy with guest policy, measurement and minimum SVN set is extended by an
    agreeing endorsement; a disagreeing measurement is refused without overwrite and replaced with it. -/
example :
    let pem : Pem := fun b => if b = [1] then some ("CERTIFICATE", [7], []) else none
    let m : Bytes := List.replicate 48 9
    let s : SevSnp := ⟨0x30000, 5, [(4, m)], [], [1]⟩
    let base : SevPolicy Nat := ⟨0x30000, m, 3, [[1, 2]], [], 42⟩
    (modifyPolicy pem s base ⟨none, 4, false, false⟩).map (fun q => (q.trustedIdKeys, q.rest)) = some ([[1, 2], [7]], 42) ∧
    (modifyPolicy pem s { base with measurement := [0] } ⟨none, 4, false, false⟩).isNone = true ∧
    (modifyPolicy pem s { base with measurement := [0] } ⟨none, 4, true, false⟩).map (·.measurement) = some m := by
  decide +kernel

end GceTcb.Policy
