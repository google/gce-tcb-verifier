import GceTcb.Proofs.DecTotal
import GceTcb.Gen.PanicSitesDec
/-
C07 — "Relying-party decoders are total on untrusted bytes", the verifier-glue half (C07D).

Every theorem quantifies over ALL parsers (`P : Parsers …`: any function from byte strings to parse
shapes — so over all byte strings through any third-party decoder, including every "absent / present but
empty / wrong length" shape) and all inputs.  What is proved about each entry point of the repaired tree:

  C07_dec_no_panic_<entry>     it never ends in a Go run-time panic;
  C07_dec_cost_bound_<entry>   the loop iterations and bytes the glue itself allocates are bounded by
                               a·(size of the parse result) + b, hence — `C07_dec_linear_*` — by a·|input| + b
                               for parsers whose results are no larger than their input;
  C07_dec_sites                the model's list of panic-capable sites is the inventory regenerated from
                               the source.

Each function is analysed once (`runs_<function>`: no panic and the cost bound together, `Proofs/DecTotal.lean`);
the first two families are the two halves of that.  About the tree as it was: `C07_finding_timestamp_nil` (an
endorsement whose golden measurement has no timestamp crashes verify.Endorsement before any signature check).

Pointer arguments that the CALLER owns (options structures, the *Inspect in the context) are non-nil in
these statements: a nil there is a programming error of the relying party, not data of the peer; the
`example`s at the end show that the model does panic on them, i.e. the checked operations are live.
-/
namespace GceTcb.C07Dec
open GceTcb GceTcb.DecTotal

variable {Cert Roots Time : Type}

variable {H : Prop}

/-- sizes of a parse result: entries of the SEV-SNP measurement map, TDX rows -/
def nMeas (g : PGolden) : Nat := ((g.sevSnp.bind (·.measurements)).getD []).length
def nRows (g : PGolden) : Nat := ((g.tdx.map (·.rows)).getD []).length

/-! ## verify -/

theorem C07_dec_no_panic_anyMeasurement (given : Bytes) (l : List (Nat × Bytes)) :
    NoPanic (anyMeasurement given l) :=
  (runs_anyMeasurement given l).noPanic

theorem runs_snp (g : PGolden) (o : SNPOptions) : Runs H (snp (some g) (some o)) (nMeas g) := by
  simp only [snp, bind_def, deref, pure_bind]
  split
  · exact runs_fail _
  · refine runs_ite ?_ ?_
    · split
      · exact runs_fail _
      · refine runs_ite (runs_pure _) ?_
        split
        · exact runs_fail _
        · exact runs_ite (runs_pure _) (runs_fail _)
    · split
      · exact runs_pure _
      · refine runs_ite (runs_pure _) ?_
        -- the one loop: over the measurement map of `g`
        refine runs_bind0R ((runs_anyMeasurement _ _).mono (by simp [nMeas, *])) fun _ _ => ?_
        exact runs_ite (runs_pure _) (runs_fail _)

/-- verify.SNP on a golden measurement and options that exist -/
theorem C07_dec_no_panic_SNP (g : PGolden) (o : SNPOptions) : NoPanic (snp (some g) (some o)) :=
  (runs_snp g o).noPanic

/-- verify.SNP visits each entry of the measurement map at most once -/
theorem C07_dec_cost_bound_SNP (g : PGolden) (o : SNPOptions) : CostLe (snp (some g) (some o)) (nMeas g) :=
  (runs_snp g o).cost

theorem C07_dec_no_panic_CheckCertificate (P : Parsers Cert Roots Time) (c : Bytes) (r : Option Roots) (t : Time) :
    NoPanic (checkCertificate P c r t) :=
  (runs_checkCertificate P c r t).noPanic

/-! `endorsementProto`, `endorsement`, `snpClosure` are the `…With false` forms, and that is how their callers see them
    once unfolded: the decomposition is done on those. -/

theorem runs_endorsementProtoWith (P : Parsers Cert Roots Time) (e : PEndorsement) (o : Options Roots Time) :
    Runs H (endorsementProtoWith false P (some e) (some o)) (((P.unmarshalGolden e.payload).map nMeas).getD 0) := by
  simp only [endorsementProtoWith, bind_def, Bool.false_eq_true, ↓reduceIte, deref, pure_bind]
  split
  · exact runs_fail _
  · simp only [*, Option.map_some, Option.getD_some]
    refine runs_guard (runs_bind0L (runs_checkCertificate P _ _ _) fun _ _ => runs_guard (runs_guard ?_))
    split
    · exact runs_pure _
    · exact runs_snp _ _

/-- verify.EndorsementProto (repaired), for every parser, every endorsement message, every options value -/
theorem C07_dec_no_panic_EndorsementProto (P : Parsers Cert Roots Time) (e : PEndorsement) (o : Options Roots Time) :
    NoPanic (endorsementProto P (some e) (some o)) :=
  (runs_endorsementProtoWith P e o).noPanic

/-- verify.EndorsementProto: bounded by the number of measurement-map entries of the golden measurement it decoded -/
theorem C07_dec_cost_bound_EndorsementProto (P : Parsers Cert Roots Time) (e : PEndorsement) (o : Options Roots Time) :
    CostLe (endorsementProto P (some e) (some o)) (((P.unmarshalGolden e.payload).map nMeas).getD 0) :=
  (runs_endorsementProtoWith P e o).cost

def goldenOf (P : Parsers Cert Roots Time) (ser : Bytes) : Option PGolden :=
  (P.unmarshalEndorsement ser).bind (fun e => P.unmarshalGolden e.payload)

theorem runs_endorsementWith (P : Parsers Cert Roots Time) (ser : Bytes) (o : Options Roots Time) :
    Runs H (endorsementWith false P ser (some o)) (((goldenOf P ser).map nMeas).getD 0) := by
  simp only [endorsementWith, goldenOf]
  split
  · exact runs_fail _
  · rename_i e he
    simp only [he, Option.bind_some]
    exact runs_endorsementProtoWith P e o

/-- verify.Endorsement (repaired): for ALL byte strings through ANY protobuf decoder -/
theorem C07_dec_no_panic_Endorsement (P : Parsers Cert Roots Time) (ser : Bytes) (o : Options Roots Time) :
    NoPanic (endorsement P ser (some o)) :=
  (runs_endorsementWith P ser o).noPanic

/-- verify.Endorsement -/
theorem C07_dec_cost_bound_Endorsement (P : Parsers Cert Roots Time) (ser : Bytes) (o : Options Roots Time) :
    CostLe (endorsement P ser (some o)) (((goldenOf P ser).map nMeas).getD 0) :=
  (runs_endorsementWith P ser o).cost

/-- the size law of the third-party decoders that the linear bounds need: a decoded protobuf message has no more map
    entries / repeated elements than its encoding has bytes, and a bytes field is no longer than the
    message it came in; a certificate-table header has no more entries than the table has bytes; what hex /
    base64 decoding yields is no longer than the text -/
structure SizeLaw (P : Parsers Cert Roots Time) : Prop where
  golden : ∀ b g, P.unmarshalGolden b = some g → nMeas g + nRows g ≤ b.length
  payload : ∀ b e, P.unmarshalEndorsement b = some e → e.payload.length ≤ b.length
  header : ∀ b l, P.certTableHeader b = some l → l.length ≤ b.length
  hex : ∀ b d, P.hexDecode b = some d → d.length ≤ b.length
  base64 : ∀ b d, P.base64Decode b = some d → d.length ≤ b.length

/-- what the linear bound of verify.Endorsement needs of the two decoders -/
theorem linear_endorsement_of (P : Parsers Cert Roots Time)
    (hg : ∀ b g, P.unmarshalGolden b = some g → nMeas g ≤ b.length)
    (hp : ∀ b e, P.unmarshalEndorsement b = some e → e.payload.length ≤ b.length) (ser : Bytes) (o : Options Roots Time) :
    CostLe (endorsement P ser (some o)) (1 * ser.length + 0) := by
  refine costLe_mono (C07_dec_cost_bound_Endorsement P ser o) (getD_map_le fun g h => ?_)
  obtain ⟨e, he, h⟩ := Option.bind_eq_some_iff.mp h
  have := hg _ _ h
  have := hp _ _ he
  omega

/-- verify.Endorsement: cost ≤ 1·|input| + 0 -/
theorem C07_dec_linear_Endorsement (P : Parsers Cert Roots Time) (law : SizeLaw P) (ser : Bytes) (o : Options Roots Time) :
    CostLe (endorsement P ser (some o)) (1 * ser.length + 0) :=
  linear_endorsement_of P (fun b g h => Nat.le_trans (Nat.le_add_right _ _) (law.golden b g h)) law.payload ser o

/-- verify.EndorsementProto and verify.Endorsement when, under `H`, every golden measurement the decoder can return has at
    most K measurement-map entries -/
theorem runs_endorsementProtoWith_le (P : Parsers Cert Roots Time) {K : Nat}
    (hK : H → ∀ b g, P.unmarshalGolden b = some g → nMeas g ≤ K) (e : PEndorsement) (o : Options Roots Time) :
    Runs H (endorsementProtoWith false P (some e) (some o)) K :=
  (runs_endorsementProtoWith P e o).mono_of fun h => getD_map_le fun _ hg => hK h _ _ hg

theorem runs_endorsementWith_le (P : Parsers Cert Roots Time) {K : Nat}
    (hK : H → ∀ b g, P.unmarshalGolden b = some g → nMeas g ≤ K) (s : Bytes) (o : Options Roots Time) :
    Runs H (endorsementWith false P s (some o)) K :=
  (runs_endorsementWith P s o).mono_of fun h => getD_map_le fun _ hg =>
    let ⟨_, _, hg⟩ := Option.bind_eq_some_iff.mp hg
    hK h _ _ hg

theorem runs_snpClosureWith (P : Parsers Cert Roots Time) {K : Nat}
    (hK : H → ∀ b g, P.unmarshalGolden b = some g → nMeas g ≤ K) (o : Options Roots Time) (att : Option PAtt)
    (ser : Option Bytes) : Runs H (snpClosureWith false P (some o) att ser) K := by
  simp only [snpClosureWith, bind_def, deref, pure_bind, fail_bind]
  split
  · exact runs_fail _
  · refine runs_guard (runs_ite ?_ ?_)
    · split
      · exact runs_fail _
      · refine runs_bind0L (runs_httpGet _ _) fun _ _ => ?_
        split
        · exact runs_fail _
        · split
          · exact runs_endorsementProtoWith_le P hK _ _
          · exact runs_endorsementWith_le P hK _ _
    · split
      · exact runs_endorsementProtoWith_le P hK _ _
      · exact runs_endorsementWith_le P hK _ _

/-- the closure of verify.SNPFamilyValidateFunc: any attestation (nil included), any blob (nil included) -/
theorem C07_dec_no_panic_SNPValidateFunc (P : Parsers Cert Roots Time) (o : Options Roots Time)
    (att : Option PAtt) (ser : Option Bytes) : NoPanic (snpClosure P (some o) att ser) :=
  -- only the no-panic half is used: with `H := False` it asks nothing of the decoder
  (runs_snpClosureWith (K := 0) P False.elim o att ser).1

/-- the closure of verify.SNPFamilyValidateFunc: if every golden measurement the decoder can return has at most
    K measurement-map entries, the closure costs at most K (whichever endorsement it ends up verifying) -/
theorem C07_dec_cost_bound_SNPValidateFunc (P : Parsers Cert Roots Time) (K : Nat)
    (hK : ∀ b g, P.unmarshalGolden b = some g → nMeas g ≤ K)
    (o : Options Roots Time) (att : Option PAtt) (ser : Option Bytes) : CostLe (snpClosure P (some o) att ser) K :=
  (runs_snpClosureWith P id o att ser).2 hK

/-! ## extractsev, extract -/

theorem C07_dec_no_panic_checkRanges (n : Nat) (l : List (Nat × Nat)) (t : Nat) : NoPanic (checkRanges n t l) :=
  (runs_checkRanges n l t).noPanic

def nEntries (P : Parsers Cert Roots Time) (table : Bytes) : Nat := ((P.certTableHeader table).map (·.length)).getD 0

theorem runs_checkCertTable (P : Parsers Cert Roots Time) (table : Bytes) :
    Runs H (checkCertTable P table) (nEntries P table) := by
  unfold checkCertTable nEntries
  split
  · exact runs_fail _
  · rename_i l h; simp only [h, Option.map_some, Option.getD_some]; exact runs_checkRanges _ _ _

/-- extractsev.CheckCertTable (the fix): any header parser, any table -/
theorem C07_dec_no_panic_CheckCertTable (P : Parsers Cert Roots Time) (table : Bytes) :
    NoPanic (checkCertTable P table) :=
  (runs_checkCertTable P table).noPanic

/-- extractsev.CheckCertTable: one iteration per header entry -/
theorem C07_dec_cost_bound_CheckCertTable (P : Parsers Cert Roots Time) (table : Bytes) :
    CostLe (checkCertTable P table) (nEntries P table) :=
  (runs_checkCertTable P table).cost

theorem nEntries_le (P : Parsers Cert Roots Time) (law : SizeLaw P) (t : Bytes) : nEntries P t ≤ t.length :=
  getD_map_le fun _ h => law.header _ _ h

theorem C07_dec_linear_CheckCertTable (P : Parsers Cert Roots Time) (law : SizeLaw P) (table : Bytes) :
    CostLe (checkCertTable P table) (1 * table.length + 0) := by
  refine costLe_mono (C07_dec_cost_bound_CheckCertTable P table) ?_
  have := nEntries_le P law table
  omega

theorem C07_dec_checkRanges_sound (n : Nat) (l : List (Nat × Nat)) (t : Nat) (ht : t ≤ n)
    (h : (checkRanges n t l).out = .ok ()) :
    (∀ e ∈ l, e.1 + e.2 ≤ n) ∧ t + (l.map (·.2)).sum ≤ n := by
  induction l generalizing t with
  | nil => exact ⟨nofun, ht⟩
  | cons e rest ih =>
    obtain ⟨off, len⟩ := e
    -- the tick leaves the outcome to what follows: three early returns, then the rest of the table
    simp only [checkRanges, bind_def] at h
    obtain ⟨h1, h⟩ := guard_out_ok h
    obtain ⟨h2, h⟩ := guard_out_ok h
    obtain ⟨h3, h⟩ := guard_out_ok h
    obtain ⟨ha, hb⟩ := ih (t + len) (by omega) h
    refine ⟨fun e he => ?_, by simp only [List.map_cons, List.sum_cons]; omega⟩
    rcases List.mem_cons.mp he with rfl | he
    · simp only; omega
    · exact ha e he

/-- If extractsev.CheckCertTable accepts a table, every header entry's byte range lies inside the table
    and the ranges together are no longer than the table — so go-sev-guest's CertTable.Unmarshal, which
    copies every range, slices in bounds and copies at most |table| bytes. -/
theorem C07_dec_CheckCertTable_sound (P : Parsers Cert Roots Time) (table : Bytes)
    (h : (checkCertTable P table).out = .ok ()) :
    ∃ entries, P.certTableHeader table = some entries ∧
      (∀ e ∈ entries, e.1 + e.2 ≤ table.length) ∧ (entries.map (·.2)).sum ≤ table.length := by
  unfold checkCertTable at h
  cases hh : P.certTableHeader table with
  | none => rw [hh] at h; simp [fail] at h
  | some entries =>
    rw [hh] at h
    have := C07_dec_checkRanges_sound table.length entries 0 (Nat.zero_le _) h
    exact ⟨entries, rfl, this.1, by simpa using this.2⟩

theorem C07_dec_no_panic_FromAttestation (a : Option PAtt) : NoPanic (fromAttestation a) := by
  refine Runs.noPanic (n := 0) ?_
  unfold fromAttestation
  split
  · exact runs_pure _
  · exact runs_fail _

theorem runs_fromCertTable (P : Parsers Cert Roots Time) (table : Bytes) :
    Runs H (fromCertTable P table) (nEntries P table) := by
  simp only [fromCertTable, bind_def]
  refine runs_bind0R (runs_checkCertTable P table) fun _ _ => ?_
  split
  · exact runs_fail _
  · exact runs_fail _
  · exact runs_pure _

/-- extractsev.FromCertTable: any byte string -/
theorem C07_dec_no_panic_FromCertTable (P : Parsers Cert Roots Time) (table : Bytes) :
    NoPanic (fromCertTable P table) :=
  (runs_fromCertTable P table).noPanic

/-- extractsev.FromCertTable -/
theorem C07_dec_cost_bound_FromCertTable (P : Parsers Cert Roots Time) (table : Bytes) :
    CostLe (fromCertTable P table) (nEntries P table) :=
  (runs_fromCertTable P table).cost

/-- the decoded form of a quote: what extract.Attestation hands to the raw parsers -/
def decodedOf (P : Parsers Cert Roots Time) (quote : Bytes) : Bytes :=
  match P.hexDecode quote with
  | some d => d
  | none => match P.base64Decode quote with
    | some d => d
    | none => quote

theorem runs_decodeQuote (P : Parsers Cert Roots Time) (quote : Bytes) :
    Runs H (decodeQuote P quote) (quote.length + (decodedOf P quote).length) := by
  simp only [decodeQuote, decodedOf, bind_def]
  refine runs_bind (runs_allocate _) fun _ _ => ?_
  cases P.hexDecode quote with
  | some d => exact runs_bind0R (runs_allocate _) fun _ _ => runs_pure _
  | none =>
    cases P.base64Decode quote with
    | some d => exact runs_bind0R (runs_allocate _) fun _ _ => runs_pure _
    | none => exact runs_pure _

theorem C07_dec_no_panic_decodeQuote (P : Parsers Cert Roots Time) (quote : Bytes) : NoPanic (decodeQuote P quote) :=
  (runs_decodeQuote P quote).noPanic

theorem C07_dec_no_panic_reportCertsOf (quote2 : Bytes) : NoPanic (reportCertsOf quote2) :=
  (runs_reportCertsOf quote2).noPanic

/-- where the certificate table sits behind a raw report -/
def certsPart (quote2 : Bytes) : Bytes := if reportSize ≤ quote2.length then quote2.drop reportSize else []

/-- the raw formats: one iteration per header entry of the two places a certificate table can sit -/
theorem runs_rawFormats (P : Parsers Cert Roots Time) (quote2 : Bytes) :
    Runs H (rawFormats P quote2) (nEntries P (certsPart quote2) + nEntries P quote2) := by
  simp only [rawFormats, bind_def]
  refine runs_bind0L (runs_reportCertsOf _) fun rc hrc => ?_
  obtain rfl := Outcome.ok.inj (hrc.symm.trans (reportCertsOf_out quote2))
  refine runs_bind (runs_passes (runs_checkCertTable P _)) fun _ _ => ?_
  split
  · exact runs_pure _
  · refine runs_bind0R (runs_passes (runs_checkCertTable P _)) fun _ _ => ?_
    split
    · exact runs_pure _
    · split
      · exact runs_pure _
      · exact runs_fail _
      · exact runs_fail _

theorem C07_dec_no_panic_rawFormats (P : Parsers Cert Roots Time) (quote2 : Bytes) : NoPanic (rawFormats P quote2) :=
  (runs_rawFormats P quote2).noPanic

/-- the bound of `C07_dec_cost_bound_Attestation` -/
def attBound (P : Parsers Cert Roots Time) (quote : Bytes) : Nat :=
  quote.length + (decodedOf P quote).length
    + (nEntries P (certsPart (decodedOf P quote)) + nEntries P (decodedOf P quote))

theorem runs_attestation (P : Parsers Cert Roots Time) (quote : Bytes) :
    Runs H (attestation P quote) (attBound P quote) := by
  have rest : ∀ p, Runs H (attestation.attestationRest P quote p) (attBound P quote) := fun p => by
    simp only [attestation.attestationRest, bind_def]
    split
    · exact runs_pure _
    · split
      · exact runs_pure _
      · refine runs_bind (runs_decodeQuote P quote) fun q2 hq => ?_
        obtain rfl := Outcome.ok.inj (hq.symm.trans (decodeQuote_out P quote))
        exact runs_rawFormats P _
  unfold attestation
  refine runs_guard ?_
  split
  · exact runs_pure _
  · split
    · exact runs_ite (runs_pure _) (rest _)
    · exact rest _

/-- extract.Attestation: any byte string, any parsers — including a go-tdx-guest that panics -/
theorem C07_dec_no_panic_Attestation (P : Parsers Cert Roots Time) (quote : Bytes) :
    NoPanic (attestation P quote) :=
  (runs_attestation P quote).noPanic

/-- extract.Attestation: the string copy of the quote, the decoded copy, and one iteration per header entry
    of the two places a certificate table can sit -/
theorem C07_dec_cost_bound_Attestation (P : Parsers Cert Roots Time) (quote : Bytes) :
    CostLe (attestation P quote)
      (quote.length + (decodedOf P quote).length
        + (nEntries P (certsPart (decodedOf P quote)) + nEntries P (decodedOf P quote))) :=
  (runs_attestation P quote).cost

theorem certsPart_length (q : Bytes) : (certsPart q).length ≤ q.length := by
  unfold certsPart; split <;> simp

theorem decodedOf_length (P : Parsers Cert Roots Time) (law : SizeLaw P) (quote : Bytes) :
    (decodedOf P quote).length ≤ quote.length := by
  unfold decodedOf
  cases h : P.hexDecode quote with
  | some d => exact law.hex _ _ h
  | none =>
    cases h2 : P.base64Decode quote with
    | some d => exact law.base64 _ _ h2
    | none => exact Nat.le_refl _

/-- extract.Attestation: cost ≤ 4·|input| -/
theorem C07_dec_linear_Attestation (P : Parsers Cert Roots Time) (law : SizeLaw P) (quote : Bytes) :
    CostLe (attestation P quote) (4 * quote.length + 0) := by
  refine costLe_mono (C07_dec_cost_bound_Attestation P quote) ?_
  have h1 := decodedOf_length P law quote
  have h2 := nEntries_le P law (certsPart (decodedOf P quote))
  have h3 := nEntries_le P law (decodedOf P quote)
  have h4 := certsPart_length (decodedOf P quote)
  omega

theorem runs_fromQuote (P : Parsers Cert Roots Time) (quote : Bytes) : Runs H (fromQuote P quote) (attBound P quote) := by
  simp only [fromQuote, bind_def]
  refine runs_bind0R (runs_attestation P quote) fun _ _ => ?_
  split
  · exact runs_pure _
  · exact runs_pure _
  · exact runs_fail _

theorem C07_dec_no_panic_fromQuote (P : Parsers Cert Roots Time) (quote : Bytes) : NoPanic (fromQuote P quote) :=
  (runs_fromQuote P quote).noPanic

theorem runs_extractEndorsement (P : Parsers Cert Roots Time) (o : ExtractOptions) :
    Runs H (extractEndorsement P (some o))
      (attBound P o.quote + (match o.provider with | some (some q) => attBound P q | _ => 0)) := by
  simp only [extractEndorsement, bind_def]
  refine runs_bind (runs_catchErr (runs_fromQuote P o.quote)) fun _ _ => ?_
  refine runs_ite (runs_pure _) (runs_bind0R ?_ fun _ _ => ?_)
  · unfold providerStep
    split
    · split
      · exact runs_fail _
      · rename_i q hq
        simp only [bind_def, hq]
        exact runs_bind0R (runs_fromQuote P q) fun _ _ => runs_ite (runs_pure _) (runs_pure _)
    · exact runs_pure _
  · split
    · exact runs_pure _
    · exact runs_fetchEndorsement _ _

/-- extract.Endorsement (quote / provider / getter part): any options, nil included -/
theorem C07_dec_no_panic_ExtractEndorsement (P : Parsers Cert Roots Time) (o : Option ExtractOptions) :
    NoPanic (extractEndorsement P o) := by
  cases o with
  | none => exact (runs_fail (n := 0) _).noPanic
  | some o => exact (runs_extractEndorsement P o).noPanic

/-- extract.Endorsement (quote / provider / getter part): the format detection of the given quote and, when the
    provider is consulted, of the quote it returns -/
theorem C07_dec_cost_bound_ExtractEndorsement (P : Parsers Cert Roots Time) (o : ExtractOptions) :
    CostLe (extractEndorsement P (some o))
      (attBound P o.quote + (match o.provider with | some (some q) => attBound P q | _ => 0)) :=
  (runs_extractEndorsement P o).cost

/-! ## policy derivation -/

theorem C07_dec_no_panic_policyModificationAllowed (s : PSevSnp) (p : Option SevPol) (o : SevPolicyOptions) :
    NoPanic (policyModificationAllowed (some s) p (some o)) :=
  (runs_policyModificationAllowed s p o).noPanic

theorem C07_dec_no_panic_addBundle (P : Parsers Cert Roots Time) (s : Option PSevSnp) (p : SevPol) :
    NoPanic (addBundle P s p) :=
  (runs_addBundle P s p).noPanic

theorem C07_dec_no_panic_modifyPolicy (P : Parsers Cert Roots Time) (s : PSevSnp) (p : SevPol) (o : SevPolicyOptions) :
    NoPanic (modifyPolicy P (some s) (some p) (some o)) :=
  (runs_modifyPolicy P s p o).noPanic

theorem runs_sevPolicy (P : Parsers Cert Roots Time) (e : Option PEndorsement) (o : SevPolicyOptions) :
    Runs H (sevPolicy P e (some o)) 0 := by
  simp only [sevPolicy, bind_def, deref, assertType, pure_bind]
  split
  · exact runs_fail _
  · split
    · exact runs_fail _
    · rename_i hs
      simp only [hs]
      split
      · exact runs_modifyPolicy P _ _ _
      · exact runs_modifyPolicy P _ _ _

/-- gcetcbendorsement.SevPolicy: any endorsement message (nil included: it is read through a getter) -/
theorem C07_dec_no_panic_SevPolicy (P : Parsers Cert Roots Time) (e : Option PEndorsement) (o : SevPolicyOptions) :
    NoPanic (sevPolicy P e (some o)) :=
  (runs_sevPolicy P e o).noPanic

/-- gcetcbendorsement.SevPolicy has no loop of its own: at most two PEM blocks are looked at -/
theorem C07_dec_cost_bound_SevPolicy (P : Parsers Cert Roots Time) (e : Option PEndorsement) (o : Option SevPolicyOptions) :
    CostLe (sevPolicy P e o) 0 := by
  cases o with
  | some o => exact (runs_sevPolicy P e o).cost
  | none =>
    -- nothing is recorded before the nil options are dereferenced
    unfold sevPolicy
    split
    · exact (runs_fail _).cost
    · split
      · exact (runs_fail _).cost
      · exact costLe_crash _

theorem C07_dec_no_panic_collectMrtds (ram : Int) (rows : List (Option PTdxRow)) (acc : List Bytes) :
    NoPanic (collectMrtds ram rows acc) :=
  (runs_collectMrtds ram rows acc).noPanic

theorem C07_dec_no_panic_modifyTdxPolicy (p : TdxPol) (mrtds : List Bytes) (o : TdxPolicyOptions) :
    NoPanic (modifyTdxPolicy (some p) mrtds (some o)) :=
  (runs_modifyTdxPolicy p mrtds o).noPanic

theorem runs_tdxPolicy (P : Parsers Cert Roots Time) (e : Option PEndorsement) (o : TdxPolicyOptions) :
    Runs H (tdxPolicy P e (some o)) (2 * (((P.unmarshalGolden (PEndorsement.getPayload e)).map nRows).getD 0)) := by
  simp only [tdxPolicy, bind_def, deref, assertType, pure_bind]
  split
  · exact runs_fail _
  · rename_i g hg
    simp only [hg, Option.map_some, Option.getD_some]
    split
    · exact runs_fail _
    · rename_i t ht
      -- the one loop: over the rows of `g`
      have loop : ∀ ram acc, Runs H (collectMrtds ram t.rows acc) (2 * nRows g) := fun ram acc =>
        (runs_collectMrtds ram t.rows acc).mono (by simp [nRows, ht])
      split
      · exact runs_bind0R (loop _ _) fun _ _ => runs_guard (runs_modifyTdxPolicy _ _ _)
      · exact runs_bind0R (loop _ _) fun _ _ => runs_guard (runs_modifyTdxPolicy _ _ _)

/-- gcetcbendorsement.TdxPolicy: any endorsement message (nil included), rows that are nil pointers included -/
theorem C07_dec_no_panic_TdxPolicy (P : Parsers Cert Roots Time) (e : Option PEndorsement) (o : TdxPolicyOptions) :
    NoPanic (tdxPolicy P e (some o)) :=
  (runs_tdxPolicy P e o).noPanic

/-- gcetcbendorsement.TdxPolicy: one iteration and at most one appended slice header per TDX row -/
theorem C07_dec_cost_bound_TdxPolicy (P : Parsers Cert Roots Time) (e : Option PEndorsement) (o : Option TdxPolicyOptions) :
    CostLe (tdxPolicy P e o)
      (2 * (((P.unmarshalGolden (PEndorsement.getPayload e)).map nRows).getD 0)) := by
  cases o with
  | some o => exact (runs_tdxPolicy P e o).cost
  | none =>
    -- nothing is recorded before the nil options are dereferenced
    unfold tdxPolicy
    split
    · exact (runs_fail _).cost
    · split
      · exact (runs_fail _).cost
      · exact costLe_mono (costLe_crash _) (Nat.zero_le _)

/-- what the linear bound of gcetcbendorsement.TdxPolicy needs of the decoder -/
theorem linear_tdxPolicy_of (P : Parsers Cert Roots Time)
    (hg : ∀ b g, P.unmarshalGolden b = some g → nRows g ≤ b.length) (e : PEndorsement) (o : TdxPolicyOptions) :
    CostLe (tdxPolicy P (some e) (some o)) (2 * e.payload.length + 0) :=
  costLe_mono (C07_dec_cost_bound_TdxPolicy P (some e) (some o))
    (Nat.mul_le_mul_left 2 (getD_map_le fun _ h => hg _ _ h))

/-- gcetcbendorsement.TdxPolicy: cost ≤ 2·|payload| -/
theorem C07_dec_linear_TdxPolicy (P : Parsers Cert Roots Time) (law : SizeLaw P) (e : PEndorsement) (o : TdxPolicyOptions) :
    CostLe (tdxPolicy P (some e) (some o)) (2 * e.payload.length + 0) :=
  linear_tdxPolicy_of P (fun b g h => Nat.le_trans (Nat.le_add_left _ _) (law.golden b g h)) e o

/-! ## validation, under a uniform bound on what the decoder returns -/

theorem C07_dec_no_panic_extractEndorsementSev (P : Parsers Cert Roots Time) (att : Option PAtt)
    (o : SevValidateOptions Roots Time) : NoPanic (extractEndorsementSev P att (some o)) :=
  (runs_extractEndorsementSev P att o).noPanic

theorem runs_sevValidateWith (P : Parsers Cert Roots Time) {K : Nat}
    (hK : H → ∀ b g, P.unmarshalGolden b = some g → nMeas g ≤ K) (att : Option PAtt)
    (o : SevValidateOptions Roots Time) : Runs H (sevValidateWith false P att (some o)) K := by
  simp only [sevValidateWith, bind_def, deref, pure_bind]
  split
  · exact runs_bind0L (runs_sevPolicy P _ _) fun _ _ =>
      runs_guard (runs_guard (runs_snpClosureWith P hK _ _ _))
  · refine runs_bind0L (runs_extractEndorsementSev P _ _) fun _ _ => ?_
    exact runs_bind0L (runs_sevPolicy P _ _) fun _ _ =>
      runs_guard (runs_guard (runs_snpClosureWith P hK _ _ _))

/-- gcetcbendorsement.SevValidate: any attestation (nil, no report, no certificate chain, …), any parsers -/
theorem C07_dec_no_panic_SevValidate (P : Parsers Cert Roots Time) (att : Option PAtt)
    (o : SevValidateOptions Roots Time) : NoPanic (sevValidate P att (some o)) :=
  (runs_sevValidateWith (K := 0) P False.elim att o).1

/-- gcetcbendorsement.SevValidate (glue only: the third-party validators are outside): at most K -/
theorem C07_dec_cost_bound_SevValidate (P : Parsers Cert Roots Time) (K : Nat)
    (hK : ∀ b g, P.unmarshalGolden b = some g → nMeas g ≤ K)
    (att : Option PAtt) (o : SevValidateOptions Roots Time) : CostLe (sevValidate P att (some o)) K :=
  (runs_sevValidateWith P id att o).2 hK

theorem runs_tdxValidateWith (P : Parsers Cert Roots Time) {K R : Nat}
    (hK : H → ∀ b g, P.unmarshalGolden b = some g → nMeas g ≤ K)
    (hR : H → ∀ b g, P.unmarshalGolden b = some g → nRows g ≤ R)
    (attBytes : Bytes) (o : TdxValidateOptions Roots Time) :
    Runs H (tdxValidateWith false P attBytes (some o)) (attBound P attBytes + (K + 2 * R)) := by
  have policy : ∀ e o, Runs H (tdxPolicy P e (some o)) (2 * R) := fun e o =>
    (runs_tdxPolicy P e o).mono_of fun h => Nat.mul_le_mul_left 2 (getD_map_le fun _ hg => hR h _ _ hg)
  simp only [tdxValidateWith, bind_def, deref, pure_bind, fail_bind]
  refine runs_bind (runs_attestation P attBytes) fun _ _ => ?_
  split
  · split
    · exact runs_bind (runs_endorsementProtoWith_le P hK _ _) fun _ _ =>
        runs_bind0R (policy _ _) fun _ _ => runs_guard (runs_guard (runs_pure _))
    · split
      · exact runs_fail _
      · split
        · exact runs_fail _
        · exact runs_bind (runs_endorsementProtoWith_le P hK _ _) fun _ _ =>
            runs_bind0R (policy _ _) fun _ _ => runs_guard (runs_guard (runs_pure _))
  · exact runs_fail _

/-- gcetcbendorsement.TdxValidate: any attestation bytes, any parsers -/
theorem C07_dec_no_panic_TdxValidate (P : Parsers Cert Roots Time) (attBytes : Bytes)
    (o : TdxValidateOptions Roots Time) : NoPanic (tdxValidate P attBytes (some o)) :=
  (runs_tdxValidateWith (K := 0) (R := 0) P False.elim False.elim attBytes o).1

/-- gcetcbendorsement.TdxValidate (glue only): the attestation's cost, then at most K for the endorsement check and
    2·R for the policy, K and R bounding the measurement-map entries / TDX rows the decoder can return -/
theorem C07_dec_cost_bound_TdxValidate (P : Parsers Cert Roots Time) (K R : Nat)
    (hK : ∀ b g, P.unmarshalGolden b = some g → nMeas g ≤ K)
    (hR : ∀ b g, P.unmarshalGolden b = some g → nRows g ≤ R)
    (attBytes : Bytes) (o : TdxValidateOptions Roots Time) :
    CostLe (tdxValidate P attBytes (some o))
      ((attBytes.length + (decodedOf P attBytes).length
        + (nEntries P (certsPart (decodedOf P attBytes)) + nEntries P (decodedOf P attBytes))) + (K + 2 * R)) :=
  (runs_tdxValidateWith (H := True) P (fun _ => hK) (fun _ => hR) attBytes o).cost

/-! ## inspect, presentation -/

theorem runs_writeBytesForm (n : Nat) (form : BytesForm) (terminal : Bool) :
    Runs H (writeBytesForm n form terminal) (n + 37) := by
  cases form <;> simp only [writeBytesForm, bind_def]
  · exact runs_pure _
  · exact Runs.mono (runs_tick_bind (n := 0) (runs_pure _)) (by omega)
  · refine runs_ite (Runs.mono (runs_tick_bind (n := 0) (runs_pure _)) (by omega)) ?_
    exact Runs.mono (runs_bind0R (runs_allocate _) fun _ _ => runs_pure _) (by omega)
  · exact Runs.mono (runs_tick_bind (n := 0) (runs_pure _)) (by omega)
  · exact runs_ite (Runs.mono (runs_tick_bind (n := 0) (runs_pure _)) (by omega)) (runs_pure _)
  · exact runs_pure _

theorem C07_dec_no_panic_WriteBytesForm (n : Nat) (form : BytesForm) (terminal : Bool) :
    NoPanic (writeBytesForm n form terminal) :=
  (runs_writeBytesForm n form terminal).noPanic

/-- WriteBytesForm: one iteration per 512 (hex) / 768 (base64) input bytes -/
theorem C07_dec_cost_bound_WriteBytesForm (n : Nat) (form : BytesForm) (terminal : Bool) :
    CostLe (writeBytesForm n form terminal) (n + 37) :=
  (runs_writeBytesForm n form terminal).cost

theorem runs_inspectFrom (i : Inspect) : Runs H (inspectFrom (some (some i))) 0 :=
  runs_pure i

theorem C07_dec_no_panic_inspectFrom (i : Inspect) : NoPanic (inspectFrom (some (some i))) :=
  (runs_inspectFrom i).noPanic

/-- InspectSignature: any endorsement message, nil included (it is read through a getter) -/
theorem C07_dec_no_panic_InspectSignature (i : Inspect) (e : Option PEndorsement) :
    NoPanic (inspectSignature (some (some i)) e) := by
  simp only [inspectSignature, bind_def]
  exact (runs_bind0L (runs_inspectFrom _) fun _ _ => runs_writeBytesForm _ _ _).noPanic

/-- InspectPayload: any non-nil endorsement message -/
theorem C07_dec_no_panic_InspectPayload (i : Inspect) (e : PEndorsement) :
    NoPanic (inspectPayload (some (some i)) (some e)) := by
  simp only [inspectPayload, bind_def, deref, pure_bind]
  exact (runs_bind0L (runs_inspectFrom _) fun _ _ => runs_writeBytesForm _ _ _).noPanic

theorem runs_renderValue (v : PathVal) (form : BytesForm) (terminal : Bool) :
    Runs H (renderValue v form terminal)
      (match v with | .bytes n => n + 37 | .map entries _ => entries | _ => 0) := by
  cases v <;> simp only [renderValue, bind_def]
  · exact runs_bind0R (runs_writeBytesForm _ _ _) fun _ _ => runs_pure _
  · exact runs_pure _
  · exact runs_bind0R (runs_tick _) fun _ _ => runs_pure _
  · exact runs_pure _
  · exact runs_pure _
  · exact runs_fail _

theorem C07_dec_no_panic_renderValue (v : PathVal) (form : BytesForm) (terminal : Bool) :
    NoPanic (renderValue v form terminal) :=
  (runs_renderValue v form terminal).noPanic

/-- cost of rendering what a path yields -/
def renderCost (P : Parsers Cert Roots Time) (g : PGolden) (path : String) : Nat :=
  match P.pathValue g path (path == "timestamp") with
  | some (.bytes n) => n + 37
  | some (.map entries _) => entries
  | _ => 0

theorem runs_maskPaths (P : Parsers Cert Roots Time) (g : PGolden) (form : BytesForm) (terminal : Bool)
    (paths : List String) (i : Nat) (acc : Option Nat) :
    Runs H (maskPaths P g form terminal i paths acc) ((paths.map (fun p => 1 + renderCost P g p)).sum) := by
  induction paths generalizing i acc with
  | nil => exact runs_pure _
  | cons p rest ih =>
    simp only [maskPaths, bind_def, List.map_cons, List.sum_cons]
    refine (runs_tick_bind (n := renderCost P g p + (rest.map (fun p => 1 + renderCost P g p)).sum) ?_).mono
      (by omega)
    unfold renderCost
    cases hv : P.pathValue g p (p == "timestamp") with
    | none => exact runs_fail _
    | some v =>
      simp only []
      refine runs_bind ?_ fun _ _ => ih _ _
      have := runs_renderValue (H := H) v form terminal
      cases v <;> simpa using this

theorem C07_dec_no_panic_maskPaths (P : Parsers Cert Roots Time) (g : PGolden) (form : BytesForm) (terminal : Bool)
    (paths : List String) (i : Nat) (acc : Option Nat) : NoPanic (maskPaths P g form terminal i paths acc) :=
  (runs_maskPaths P g form terminal paths i acc).noPanic

/-- MaskOptions.Mask: one iteration per path of the (relying party's own) mask plus the rendering of each value:
    linear in the bytes written -/
theorem C07_dec_cost_bound_maskPaths (P : Parsers Cert Roots Time) (g : PGolden) (form : BytesForm) (terminal : Bool)
    (paths : List String) (i : Nat) (acc : Option Nat) :
    CostLe (maskPaths P g form terminal i paths acc) ((paths.map (fun p => 1 + renderCost P g p)).sum) :=
  (runs_maskPaths P g form terminal paths i acc).cost

theorem runs_inspectMask (P : Parsers Cert Roots Time) (i : Inspect) (e : PEndorsement) (paths : List String) :
    Runs H (inspectMask P (some (some i)) (some e) paths)
      (((P.unmarshalGolden e.payload).map (fun g => (paths.map (fun p => 1 + renderCost P g p)).sum)).getD 0) := by
  simp only [inspectMask, inspectFrom, bind_def, deref, pure_bind]
  split
  · exact runs_fail _
  · rename_i g hg
    simp only [hg, Option.map_some, Option.getD_some]
    exact runs_maskPaths P g _ _ paths 0 _

/-- InspectMask / MaskOptions.Mask: any golden measurement the decoder yields, any value kinds the path walk yields -/
theorem C07_dec_no_panic_InspectMask (P : Parsers Cert Roots Time) (i : Inspect) (e : PEndorsement)
    (paths : List String) : NoPanic (inspectMask P (some (some i)) (some e) paths) :=
  (runs_inspectMask P i e paths).noPanic

/-- InspectMask: linear in the number of paths of the mask and the size of the values rendered -/
theorem C07_dec_cost_bound_InspectMask (P : Parsers Cert Roots Time) (i : Inspect) (e : PEndorsement) (paths : List String) :
    CostLe (inspectMask P (some (some i)) (some e) paths)
      (((P.unmarshalGolden e.payload).map (fun g => (paths.map (fun p => 1 + renderCost P g p)).sum)).getD 0) :=
  (runs_inspectMask P i e paths).cost

/-! ## the tree as it was: timeproto.From(nil) -/

/-- parsers that accept everything as the empty message -/
def emptyParsers : Parsers Unit Unit Unit :=
  { unmarshalEndorsement := fun _ => some ⟨[], []⟩
    unmarshalGolden := fun _ => some PGolden.empty
    parseCert := fun _ => none
    verifyChain := fun _ _ _ => false
    checkSig := fun _ _ _ => false
    pemDecode := fun b => (none, b)
    unmarshalTpm := fun _ => none
    unmarshalSevAtt := fun _ => none
    unmarshalReport := fun _ => none
    unmarshalQuoteV4 := fun _ => none
    hexDecode := fun _ => none
    base64Decode := fun _ => none
    certTableHeader := fun _ => none
    reportCertsToProto := fun _ => none
    certTableProto := fun _ => none
    certTableGet := fun _ => none
    quoteToProto := fun _ => .panic "go-tdx-guest"
    defaultPolicyBits := 458752
    sevPolicyToOptions := fun _ => true
    snpBaseChecks := fun _ _ => true
    tdxPolicyToOptions := fun _ => true
    tdxQuoteChecks := fun _ _ => true
    pathValue := fun _ _ _ => none }

def someOptions : Options Unit Unit :=
  { snp := none, roots := some (), expectedUefiSha384 := [], now := (), endorsement := none, getter := none }

/-- D3: on the tree as it was, the EMPTY byte string (the empty endorsement: no timestamp) makes
    verify.Endorsement panic in timeproto.From, before the certificate or the signature is looked at. -/
theorem C07_finding_timestamp_nil :
    (endorsementWith true emptyParsers [] (some someOptions)).out = .panic "timeproto.From#1:deref" := by
  decide +kernel

/-- … and so the old tree does not have the property. -/
theorem C07_finding_timestamp_nil_refutes :
    ¬ (∀ (P : Parsers Unit Unit Unit) (ser : Bytes) (o : Options Unit Unit), NoPanic (endorsementWith true P ser (some o))) := by
  intro h
  exact h emptyParsers [] someOptions _ C07_finding_timestamp_nil

/-! ## non-vacuity: concrete parse results that reach the deepest branch of each entry point, and the
      checked operations firing on what the statements above exclude -/

def m48 : Bytes := List.replicate 48 7
def deepGolden : PGolden :=
  { timestamp := some ⟨1725148800, 0⟩, clSpec := 1234, commit := [], cert := [1], digest := [9],
    sevSnp := some ⟨458752, 2, some [(2, [3]), (1, m48)], [], [0xCA]⟩,
    tdx := some ⟨[none, some ⟨4, m48⟩, some ⟨8, m48⟩]⟩ }

/-- parsers under which a genuine-looking endorsement, attestation, certificate table and PEM bundle parse -/
def deepParsers : Parsers Unit Unit Unit :=
  { emptyParsers with
    unmarshalEndorsement := fun b => if b == [0xE0] then some ⟨[0xA0], [0x51]⟩ else none
    unmarshalGolden := fun b => if b == [0xA0] then some deepGolden else none
    parseCert := fun _ => some ()
    verifyChain := fun _ _ _ => true
    checkSig := fun _ _ _ => true
    pemDecode := fun b => if b == [0xCA] then (some ⟨true, [1, 2]⟩, [0xCB]) else if b == [0xCB] then (some ⟨true, [3]⟩, []) else (none, b)
    hexDecode := fun b => if b == [0x48] then some (List.replicate 1190 0) else none
    certTableHeader := fun t => if t.length == 6 then some [(2, 4)] else if t.length == 1190 then some [] else none
    reportCertsToProto := fun q => if q.length == 1190 then some ⟨some ⟨m48⟩, some ⟨some [(gceFwCertGUID, [0xE0])]⟩⟩ else none
    certTableGet := fun _ => some (some [0xE0])
    pathValue := fun _ p _ => if p == "digest" then some (.bytes 48) else if p == "timestamp" then some (.ts 20)
      else if p == "sev_snp.measurements" then some (.map 2 100) else none }

def deepOptions : Options Unit Unit :=
  { snp := some ⟨some m48, 1⟩, roots := some (), expectedUefiSha384 := [9], now := (), endorsement := none, getter := none }

-- verify.Endorsement accepts: provenance, certificate, signature, digest and the per-VMSA measurement all pass
example : (endorsement deepParsers [0xE0] (some deepOptions)).out = .ok () := by decide +kernel
-- … and the any-measurement loop is reached and ticks once per entry it visits
example : (endorsement deepParsers [0xE0] (some { deepOptions with snp := some ⟨some m48, 0⟩ })).tr.ticks = 2 := by decide +kernel
-- the closure: full-length measurement, nil blob, the getter serves the endorsement, one GET for that measurement
example : (snpClosure deepParsers (some { deepOptions with getter := some (fun _ => some [0xE0]) })
    (some ⟨some ⟨m48⟩, none⟩) none).tr.gets = [⟨"sev", m48⟩] := by decide +kernel
-- extract.Attestation reaches the raw report + certificate table form through the hex attempt
set_option maxRecDepth 8000 in
example : (attestation deepParsers [0x48]).out = .ok (.sev (some ⟨some ⟨m48⟩, some ⟨some [(gceFwCertGUID, [0xE0])]⟩⟩)) := by decide +kernel
-- extract.Endorsement returns the certificate-table entry without any GET
set_option maxRecDepth 8000 in
example : (extractEndorsement deepParsers (some ⟨none, none, [0x48], false⟩)).out = .ok [0xE0] := by decide +kernel
-- FromCertTable: header entry (2, 4) of a 6-byte table passes the range check
example : (fromCertTable deepParsers [1, 2, 3, 4, 5, 6]).out = .ok [0xE0] := by decide +kernel
-- … and an entry whose range wraps around 2^32 in uint32 arithmetic is refused (4294967280 + 32 ≡ 16 mod 2^32)
example : (checkRanges 112 0 [(4294967280, 32)]).out = .err "range" := by decide +kernel
example : (checkRanges 112 0 [(48, 64), (48, 64)]).out = .err "overlap" := by decide +kernel
-- SevPolicy with both PEM blocks: measurement for one VMSA, one identity key and one author key appended
example : (sevPolicy deepParsers (some ⟨[0xA0], []⟩) (some ⟨none, 1, false, false⟩)).out
    = .ok ⟨458752, 0, some m48, [[1, 2]], [[3]]⟩ := by decide +kernel
-- TdxPolicy: a nil row is read through getters, the 4 GiB row is selected by uint32(2^32 + 4)
example : (tdxPolicy deepParsers (some ⟨[0xA0], []⟩) (some ⟨none, 4294967300, false⟩)).out = .ok ⟨some (some [m48])⟩ := by decide +kernel
-- SevValidate end to end (certificate-table entry, policy, validators, closure)
example : (sevValidate deepParsers (some ⟨some ⟨m48⟩, some ⟨some [(gceFwCertGUID, [0xE0])]⟩⟩)
    (some ⟨none, none, false, some (), (), none, 1, false⟩)).out = .ok () := by decide +kernel
-- InspectMask over three paths: 48 raw bytes, newline, 20, newline, 2 map entries (100 + 1 separator)
example : (inspectMask deepParsers (some (some ⟨.raw, false⟩)) (some ⟨[0xA0], []⟩)
    ["digest", "timestamp", "sev_snp.measurements"]).out = .ok (some (48 + 1 + 20 + 1 + 101)) := by decide +kernel

-- what the statements exclude does panic in the model (the checked operations are live):
example : (endorsementProto deepParsers none (some deepOptions)).out = .panic "verify.EndorsementProto#1:deref" := by decide +kernel
example : (endorsement deepParsers [0xE0] none).out = .panic "verify.EndorsementProto#2:deref" := by decide +kernel
example : (sevPolicy deepParsers (some ⟨[0xA0], []⟩) none).out = .panic "gcetcbendorsement.SevPolicy#1:deref" := by decide +kernel
example : (inspectPayload (some (some ⟨.raw, false⟩)) none).out = .panic "gcetcbendorsement.InspectPayload#1:deref" := by decide +kernel
example : (inspectSignature (some none) none).out = .panic "gcetcbendorsement.inspectFrom#1:deref" := by decide +kernel
example : checkedNames.length = 29 := by decide +kernel

/-- The model accounts for exactly the panic-capable expressions the current source contains: a new
    unchecked index / slice / dereference / assertion / conversion in any function in scope changes the
    regenerated inventory and breaks this obligation before any input is found. -/
theorem C07_dec_sites : modelledSites.map Site.key = Gen.PanicSitesDec.sites := by rfl

/-- every `again n` refers to an earlier site of the same function that is itself accounted for -/
theorem C07_dec_sites_again_wellformed :
    modelledSites.all (fun s => match s.how with
      | .again n => modelledSites.any (fun t => t.fn == s.fn && t.ord == n && n < s.ord && t.how != .again n)
      | _ => true) = true := by
  -- evaluated with the comparison of the function names last: the numbers decide nearly every pair
  have rotate : ∀ a b c d : Bool, (a && b && c && d) = (b && (c && (d && a))) := by decide
  simp only [rotate]
  decide +kernel

end GceTcb.C07Dec
