import GceTcb.Proofs.PathAccess
/-
C19 — Field-path inspection returns exactly the addressed value.
Property theorems only (helper lemmas live in Proofs/PathScan.lean, Proofs/PathParse.lean and
Proofs/PathAccess.lean).

The theorems are about the repaired tree (two `fix:` commits: the descriptor cursor of
access.go PathValues advances past a map index; parse.go accessIdent refuses a field access applied
directly to a repeated field).  The behaviour of the original tree is kept in the model under
`Variant.orig`, and the two `C19_old_*` theorems are witnesses that the original code violates the
property.

`Schema.wf` states what protobuf guarantees of real descriptors (field numbers unique within a
message, every field knows its containing message, map keys are scalars); the harness sends the real
descriptors and the driver evaluates `Schema.wf` on them on every run.  `Typed sch (.msg root) v`
says that `v` is a message of type `root`; the driver evaluates the sound checker `typedB` on every
generated message.
-/
namespace GceTcb.Path
open GceTcb

/-- Every non-eof token the scanner returns advances the position and stays inside the input. -/
theorem C19_scan_progress (buf : Str) (pos : Nat) (tok : Token) (pos' : Nat)
    (h : scan buf pos = .ok (tok, pos')) (hne : tok.kind ≠ .eof) : pos < pos' ∧ pos' ≤ buf.length := by
  obtain ⟨t, p', hs, hcase⟩ := scan_total buf pos
  cases hs.symm.trans h
  exact (hcase.resolve_left fun he => hne he.1).2

/-- An eof token is returned exactly at the end of the input and does not move the position. -/
theorem C19_scan_eof (buf : Str) (pos : Nat) (tok : Token) (pos' : Nat)
    (h : scan buf pos = .ok (tok, pos')) (he : tok.kind = .eof) : pos' = pos ∧ buf.length ≤ pos := by
  obtain ⟨t, p', hs, hcase⟩ := scan_total buf pos
  cases hs.symm.trans h
  exact (hcase.resolve_right fun hn => hn.1 he).2

/-- The scanner never panics (no index or slice out of range, the string loop's fuel suffices) and
    never fails: from every position of every byte string it returns a token. -/
theorem C19_no_panic_scan (buf : Str) (pos : Nat) : ∃ tok pos', scan buf pos = .ok (tok, pos') := by
  obtain ⟨t, p', hs, _⟩ := scan_total buf pos
  exact ⟨t, p', hs⟩

/-- Parsing never panics, for every schema, root and path string — in particular the fuel
    `length + 1` of the parse loop is never exhausted (justified by `C19_scan_progress`), so
    `parsePath` is the terminating Go loop.  Holds for the original and the repaired parser. -/
theorem C19_no_panic_parse (V : Variant) (sch : Schema) (root s : Str) :
    (parsePathV V sch root s).isPanic = false :=
  (parsePathV_sat V sch root s).isPanic

/-- Main theorem: a successfully parsed path evaluates, on every well-typed message of the root
    type, to exactly what the descriptor-free field-by-field walk yields — the same values along the
    path (the addressed value last), or the same error (list index out of range, map key absent). -/
theorem C19_parse_eval (sch : Schema) (hwf : sch.wf = true) (root s : Str) (p : List Step)
    (h : parsePath sch root s = .ok p) (v : Value) (hv : Typed sch (.msg root) v) :
    pathValues sch p v = walk p v := by
  obtain ⟨md, steps, d, hl, hp, hok⟩ := (parsePathV_sat .fixed sch root s).of_ok h rfl
  obtain ⟨fs, hvm, _⟩ := typed_msg_inv hv
  subst hvm hp
  have hname := (lookupMsg_some hl).1
  unfold pathValues pathValuesV walk
  simp only [hl]
  unfold evalFrom walkFrom
  simp only [evalStep, Desc.fullName, hname, walkStep, ne_eq, not_true_eq_false, if_false]
  exact evalFrom_eq_walkFrom hwf hok 1 _ _ (by simpa [DescTyped, hname] using hv)

/-- Evaluation of a parsed path on a well-typed message never panics (no `Value.Message/List/Map`
    on a value of another shape, no `Message.Get` with a foreign descriptor, no `List.Get` out of
    range, no `Map.Get` with a key of the wrong Go type). -/
theorem C19_no_panic_eval (sch : Schema) (hwf : sch.wf = true) (root s : Str) (p : List Step)
    (h : parsePath sch root s = .ok p) (v : Value) (hv : Typed sch (.msg root) v) :
    (pathValues sch p v).isPanic = false := by
  rw [C19_parse_eval sch hwf root s p h v hv]
  exact walkFrom_not_panic _ _ _

/-- The same two statements with the decidable hypothesis the driver evaluates on every generated
    message. -/
theorem C19_parse_eval_checked (sch : Schema) (hwf : sch.wf = true) (root s : Str) (p : List Step)
    (h : parsePath sch root s = .ok p) (v : Value) (hv : typedB sch root v = true) :
    pathValues sch p v = walk p v ∧ (pathValues sch p v).isPanic = false :=
  ⟨C19_parse_eval sch hwf root s p h v (typedB_sound hv),
   C19_no_panic_eval sch hwf root s p h v (typedB_sound hv)⟩

/-- Raw ("bin") form, and the automatic form on a non-terminal writer, write exactly the bytes. -/
theorem C19_raw_bytes (b : Str) (term : Bool) :
    writeBytesForm b .raw term = b ∧ writeBytesForm b .auto false = b := ⟨rfl, rfl⟩

/-- Mask with one path that addresses a `bytes` field writes exactly that field's bytes in raw form
    (and in automatic form when the writer is not a terminal). -/
theorem C19_raw_bytes_mask (sch : Schema) (root : Str) (src : Value) (ps : Str) (path : List Step)
    (vs : List Value) (s : Scalar) (term : Bool)
    (hp : parsePath sch root ps = .ok path) (he : pathValues sch path src = .ok vs)
    (hl : vs.getLast? = some (.scalar s)) (hb : s.cls = .bytes) :
    maskPaths sch root src .raw term [ps] 0 (some []) = .ok (some s.str) ∧
    maskPaths sch root src .auto false [ps] 0 (some []) = .ok (some s.str) := by
  have one : ∀ form t, writeBytesForm s.str form t = s.str →
      maskPaths sch root src form t [ps] 0 (some []) = .ok (some s.str) := by
    intro form t hw
    rw [maskPaths, hp, Outcome.bind_ok, he, Outcome.bind_ok]
    simp only [hl, marshalValue, hb, hw]
    rfl
  exact ⟨one _ _ rfl, one _ _ rfl⟩

namespace Ex

def T : Str := asc "t.Test"
def N : Str := asc "t.Test.Nested"

def fld (parent : Str) (n : Nat) (name : String) (c : Card) (k : Kind) (ref : Str) : Field :=
  { number := n, name := asc name, card := c, kind := k, ref := ref, parent := parent }

/-- the shape of the repository's test message: nested messages, lists, a map for every key kind
    the parser can cast, plus a `sint32`-keyed map and a map with scalar values -/
def sch : Schema := [
  { name := T, fields := [
      fld T 1 "nested" .single .message N,
      fld T 2 "repeats" .list .message T,
      fld T 3 "int32repeats" .list .int32 [],
      fld T 4 "strkeymap" (.map .string) .message N,
      fld T 5 "boolkeymap" (.map .bool) .message T,
      fld T 6 "int32keymap" (.map .int32) .message T,
      fld T 7 "int64keymap" (.map .int64) .message T,
      fld T 8 "uint32keymap" (.map .uint32) .message T,
      fld T 9 "uint64keymap" (.map .uint64) .message T,
      fld T 10 "sintkeymap" (.map .sint32) .bytes [],
      fld T 11 "blobs" (.map .uint32) .bytes [] ] },
  { name := N, fields := [
      fld N 1 "intfield" .single .int32 [],
      fld N 2 "stringfield" .single .string [],
      fld N 3 "bytesfield" .single .bytes [],
      fld N 4 "nested" .single .message T ] } ]

def i32 (n : Int) : Value := .scalar ⟨.i32, n, []⟩

def inner : Value := .msg T [(3, .list [i32 7, i32 8]), (1, .msg N [(1, i32 5), (3, .scalar ⟨.bytes, 0, [1, 2, 255]⟩)])]

def v : Value := .msg T [
  (1, .msg N [(2, .scalar ⟨.str, 0, asc "hi"⟩), (4, inner)]),
  (2, .list [inner, .msg T []]),
  (4, .map .str [(⟨.str, 0, [107, 34, 195, 169]⟩, .msg N [(1, i32 9)])]),
  (5, .map .bool [(⟨.bool, 1, []⟩, inner)]),
  (6, .map .i32 [(⟨.i32, -4, []⟩, inner)]),
  (7, .map .i64 [(⟨.i64, -9223372036854775808, []⟩, inner)]),
  (8, .map .u32 [(⟨.u32, 4294967295, []⟩, inner)]),
  (9, .map .u64 [(⟨.u64, 18446744073709551615, []⟩, inner)]),
  (11, .map .u32 [(⟨.u32, 2, []⟩, .scalar ⟨.bytes, 0, [222, 173]⟩)]) ]

def get (path : String) : Outcome (Option Value) :=
  (parsePath sch T (asc path)).bind (fun p => (pathValues sch p v).bind (fun vs => .ok vs.getLast?))

/-- `sch`, `v` and `get` with every name as its list of bytes (`asc_ofList`), `get` as a function of the path's
    characters: what is left for the witnesses and examples to evaluate is the scanner, the parser and the
    evaluator. -/
def schD : { s : Schema // sch = s } :=
  ⟨_, by
    unfold sch fld T N
    repeat rewrite [asc_ofList]
    exact rfl⟩

def vD : { w : Value // v = w } :=
  ⟨_, by
    unfold v inner T N
    repeat rewrite [asc_ofList]
    exact rfl⟩

def getD : { f : List Char → Outcome (Option Value) // ∀ l, get (String.ofList l) = f l } :=
  ⟨_, fun l => by
    unfold get
    rewrite [schD.2, vD.2, asc_ofList, T, asc_ofList]
    exact rfl⟩

end Ex

/-- Witness (D12): on the ORIGINAL evaluator the descriptor cursor is not advanced past a map index;
    for a well-formed schema, a parsed path and a well-typed message, evaluation differs from the
    walk: `int32keymap[-4].int32repeats` fails with "missing-field" although the field is there. -/
theorem C19_old_cursor_breaks :
    ∃ (sch : Schema) (root s : Str) (p : List Step) (v : Value),
      sch.wf = true ∧ parsePathV .orig sch root s = .ok p ∧ Typed sch (.msg root) v ∧
      pathValuesV .orig sch p v = .err "missing-field" ∧
      walk p v = .ok [v, .map .i32 [(⟨.i32, -4, []⟩, Ex.inner)], Ex.inner, .list [Ex.i32 7, Ex.i32 8]] ∧
      pathValuesV .orig sch p v ≠ walk p v := by
  have he : pathValuesV .orig Ex.sch
      [.root Ex.T, .field (Ex.fld Ex.T 6 "int32keymap" (.map .int32) .message Ex.T), .mapIndex ⟨.i32, -4, []⟩,
       .field (Ex.fld Ex.T 3 "int32repeats" .list .int32 [])] Ex.v = .err "missing-field" :=
    eq_err_of_test (by rw [Ex.schD.2, Ex.vD.2]; decide +kernel)
  refine ⟨Ex.sch, Ex.T, asc "int32keymap[-4].int32repeats", _, Ex.v, by rw [Ex.schD.2]; decide +kernel, ?_,
    typedB_sound (by rw [Ex.schD.2, Ex.vD.2]; decide +kernel), he, rfl, by rw [he]; nofun⟩
  rw [Ex.schD.2]; unfold Ex.fld Ex.T; repeat rewrite [asc_ofList]
  decide +kernel

/-- Witness (second defect): the ORIGINAL parser accepts a field access
    applied directly to a repeated message field (`repeats.nested`), and evaluating the parsed path on
    a well-typed message panics in `Value.Message` — with the real endorsement type the path
    `tdx.measurements.ram_gib` crashes `inspect mask`. -/
theorem C19_old_list_field_panics :
    ∃ (sch : Schema) (root s : Str) (p : List Step) (v : Value),
      sch.wf = true ∧ parsePathV .orig sch root s = .ok p ∧ Typed sch (.msg root) v ∧
      pathValuesV .orig sch p v = .panic "value.message" := by
  refine ⟨Ex.sch, Ex.T, asc "repeats.nested",
    [.root Ex.T, .field (Ex.fld Ex.T 2 "repeats" .list .message Ex.T),
     .field (Ex.fld Ex.T 1 "nested" .single .message Ex.N)], Ex.v, by rw [Ex.schD.2]; decide +kernel, ?_,
    typedB_sound (by rw [Ex.schD.2, Ex.vD.2]; decide +kernel), rfl⟩
  rw [Ex.schD.2]; unfold Ex.fld Ex.T Ex.N; repeat rewrite [asc_ofList]
  decide +kernel

/-- the hypotheses of `C19_parse_eval` are met by the example schema and message -/
example : Ex.sch.wf = true ∧ Typed Ex.sch (.msg Ex.T) Ex.v := by
  rw [Ex.schD.2, Ex.vD.2]; exact ⟨by decide +kernel, typedB_sound (by decide +kernel)⟩

/-- a path through nested messages (explicit root), ending in a bytes field -/
example : Ex.get "(t.Test).nested.nested.nested.bytesfield" = .ok (some (.scalar ⟨.bytes, 0, [1, 2, 255]⟩)) := by
  rw [Ex.getD.2]; exact eq_scalar_of_test (by decide +kernel)
/-- a list index, then a list of scalars (hex index) -/
example : Ex.get "repeats[0].int32repeats[0x1]" = .ok (some (Ex.i32 8)) := by
  rw [Ex.getD.2]; exact eq_scalar_of_test (by decide +kernel)
/-- an unpopulated field of an empty list element yields the default -/
example : Ex.get "repeats[1].nested.intfield" = .ok (some (Ex.i32 0)) := by
  rw [Ex.getD.2]; exact eq_scalar_of_test (by decide +kernel)
/-- list index out of range: an error, the same the walk reports -/
example : Ex.get "repeats[2]" = .err "range" := by rw [Ex.getD.2]; exact eq_err_of_test (by decide +kernel)
/-- map keys of every castable key kind (the string key is `k"é` in UTF-8, written with escapes);
    fields other than 1 and 2 of the map value are reachable -/
example : Ex.get "strkeymap[\"k\\\"\\u00e9\"].intfield" = .ok (some (Ex.i32 9)) := by
  rw [Ex.getD.2]; exact eq_scalar_of_test (by decide +kernel)
example : Ex.get "boolkeymap[true].int32repeats[0]" = .ok (some (Ex.i32 7)) := by
  rw [Ex.getD.2]; exact eq_scalar_of_test (by decide +kernel)
example : Ex.get "int32keymap[-4].int32repeats[1]" = .ok (some (Ex.i32 8)) := by
  rw [Ex.getD.2]; exact eq_scalar_of_test (by decide +kernel)
example : Ex.get "int64keymap[-0x8000000000000000].nested.intfield" = .ok (some (Ex.i32 5)) := by
  rw [Ex.getD.2]; exact eq_scalar_of_test (by decide +kernel)
example : Ex.get "uint32keymap[037777777777].int32repeats" = .ok (some (.list [Ex.i32 7, Ex.i32 8])) := by
  rw [Ex.getD.2]; rfl
example : Ex.get "uint64keymap[18446744073709551615].nested.bytesfield" =
    .ok (some (.scalar ⟨.bytes, 0, [1, 2, 255]⟩)) := by
  rw [Ex.getD.2]; exact eq_scalar_of_test (by decide +kernel)
example : Ex.get "blobs[2]" = .ok (some (.scalar ⟨.bytes, 0, [222, 173]⟩)) := by
  rw [Ex.getD.2]; exact eq_scalar_of_test (by decide +kernel)
/-- absent key: error; out-of-range key literal, wrong key type, unsupported key kind: parse errors -/
example : Ex.get "int32keymap[5]" = .err "key" := by rw [Ex.getD.2]; exact eq_err_of_test (by decide +kernel)
example : Ex.get "int32keymap[0x80000000]" = .err "key-kind" := by
  rw [Ex.getD.2]; exact eq_err_of_test (by decide +kernel)
example : Ex.get "uint32keymap[-1]" = .err "key-kind" := by
  rw [Ex.getD.2]; exact eq_err_of_test (by decide +kernel)
example : Ex.get "boolkeymap[1]" = .err "key-kind" := by
  rw [Ex.getD.2]; exact eq_err_of_test (by decide +kernel)
example : Ex.get "sintkeymap[1]" = .err "key-kind" := by
  rw [Ex.getD.2]; exact eq_err_of_test (by decide +kernel)
/-- the repaired parser refuses what made the original evaluator panic -/
example : Ex.get "repeats.nested" = .err "list-field" := by
  rw [Ex.getD.2]; exact eq_err_of_test (by decide +kernel)
/-- scanner progress on a string literal with escapes, and on an illegal byte -/
example : scan (asc "'a\\x41\\101'.x") 0 = .ok (⟨.strlit, 0, asc "aAA"⟩, 11) := by
  rw [asc_ofList, asc_ofList]; decide +kernel
example : scan (asc "nested nested") 6 = .ok (⟨.illegal, 6, []⟩, 7) := by rw [asc_ofList]; decide +kernel
/-- raw bytes through Mask -/
example : maskPaths Ex.sch Ex.T Ex.v .raw true [asc "blobs[2]"] 0 (some []) = .ok (some [222, 173]) := by
  rw [asc_ofList, Ex.schD.2, Ex.vD.2]; decide +kernel

end GceTcb.Path
