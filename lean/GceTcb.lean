import GceTcb.Base.Line
import GceTcb.Base.Codec
import GceTcb.Base.Outcome
import GceTcb.Base.Sha384
import GceTcb.Props.C13
import GceTcb.Model.GuidTable
import GceTcb.Model.SevMeta
import GceTcb.Model.SevLd
import GceTcb.Model.SevCfg
import GceTcb.Model.SevSites
import GceTcb.Spec.SnpLaunch
import GceTcb.Props.C04
import GceTcb.Props.C08Sev
import GceTcb.Proofs.Crc32c
import GceTcb.Model.EventLogCost
import GceTcb.Model.DecTotal
import GceTcb.Props.C07Evl
import GceTcb.Props.C07Dec
import GceTcb.Model.Intervals
import GceTcb.Model.Mrtd
import GceTcb.Model.TdxHob
import GceTcb.Model.TdxMeta
import GceTcb.Props.C05
import GceTcb.Props.C08Tdx
import GceTcb.Proofs.TdxExample
import GceTcb.Model.EventLogSites
import GceTcb.Model.ProtoWire
import GceTcb.Model.ProtoEndorse
import GceTcb.Props.C03Proto
import GceTcb.Props.C03Tools
import GceTcb.Props.C01Wire
import GceTcb.Props.C07Wire
import GceTcb.Props.C16Fs
import GceTcb.Props.C16Wire
import GceTcb.Props.C06Cli
import GceTcb.Props.C15Cli
import GceTcb.Props.C01Cli
import GceTcb.Props.C02Cli
import GceTcb.Props.C17Cli
import GceTcb.Props.C12Cli
import GceTcb.Props.CliArgv
import GceTcb.Props.C18Recv
import GceTcb.Props.C09
import GceTcb.Props.C10
import GceTcb.Props.C11
import GceTcb.Props.C14
import GceTcb.Props.C16
import GceTcb.Props.C18
import GceTcb.Props.C19
import GceTcb.Props.C20
